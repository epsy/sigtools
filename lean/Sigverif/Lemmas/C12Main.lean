/-
  Lemmas/C12Main.lean — instantiating the comparison for `prepare`'s output.
-/
import Sigverif.Lemmas.C12Call
namespace SV

theorem mem_pokSpec (F : List Param) (P W : List Nat) (q : Param) :
    q ∈ pokSpec F P W ↔
      (∃ p ∈ F, (p.kind = .po ∨ p.kind = .pk) ∧ p.name ∉ W ∧ markPo P p = q) ∨
      (q ∈ F ∧ q.kind = .vp) ∨ (q ∈ F ∧ q.kind = .ko) ∨
      (∃ p ∈ F, p.kind = .pk ∧ p.name ∈ W ∧ p.withKind .ko = q) ∨ (q ∈ F ∧ q.kind = .vk) := by
  simp only [markPo, pokSpec, List.mem_append, List.mem_map, List.mem_filter, Bool.and_eq_true,
    Bool.or_eq_true, decide_eq_true_eq, Bool.not_eq_true', List.contains_eq_mem,
    decide_eq_false_iff_not, or_assoc, and_assoc]

theorem admissible_no_ko_P {F : List Param} {P W : List Nat} (hn : NamesDistinct F)
    (h : admissible F P W) : ∀ p ∈ F, p.kind = .ko → p.name ∉ P := by
  intro p hp hk hP
  have := ((hn.exists_named_iff P _).1 h.2.1).2 p hp hP
  rw [hk] at this
  rcases this with h | h <;> cases h

theorem positionals_filter_W (F : List Param) (P W : List Nat) (hn : NamesDistinct F)
    (h : admissible F P W) :
    (positionals F).filter (fun p => !W.contains p.name) =
      (positionals F).filter (fun p => !isKwo P W p) := by
  apply List.filter_congr
  intro p hp
  obtain ⟨hp1, hp2⟩ := List.mem_filter.1 hp
  rw [isKwo_eq h.1]
  by_cases hk : p.kind = .po
  · simp [hk, admissible_no_po_W hn h p hp1 hk]
  · simp only [isPositional, hk, decide_false, Bool.false_or, decide_eq_true_eq] at hp2
    simp [hp2]

theorem posNamed_map_markPo (P : List Nat) (l : List Param) (args : List Nat) :
    posNamed (l.map (markPo P)) args = posNamed l args := by
  unfold posNamed
  rw [List.map_map]
  congr 1
  apply List.map_congr_left
  intro p _
  exact markPo_name P p

variable {S : Sorted} {P W : List Nat}

theorem kwNames_pokRec (hd : ∀ x ∈ P, x ∉ W) (hko : ∀ p ∈ S.kwo, p.name ∉ P) (x : Nat) :
    x ∈ names (pokRec S P W).pok ++ names (pokRec S P W).kwo ↔ x ∈ names S.pok ++ names S.kwo ∧ x ∉ P := by
  simp only [pokRec, names_append, names_map_withKind, List.mem_append, mem_names, List.mem_filter,
    Bool.not_eq_true', List.contains_eq_mem, decide_eq_false_iff_not, decide_eq_true_eq]
  constructor
  · rintro (⟨p, ⟨⟨hp, -⟩, hP⟩, rfl⟩ | ⟨p, hp, rfl⟩ | ⟨p, ⟨hp, hw⟩, rfl⟩)
    · exact ⟨.inl ⟨p, hp, rfl⟩, hP⟩
    · exact ⟨.inr ⟨p, hp, rfl⟩, hko p hp⟩
    · exact ⟨.inl ⟨p, hp, rfl⟩, fun hP => hd _ hP hw⟩
  · rintro ⟨⟨p, hp, rfl⟩ | ⟨p, hp, rfl⟩, hP⟩
    · by_cases hw : p.name ∈ W
      · exact .inr (.inr ⟨p, ⟨hp, hw⟩, rfl⟩)
      · exact .inl ⟨p, ⟨⟨hp, hw⟩, hP⟩, rfl⟩
    · exact .inr (.inl ⟨p, hp, rfl⟩)

theorem named_pokRec (bk : BucketKinds S)
    (hpw : S.pok.Pairwise (fun p q => isKept P W p = true → isPpk P q = false))
    (hpo : ∀ p ∈ S.pos, p.name ∉ W) (Q : Nat → Option Nat → Prop) :
    (∃ p ∈ (pokRec S P W).pos ++ (pokRec S P W).pok ++ (pokRec S P W).kwo, Q p.name p.dflt) ↔
      ∃ p ∈ S.pos ++ S.pok ++ S.kwo, Q p.name p.dflt := by
  rw [pokRec_pp bk P W hpw]
  simp only [pokRec, List.mem_append, List.mem_map, List.mem_filter, Bool.not_eq_true', List.contains_eq_mem,
    decide_eq_false_iff_not, decide_eq_true_eq]
  constructor
  · rintro ⟨q, (⟨p, ⟨hp, -⟩, rfl⟩ | hq | ⟨p, ⟨hp, -⟩, rfl⟩), hQ⟩
    · exact ⟨p, .inl hp, by rwa [markPo_name, markPo_dflt] at hQ⟩
    · exact ⟨q, .inr hq, hQ⟩
    · exact ⟨p, .inl (.inr hp), hQ⟩
  · rintro ⟨p, (hp | hp) | hp, hQ⟩
    · exact ⟨_, .inl ⟨p, ⟨.inl hp, hpo p hp⟩, rfl⟩, by rwa [markPo_name, markPo_dflt]⟩
    · by_cases hw : p.name ∈ W
      · exact ⟨_, .inr (.inr ⟨p, ⟨hp, hw⟩, rfl⟩), hQ⟩
      · exact ⟨_, .inl ⟨p, ⟨.inr hp, hw⟩, rfl⟩, by rwa [markPo_name, markPo_dflt]⟩
    · exact ⟨p, .inr (.inl hp), hQ⟩

theorem exists_isNamed_iff (l : List Param) (Q : Param → Prop) :
    (∃ p ∈ l, isNamed p = true ∧ Q p) ↔ ∃ p ∈ l.filter isNamed, Q p := by
  simp only [List.mem_filter, and_assoc]

theorem callRel_pokSpec (F : List Param) (P W : List Nat) (hwf : WF F) (h : admissible F P W) :
    CallRel F (pokSpec F P W) P (isKwo P W) := by
  obtain ⟨-, hn, -⟩ := validOk_iff_C12.1 hwf.1
  have hpw := (((admissible_iff_pairwise F P W).1 h).2.2.2).filter (fun p => p.kind = .pk)
  obtain ⟨S, hS, rfl⟩ := hwf.exists_swf
  rw [filter_pk_all hS.bk] at hpw
  have hR := pokRec_swf hS P W hpw
  have hkw := kwNames_pokRec h.1 fun p hp => admissible_no_ko_P hn h p (mem_all_kwo hp) (hS.bk.kwo p hp)
  rw [pokSpec_eq_all hS.bk P W hpw]
  refine ⟨hn, nodup_names_iff.1 hR.nd, ?_, ?_, ?_, fun x d => ?_, fun args => ?_, ?_, fun f hf hw => ?_⟩
  · rw [hasVa_all hR.bk, hasVa_all hS.bk]; rfl
  · rw [hasVk_all hR.bk, hasVk_all hS.bk]; rfl
  · rw [kwNames_all hR.bk, kwNames_all hS.bk]; exact hkw
  · rw [exists_isNamed_iff, exists_isNamed_iff, filter_isNamed_all hR.bk, filter_isNamed_all hS.bk]
    exact named_pokRec hS.bk hpw (fun p hp => admissible_no_po_W hn h p (mem_all_pos hp) (hS.bk.pos p hp))
      (fun a b => a = x ∧ b = d)
  · rw [positionals_all hR.bk, pokRec_pp hS.bk P W hpw, ← positionals_all hS.bk, posNamed_map_markPo,
      positionals_filter_W _ P W hn h]
  · rw [positionals_all hR.bk, pokRec_pp hS.bk P W hpw, ← positionals_all hS.bk, List.length_map,
      positionals_filter_W _ P W hn h]
  · rw [kwNames_all hR.bk, hkw, ← kwNames_all hS.bk, mem_kwNames]
    simp only [isKwo, Bool.and_eq_true, decide_eq_true_eq, Bool.not_eq_true', List.contains_eq_mem,
      decide_eq_false_iff_not] at hw
    exact ⟨⟨f, (List.mem_filter.1 hf).1, Or.inl hw.1.1, rfl⟩, hw.1.2⟩

theorem kwPosFrom_nil_of_not_pk (P W : List Nat) (i : Nat) (l : List Param)
    (h : ∀ p ∈ l, p.kind ≠ .pk) : kwPosFrom P W i l = [] := by
  induction l generalizing i with
  | nil => rfl
  | cons a l ih =>
    have : isKwo P W a = false := by simp [isKwo, h a (by simp)]
    simp only [kwPosFrom, this, Bool.false_eq_true, ↓reduceIte]
    exact ih _ (fun p hp => h p (by simp [hp]))

theorem kwPosFrom_positionals (P W : List Nat) (F : List Param) (hs : RankSorted F) :
    kwPosFrom P W 0 F = kwPosFrom P W 0 (positionals F) := by
  conv => lhs; rw [rankSorted_split F hs]
  rw [positionals_of_sorted hs]
  simp only [List.append_assoc]
  rw [← List.append_assoc, kwPosFrom_append,
    kwPosFrom_nil_of_not_pk P W _ (F.filter (·.kind = .vp) ++ _), List.append_nil]
  intro p hp hk
  simp only [List.mem_append, List.mem_filter, hk, decide_eq_true_eq, reduceCtorEq, and_false, or_self] at hp

theorem decoratedCall_of_kw_in_P {F : List Param} {P : List Nat} {kp : List (Nat × Param)}
    {args : List Nat} {kwargs : List (Nat × Nat)}
    (hany : kwargs.any (fun kv => P.contains kv.1) = true) :
    decoratedCall F P kp args kwargs = none := by
  unfold decoratedCall translateCall
  rw [if_pos hany]

theorem decoratedCall_of_values {F : List Param} {P W : List Nat} {args : List Nat}
    {kwargs : List (Nat × Nat)} (hn : NamesDistinct F)
    (hany : ¬ kwargs.any (fun kv => P.contains kv.1) = true)
    (hval : ∀ f ∈ positionals F, isKwo P W f = true → ((dget kwargs f.name).or f.dflt).isSome = true) :
    decoratedCall F P (kwPosFrom P W 0 (positionals F)) args kwargs =
      bindCall F (trArgs F (isKwo P W) args kwargs) (trKw F (isKwo P W) args kwargs) := by
  have htl := translateLoop_eq (P := P) (W := W) (positionals F) 0 [] args kwargs rfl
    (hn.filter isPositional) hval
  unfold decoratedCall translateCall
  rw [if_neg hany]
  simp only [List.nil_append] at htl
  rw [htl]
  simp [trArgs, trKw]

theorem decoratedCall_of_missing {F : List Param} {P W : List Nat} {args : List Nat}
    {kwargs : List (Nat × Nat)} (hany : ¬ kwargs.any (fun kv => P.contains kv.1) = true)
    (hex : ∃ f ∈ positionals F, isKwo P W f = true ∧ (dget kwargs f.name).or f.dflt = none) :
    decoratedCall F P (kwPosFrom P W 0 (positionals F)) args kwargs = none := by
  have hmiss := translateLoop_missing (P := P) (W := W) (positionals F) 0 args kwargs [] hex
  unfold decoratedCall translateCall
  rw [if_neg hany]
  have : (translateLoop (kwPosFrom P W 0 (positionals F)) args kwargs []).2.2.isEmpty = false := by
    cases h : (translateLoop (kwPosFrom P W 0 (positionals F)) args kwargs []).2.2 with
    | nil => exact absurd h hmiss
    | cons a l => rfl
  simp [this]

end SV
