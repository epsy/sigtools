/-
  Lemmas/C20Pipe.lean — the string layer of `support`: what becomes of what `read_sig` hands over under
  `use_modifiers_kwoargs`: the generated `def` is compiled (`parseDef`), then `modifiers.kwoargs(*kwoarg_n)` moves
  the named parameters behind the star (`prepare`, specification `pokSpec`).
-/
import Sigverif.Lemmas.C20Mod
import Sigverif.Lemmas.Core.Accepts
import Sigverif.Props.C12
namespace SV

/-- the parameter a `def` item of `read_sig` denotes (kind given by its position in the `def`) -/
def mkP (ua : Bool) (k : Kind) (p : Param) : Param := ⟨p.name, k, p.dflt, if ua then none else p.ann, .empty⟩

@[simp] theorem mkP_name (ua : Bool) (k : Kind) (p : Param) : (mkP ua k p).name = p.name := rfl
@[simp] theorem mkP_kind (ua : Bool) (k : Kind) (p : Param) : (mkP ua k p).kind = k := rfl
@[simp] theorem mkP_dflt (ua : Bool) (k : Kind) (p : Param) : (mkP ua k p).dflt = p.dflt := rfl

/-- the `def` that `read_sig` writes under `use_modifiers_kwoargs`, by its buckets -/
def defS (ua : Bool) (R D : List Param) (va vk : Option Param) : Sorted :=
  { pok := (R ++ D).map (mkP ua .pk), va := va.map (mkP ua .vp), vk := vk.map (mkP ua .vk) }

theorem defS_names (ua : Bool) (R D : List Param) (va vk : Option Param) :
    names (defS ua R D va vk).all = names (R ++ D ++ va.toList ++ vk.toList) := by
  simp [defS, Sorted.all, names, Option.toList_map, Function.comp_def]

theorem defS_bk (ua : Bool) (R D : List Param) (va vk : Option Param) : BucketKinds (defS ua R D va vk) :=
  ⟨fun _ h => (nomatch h), fun p hp => by obtain ⟨q, _, rfl⟩ := List.mem_map.1 hp; rfl,
    fun p hp => by obtain ⟨q, _, rfl⟩ := Option.map_eq_some_iff.1 hp; rfl, fun _ h => (nomatch h),
    fun p hp => by obtain ⟨q, _, rfl⟩ := Option.map_eq_some_iff.1 hp; rfl⟩

theorem defS_swf (ua : Bool) (R D : List Param) (va vk : Option Param)
    (hR : ∀ p ∈ R, p.dflt = none) (hD : ∀ p ∈ D, p.dflt.isSome = true)
    (hn : (names (R ++ D ++ va.toList ++ vk.toList)).Nodup) : SWF (defS ua R D va vk) := by
  refine ⟨defS_bk .., (defS_names ..).symm ▸ hn, ?_⟩
  show ([] ++ (R ++ D).map (mkP ua .pk)).Pairwise DF
  exact List.pairwise_map.2 (pairwise_DF_append hR hD)

theorem defS_bare (ua : Bool) (R D : List Param) (va vk : Option Param) :
    (defS ua R D va vk).all.map Param.bare = (defS ua R D va vk).all := by
  have : ∀ k (p : Param), (mkP ua k p).bare = mkP ua k p := fun _ _ => rfl
  simp [defS, Sorted.all, Option.toList_map, this, Function.comp_def]

theorem parseDef_defS (ua : Bool) (R D : List Param) (va vk : Option Param) (hwf : SWF (defS ua R D va vk))
    (hvad : ∀ v ∈ va, v.dflt = none) (hvkd : ∀ v ∈ vk, v.dflt = none) :
    parseDef (R.map (itemU ua 0) ++ D.map (itemU ua 0) ++ va.toList.map (itemU ua 1) ++ vk.toList.map (itemU ua 2))
      = .ok (defS ua R D va vk).all := by
  have hstar : ∀ p ∈ (defS ua R D va vk).all, (p.kind = .vp ∨ p.kind = .vk) → p.dflt = none := by
    intro p hp hk
    obtain ⟨-, -, h3, -, h5⟩ := mem_all_of_kind hwf.bk hp
    rcases hk with hk | hk
    · obtain ⟨q, hq, rfl⟩ := Option.map_eq_some_iff.1 (h3 hk)
      exact hvad q hq
    · obtain ⟨q, hq, rfl⟩ := Option.map_eq_some_iff.1 (h5 hk)
      exact hvkd q hq
  have key := parseDef_pieces' _ hwf.wf hstar
  rw [defS_bare, pieces_buckets hwf.bk rfl] at key
  rw [← key]
  congr 1
  have h0 : ∀ L : List Param, ((L.map (mkP ua .pk)).map plainP).map Piece.toItem = L.map (itemU ua 0) := fun L => by
    rw [List.map_map, List.map_map]
    rfl
  have h1 : (midPieces (va.map (mkP ua .vp)) []).map Piece.toItem = va.toList.map (itemU ua 1) := by cases va <;> rfl
  have h2 : (vkPieces (vk.map (mkP ua .vk))).map Piece.toItem = vk.toList.map (itemU ua 2) := by cases vk <;> rfl
  simp only [defS, List.map_append, h0, h1, h2, List.map_nil, List.append_nil]

theorem reqs_dfls_perm (L : List Param) : (reqs L ++ dfls L).Perm L := by
  have := List.filter_append_perm (fun p : Param => p.dflt.isNone) L
  simpa [reqs, dfls, Option.not_isNone] using this

theorem text_perm (pk ko : List Param) (va vk : Option Param) :
    (pk ++ va.toList ++ ko ++ vk.toList).Perm (pk ++ ko ++ va.toList ++ vk.toList) := by
  refine List.Perm.append_right _ ?_
  simp only [List.append_assoc]
  exact List.Perm.append_left _ List.perm_append_comm

theorem rearranged_perm {S : Sorted} (hpos : S.pos = []) :
    ((reqs S.pok ++ reqs S.kwo) ++ (dfls S.pok ++ dfls S.kwo) ++ S.va.toList ++ S.vk.toList).Perm S.all := by
  rw [Sorted.all, hpos, List.nil_append]
  refine (List.Perm.append_right _ (List.Perm.append_right _ ?_)).trans (text_perm ..).symm
  calc (reqs S.pok ++ reqs S.kwo) ++ (dfls S.pok ++ dfls S.kwo)
      _ = reqs S.pok ++ (reqs S.kwo ++ dfls S.pok) ++ dfls S.kwo := by simp
      _ |>.Perm (reqs S.pok ++ (dfls S.pok ++ reqs S.kwo) ++ dfls S.kwo) :=
          List.Perm.append_right _ (List.Perm.append_left _ List.perm_append_comm)
      _ = (reqs S.pok ++ dfls S.pok) ++ (reqs S.kwo ++ dfls S.kwo) := by simp
      _ |>.Perm (S.pok ++ S.kwo) := List.Perm.append (reqs_dfls_perm _) (reqs_dfls_perm _)

theorem reqs_dflt (pk ko : List Param) : ∀ p ∈ reqs pk ++ reqs ko, p.dflt = none :=
  fun _ hp => (List.mem_append.1 hp).elim dflt_of_mem_reqs dflt_of_mem_reqs

theorem dfls_dflt (pk ko : List Param) : ∀ p ∈ dfls pk ++ dfls ko, p.dflt.isSome = true :=
  fun _ hp => (List.mem_append.1 hp).elim dflt_of_mem_dfls dflt_of_mem_dfls

theorem fold_annUpd_false (L : List Param) (a : List (Nat × Nat)) : L.foldl (annUpd false) a = a := by
  induction L generalizing a with
  | nil => rfl
  | cons p L ih => simp only [List.foldl_cons]; rw [ih]; unfold annUpd; split <;> simp

/-- the `def` that `read_sig` writes for the text of `S` -/
abbrev kwoDef (ua : Bool) (S : Sorted) : Sorted :=
  defS ua (reqs S.pok ++ reqs S.kwo) (dfls S.pok ++ dfls S.kwo) S.va S.vk

theorem kwoDef_swf (ua : Bool) {S : Sorted} (hS : SWF S) (hpos : S.pos = []) : SWF (kwoDef ua S) :=
  defS_swf ua _ _ _ _ (reqs_dflt _ _) (dfls_dflt _ _) (((rearranged_perm hpos).map _).nodup_iff.2 hS.nd)

theorem pokSpec_kwoDef (ua : Bool) {S : Sorted} (hS : SWF S) :
    pokSpec (kwoDef ua S).all [] (S.kwo.map (·.name)) =
      (reqs S.pok ++ dfls S.pok).map (mkP ua .pk) ++ (S.va.map (mkP ua .vp)).toList ++
        (reqs S.kwo ++ dfls S.kwo).map (mkP ua .ko) ++ (S.vk.map (mkP ua .vk)).toList := by
  obtain ⟨-, -, -, -, -, hdisj⟩ := hS.parts
  have hpkW : ∀ p ∈ S.pok, (S.kwo.map (·.name)).contains p.name = false := fun p hp => by
    rw [List.contains_eq_mem, decide_eq_false_iff_not]
    exact hdisj _ (mem_names_of_mem hp)
  have hkoW : ∀ p ∈ S.kwo, (S.kwo.map (·.name)).contains p.name = true := fun p hp => by
    simpa using List.mem_map_of_mem (f := (·.name)) hp
  have keep : ∀ {L : List Param}, (∀ p ∈ L, p ∈ S.pok) →
      L.filter (fun p => !(S.kwo.map (·.name)).contains p.name) = L ∧
      L.filter (fun p => (S.kwo.map (·.name)).contains p.name) = [] :=
    fun h => ⟨List.filter_eq_self.2 (fun p hp => by rw [hpkW p (h p hp)]; rfl),
      List.filter_eq_nil_iff.2 (fun p hp => by rw [hpkW p (h p hp)]; exact Bool.false_ne_true)⟩
  have move : ∀ {L : List Param}, (∀ p ∈ L, p ∈ S.kwo) →
      L.filter (fun p => !(S.kwo.map (·.name)).contains p.name) = [] ∧
      L.filter (fun p => (S.kwo.map (·.name)).contains p.name) = L :=
    fun h => ⟨List.filter_eq_nil_iff.2 (fun p hp => by rw [hkoW p (h p hp)]; exact Bool.false_ne_true),
      List.filter_eq_self.2 (fun p hp => hkoW p (h p hp))⟩
  have inL : ∀ L : List Param, (∀ p ∈ reqs L, p ∈ L) ∧ (∀ p ∈ dfls L, p ∈ L) :=
    fun L => ⟨fun p hp => (List.mem_filter.1 hp).1, fun p hp => (List.mem_filter.1 hp).1⟩
  have hm : markPo ([] : List Nat) = id := funext fun _ => rfl
  rw [pokSpec_all (defS_bk ..), hm]
  simp only [defS, List.map_id, List.nil_append, List.append_nil, List.filter_map,
    Function.comp_def, mkP_name, List.filter_append, keep (inL S.pok).1, keep (inL S.pok).2, move (inL S.kwo).1,
    move (inL S.kwo).2, Option.toList_map]
  rw [List.map_map]
  rfl

theorem prepare_kwoDef (ua : Bool) {S : Sorted} (hS : SWF S) (hpos : S.pos = []) :
    ∃ kp, prepare (kwoDef ua S).all [] (S.kwo.map (·.name)) =
      .ok ((reqs S.pok ++ dfls S.pok).map (mkP ua .pk) ++ (S.va.map (mkP ua .vp)).toList ++
            (reqs S.kwo ++ dfls S.kwo).map (mkP ua .ko) ++ (S.vk.map (mkP ua .vk)).toList, kp) := by
  rcases prepare_cases _ [] (S.kwo.map (·.name)) (kwoDef_swf ua hS hpos).wf with ⟨-, he⟩ | ⟨hna, -⟩
  · exact ⟨_, pokSpec_kwoDef ua hS ▸ he⟩
  · refine absurd ⟨by simp, by simp, ?_, by simp⟩ hna
    intro x hx
    obtain ⟨k, hk, rfl⟩ := List.mem_map.1 hx
    refine ⟨mkP ua .pk k, mem_all_pok (List.mem_map_of_mem ?_), rfl, Or.inl rfl⟩
    rcases List.mem_append.1 ((reqs_dfls_perm S.kwo).mem_iff.2 hk) with h | h <;> simp [h]

theorem mkP_false_eq (k : Kind) (p : Param) (h : p.kind = k) : mkP false k p = p.bare := by
  obtain ⟨n, _, d, a, u⟩ := p
  cases h
  rfl

theorem map_mkP_all (ua : Bool) {S : Sorted} (bk : BucketKinds S) (hpos : S.pos = []) :
    S.pok.map (mkP ua .pk) ++ (S.va.map (mkP ua .vp)).toList ++ S.kwo.map (mkP ua .ko) ++ (S.vk.map (mkP ua .vk)).toList =
      S.all.map (fun p => mkP ua p.kind p) := by
  have list : ∀ (k : Kind) (L : List Param), (∀ p ∈ L, p.kind = k) → L.map (mkP ua k) = L.map (fun p => mkP ua p.kind p) :=
    fun k L h => List.map_congr_left (fun p hp => by rw [h p hp])
  rw [Option.toList_map, Option.toList_map, list .pk _ bk.pok, list .ko _ bk.kwo, list .vp _ (optToList_kind bk.va),
    list .vk _ (optToList_kind bk.vk), Sorted.all, hpos]
  simp only [List.map_append, List.nil_append]

theorem bare_bare (p : Param) : p.bare.bare = p.bare := rfl

end SV
