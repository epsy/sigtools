/-
  Lemmas/SM.lean — what Props/SM.lean rests on: the closed form of the `==` protocol (C14), the
  interleaving invariant of the save/restore machine (C17), the closed form of its sequential run
  with a crash point (C16), and what is alive after a collection of the descriptor cache (C18).
-/
import Sigverif.Model.Eq
import Sigverif.Model.Cleanup
import Sigverif.Model.Cache
namespace SV

/-- closed form of `type(a).__eq__(a, b)` -/
def cmp (a b : Obj) : EqRes :=
  match a, b with
  | .usig i d u, .usig j e w | .uparam i d u, .uparam j e w =>
    if (i = j ∨ d = e) ∧ u = w then .t else .f
  | .usig i d _, .psig j e | .psig i d, .usig j e _ | .psig i d, .psig j e
  | .uparam i d _, .pparam j e | .pparam i d, .uparam j e _ | .pparam i d, .pparam j e =>
    if i = j ∨ d = e then .t else .f
  | a, b => if a.id = b.id then .t else .notImpl

theorem dunderEq_eq (a b : Obj) : dunderEq a b = .ok (cmp a b) := by
  cases a <;> cases b <;> simp only [dunderEq, baseEq, cmp, Obj.id] <;> grind

/-- so it does not matter whose method the protocol calls first -/
theorem cmp_symm (a b : Obj) : cmp a b = cmp b a := by
  cases a <;> cases b <;> simp only [cmp, Obj.id] <;> congr 1 <;> simp only [eq_comm]

/-- closed form of `a == b` -/
def eqSpec (a b : Obj) : Bool :=
  match cmp a b with
  | .t => true
  | .f => false
  | .notImpl => a.id = b.id

theorem pyEq_spec (a b : Obj) : pyEq a b = .ok (eqSpec a b) := by
  simp only [pyEq, dunderEq_eq, cmp_symm b a, ite_self, eqSpec]
  cases cmp a b <;> rfl

/-- Row by row of the table: a row that answers `.t` on other grounds than identity compares the data
    within one family, and the hash is a function of family and data. -/
theorem hash_of_cmp (a b : Obj) : cmp a b = .t → a.id = b.id ∨ pyHash a = pyHash b := by
  fun_cases cmp a b <;> rintro ⟨⟩
  case case1 hc | case3 hc => exact hc.1.imp id fun hd => by rw [pyHash, pyHash, hd]
  case case17 hid => exact .inl hid
  all_goals exact (‹_ ∨ _›).imp id fun hd => by rw [pyHash, pyHash, hd]

/-! ## C17: one thread, one attribute

  The two attributes never interact, and a thread treats both in the same way.  So each step of a
  thread is projected to one attribute (`AStep`, `stepThread_attr`), and the invariant is proved once,
  for one attribute, on the projection. -/

/-- where a thread stands with respect to one attribute: it has not read it yet, it has read `v` and
    is about to `delattr`, it is between its `delattr` and its restore, it is past its restore -/
inductive Phase where
  | before | read (v : Nat) | held | after

def PC.phase : PC → Attr → Phase
  | .getW, _ => .before
  | .delW v, .wrapped => .read v
  | .delW _, .signature => .before
  | .getS, .wrapped => .held
  | .getS, .signature => .before
  | .delS _, .wrapped => .held
  | .delS v, .signature => .read v
  | .body, _ => .held
  | .exitW, _ => .held
  | .exitS, .wrapped => .after
  | .exitS, .signature => .held
  | .done, _ => .after

def Thread.saved (t : Thread) : Attr → Option Nat
  | .wrapped => t.savedW
  | .signature => t.savedS

/-- what a step of a thread does to one attribute: to its instance-level value, to the thread's
    phase and to the value the thread has saved (`cls` is the class-level value; no step changes it) -/
inductive AStep (cls : Option Nat) :
    Option Nat → Phase → Option Nat → Option Nat → Phase → Option Nat → Prop
  | idle {cur p s} : AStep cls cur p s cur p s
  | read {cur s v} : cur.orElse (fun _ => cls) = some v → AStep cls cur .before s cur (.read v) s
  | absent {cur s} : AStep cls cur .before s cur .held s
  | delete {x v s} : AStep cls (some x) (.read v) s none .held (some v)
  | gone {v s} : AStep cls none (.read v) s none .held s
  | restore {cur v} : AStep cls cur .held (some v) (some v) .after (some v)
  | leave {cur} : AStep cls cur .held none cur .after none

theorem stepThread_attr (a : Attr) (st : Store) (t : Thread) :
    AStep (st.cls a) (st.inst a) (t.pc.phase a) (t.saved a)
      ((stepThread st t).1.inst a) ((stepThread st t).2.pc.phase a) ((stepThread st t).2.saved a) := by
  rcases st with ⟨iw, is, cw, cs⟩
  rcases t with ⟨pc, sw, ss, saw⟩
  cases pc
  case getW =>
    cases h : iw.orElse fun _ => cw <;> cases a <;>
      simp only [stepThread, Store.get, Store.inst, Store.cls, h, PC.phase, Thread.saved]
    · exact .absent
    · exact .idle
    · exact .read h
    · exact .idle
  case getS =>
    cases h : is.orElse fun _ => cs <;> cases a <;>
      simp only [stepThread, Store.get, Store.inst, Store.cls, h, PC.phase, Thread.saved]
    · exact .idle
    · exact .absent
    · exact .idle
    · exact .read h
  case delW v =>
    cases iw <;> cases a
    · exact .gone
    · exact .idle
    · exact .delete
    · exact .idle
  case delS v =>
    cases is <;> cases a
    · exact .idle
    · exact .gone
    · exact .idle
    · exact .delete
  case exitW =>
    cases sw <;> cases a
    · exact .leave
    · exact .idle
    · exact .restore
    · exact .idle
  case exitS =>
    cases ss <;> cases a
    · exact .idle
    · exact .leave
    · exact .idle
    · exact .restore
  case body => cases a <;> exact .idle
  case done => cases a <;> exact .idle

theorem stepThread_cls (a : Attr) (st : Store) (t : Thread) : (stepThread st t).1.cls a = st.cls a := by
  rcases st with ⟨iw, is, cw, cs⟩
  rcases t with ⟨pc, sw, ss, saw⟩
  cases pc <;> cases a <;> simp only [stepThread, Store.cls] <;> split <;> rfl

def owes : Phase → Option Nat → Nat
  | .held, some _ => 1
  | _, _ => 0

/-- what a thread knows of an attribute whose initial instance-level value is `init` -/
def Loc (init : Option Nat) : Phase → Option Nat → Prop
  | .before, s => s = none
  | .read v, s => s = none ∧ ∀ v0, init = some v0 → v0 = v
  | .held, s => s = none ∨ s = init
  | .after, _ => True

/-- balance: the attribute has its initial value and nobody owes a restore, or it is deleted and
    exactly one thread owes the restore -/
def Bal (cur init : Option Nat) (cnt : Nat) : Prop := (cur = init ∧ cnt = 0) ∨ (cur = none ∧ cnt = 1)

/-- The invariant is kept by every step; `k` is the number of OTHER threads owing a restore.
    Coherence is needed at one point only: a thread that finds the instance value deleted by another
    thread reads the class-level value instead, and will save and "restore" that one. -/
theorem AStep.inv {cls init cur cur' s s' : Option Nat} {p p' : Phase} {k : Nat}
    (hc : (∀ v c, init = some v → cls = some c → c = v) ∨ k = 0)
    (h : AStep cls cur p s cur' p' s') (hl : Loc init p s) (hb : Bal cur init (k + owes p s)) :
    Loc init p' s' ∧ Bal cur' init (k + owes p' s') := by
  cases h with
  | idle => exact ⟨hl, hb⟩
  | @read _ _ v hv =>
    subst hl
    refine ⟨⟨rfl, fun v0 h0 => ?_⟩, hb⟩
    rcases hb with ⟨rfl, _⟩ | ⟨rfl, hk⟩
    · subst h0
      exact Option.some.inj hv
    · rcases hc with hc | rfl
      · exact (hc v0 v h0 hv).symm
      · exact absurd hk (by decide)
  | absent =>
    subst hl
    exact ⟨.inl rfl, hb⟩
  | @delete x v _ =>
    rcases hb with ⟨rfl, hk⟩ | ⟨h, _⟩
    · obtain rfl := hl.2 x rfl
      obtain rfl : k = 0 := hk
      exact ⟨.inr rfl, .inr ⟨rfl, rfl⟩⟩
    · exact absurd h (by simp)
  | gone =>
    obtain ⟨rfl, _⟩ := hl
    exact ⟨.inl rfl, hb⟩
  | @restore _ v =>
    rcases hl with h | rfl
    · exact absurd h (by simp)
    · rcases hb with ⟨_, hk⟩ | ⟨_, hk⟩
      · exact absurd hk (by simp [owes])
      · exact ⟨trivial, .inl ⟨rfl, Nat.succ.inj hk⟩⟩
  | leave => exact ⟨trivial, hb⟩

theorem sum_map_set {α : Type} (f : α → Nat) {l : List α} {i : Nat} {x : α} (h : l[i]? = some x) :
    ∃ k, (l.map f).sum = k + f x ∧ (∀ y, ((l.set i y).map f).sum = k + f y) ∧
      (l.length ≤ 1 → k = 0) := by
  induction l generalizing i with
  | nil => simp at h
  | cons b l ih =>
    cases i with
    | zero =>
      obtain rfl : b = x := by simpa using h
      refine ⟨(l.map f).sum, by simp [Nat.add_comm], fun y => by simp [Nat.add_comm], fun hl => ?_⟩
      obtain rfl : l = [] := List.eq_nil_of_length_eq_zero (by simpa using hl)
      rfl
    | succ i =>
      obtain ⟨k, h1, h2, _⟩ := ih (by simpa using h)
      refine ⟨f b + k, by simp [h1, Nat.add_assoc], fun y => ?_, fun hl => ?_⟩
      · simp only [List.set_cons_succ, List.map_cons, List.sum_cons, h2, Nat.add_assoc]
      · obtain rfl : l = [] := List.eq_nil_of_length_eq_zero (by simpa using hl)
        simp at h

def owesOf (a : Attr) (t : Thread) : Nat := owes (t.pc.phase a) (t.saved a)

def cnt (a : Attr) (l : List Thread) : Nat := (l.map (owesOf a)).sum

theorem cnt_eq_zero {a : Attr} {l : List Thread} (h : ∀ t ∈ l, owesOf a t = 0) : cnt a l = 0 := by
  refine List.sum_eq_zero_iff_forall_eq_nat.mpr fun x hx => ?_
  obtain ⟨t, ht, rfl⟩ := List.mem_map.mp hx
  exact h t ht

def Store.CoherentAt (s : Store) (a : Attr) : Prop :=
  ∀ v c, s.inst a = some v → s.cls a = some c → c = v

structure WInv (a : Attr) (s0 : Store) (w : World) : Prop where
  cls : w.store.cls a = s0.cls a
  loc : ∀ t ∈ w.threads, Loc (s0.inst a) (t.pc.phase a) (t.saved a)
  bal : Bal (w.store.inst a) (s0.inst a) (cnt a w.threads)

theorem WInv_init (a : Attr) (s : Store) (n : Nat) : WInv a s (World.init s n) := by
  have h0 : ∀ t ∈ (World.init s n).threads, t = {} := fun t ht => (List.mem_replicate.mp ht).2
  refine ⟨rfl, fun t ht => ?_, .inl ⟨rfl, cnt_eq_zero fun t ht => ?_⟩⟩
  · rw [h0 t ht]
    cases a <;> rfl
  · rw [h0 t ht]
    rfl

theorem World.step_zero (s : Store) (t : Thread) (ts : List Thread) :
    World.step ⟨s, t :: ts⟩ 0 = ⟨(stepThread s t).1, (stepThread s t).2 :: ts⟩ := rfl

theorem World.step_one (s : Store) (t0 t : Thread) (ts : List Thread) :
    World.step ⟨s, t0 :: t :: ts⟩ 1 = ⟨(stepThread s t).1, t0 :: (stepThread s t).2 :: ts⟩ := rfl

theorem step_length (w : World) (i : Nat) : (w.step i).threads.length = w.threads.length := by
  unfold World.step
  cases w.threads[i]? <;> simp

theorem run_length (w : World) (schedule : List Nat) :
    (w.run schedule).threads.length = w.threads.length :=
  List.foldlRecOn (motive := fun w' => w'.threads.length = w.threads.length) schedule World.step rfl
    fun w' h i _ => (step_length w' i).trans h

theorem WInv_step {a : Attr} {s0 : Store} {w : World} (hc : s0.CoherentAt a ∨ w.threads.length ≤ 1)
    (h : WInv a s0 w) (i : Nat) : WInv a s0 (w.step i) := by
  unfold World.step
  cases hi : w.threads[i]? with
  | none => exact h
  | some t =>
    obtain ⟨k, h1, h2, h3⟩ := sum_map_set (owesOf a) hi
    have hb := h.bal
    rw [cnt, h1] at hb
    obtain ⟨hl', hb'⟩ := AStep.inv (hc.imp (fun hc v c hv => h.cls ▸ hc v c hv) h3)
      (stepThread_attr a w.store t) (h.loc t (List.mem_of_getElem? hi)) hb
    refine ⟨(stepThread_cls a _ t).trans h.cls, fun t' ht' => ?_, ?_⟩
    · rcases List.mem_or_eq_of_mem_set ht' with ht' | rfl
      · exact h.loc t' ht'
      · exact hl'
    · rw [cnt, h2]
      exact hb'

theorem WInv_run {a : Attr} {s0 : Store} (schedule : List Nat) {w : World}
    (hc : s0.CoherentAt a ∨ w.threads.length ≤ 1) (h : WInv a s0 w) :
    WInv a s0 (w.run schedule) :=
  (List.foldlRecOn (motive := fun w' => WInv a s0 w' ∧ w'.threads.length = w.threads.length)
    schedule World.step ⟨h, rfl⟩
    fun w' h i _ => ⟨WInv_step (hc.imp_right (h.2 ▸ ·)) h.1 i, (step_length w' i).trans h.2⟩).1

theorem WInv_quiescent {a : Attr} {s0 : Store} {w : World} (h : WInv a s0 w) (hq : w.quiescent) :
    w.store.inst a = s0.inst a := by
  have h0 : cnt a w.threads = 0 := cnt_eq_zero fun t ht => by
    rw [owesOf, hq t ht]
    rfl
  rcases h.bal with ⟨hb, _⟩ | ⟨_, hk⟩
  · exact hb
  · exact absurd (h0 ▸ hk) (by decide)

theorem Store.ext_attr {s s' : Store} (hi : ∀ a, s.inst a = s'.inst a) (hc : ∀ a, s.cls a = s'.cls a) :
    s = s' := by
  rcases s with ⟨iw, is, cw, cs⟩
  rcases s' with ⟨iw', is', cw', cs'⟩
  obtain rfl : iw = iw' := hi .wrapped
  obtain rfl : is = is' := hi .signature
  obtain rfl : cw = cw' := hc .wrapped
  obtain rfl : cs = cs' := hc .signature
  rfl

theorem WInv_reachable (a : Attr) (s : Store) (n : Nat) (schedule : List Nat)
    (hc : n ≤ 1 ∨ s.CoherentAt a) : WInv a s ((World.init s n).run schedule) :=
  WInv_run schedule (hc.symm.imp id (by simpa [World.init] using ·)) (WInv_init a s n)

/-- what `__enter__` saves of attribute `a`: its instance-level value, if it has one -/
def saveOf (s : Store) (a : Attr) : List (Attr × Nat) :=
  match s.inst a with
  | some v => [(a, v)]
  | none => []

theorem cleanupEnter_nil (fault : Option Nat) (s : Store) (saved : List (Attr × Nat)) (c : Nat) :
    cleanupEnter fault [] s saved c = (s, saved, c, false) := rfl

/-- One round of the loop of `__enter__`.  The class-level value plays no part in it: where only the
    class provides the attribute, `delattr` fails and nothing is saved. -/
theorem cleanupEnter_cons (fault : Option Nat) (a : Attr) (rest : List Attr) (s : Store)
    (saved : List (Attr × Nat)) (c : Nat) :
    cleanupEnter fault (a :: rest) s saved c =
      if crashes fault c then (s, saved, c + 1, true)
      else cleanupEnter fault rest (s.setInst a none) (saved ++ saveOf s a) (c + 1) := by
  rw [cleanupEnter]
  split
  · rfl
  · rcases s with ⟨iw, is, cw, cs⟩
    cases a
    · cases iw <;> cases cw <;> simp [Store.get, Store.inst, Store.cls, Store.setInst, saveOf]
    · cases is <;> cases cs <;> simp [Store.get, Store.inst, Store.cls, Store.setInst, saveOf]

theorem cleanupExit_nil (s : Store) : cleanupExit s [] = s := rfl

theorem cleanupExit_one (s : Store) (a : Attr) : cleanupExit (s.setInst a none) (saveOf s a) = s := by
  rcases s with ⟨_ | iw, _ | is, cw, cs⟩ <;> cases a <;> rfl

theorem cleanupExit_two (s : Store) :
    cleanupExit ((s.setInst .wrapped none).setInst .signature none)
      (saveOf s .wrapped ++ saveOf (s.setInst .wrapped none) .signature) = s := by
  rcases s with ⟨_ | iw, _ | is, cw, cs⟩ <;> rfl

/-- The run in closed form: the store is as before, and the calls made are those up to and including
    the one that raises (two `getattr`, then the body). -/
theorem cleanupRun_eq (fault : Option Nat) (s : Store) :
    cleanupRun fault s =
      { store := s
        raised := match fault with | some k => decide (k < 3) | none => false
        calls := match fault with | some k => min (k + 1) 3 | none => 3 } := by
  rcases fault with _ | _ | _ | _ | k <;>
    simp [cleanupRun, cleanupEnter_cons, cleanupEnter_nil, crashes, cleanupExit_nil, cleanupExit_one,
      cleanupExit_two]

theorem mem_alive_collect (k : DictKind) (s : CState) (i : Nat) :
    i ∈ (s.collect k).alive k ↔
      i ∈ s.heldInst ∨ i ∈ s.heldWrap ∨ (k = .weakKey ∨ k = .selfEntry) ∧ i ∈ s.entries := by
  have absorb : i ∈ s.heldWrap ∨ i ∈ s.entries ∧ i ∈ s.heldWrap ↔ i ∈ s.heldWrap :=
    ⟨fun h => h.elim id (·.2), .inl⟩
  cases k <;> simp [CState.alive, CState.collect, absorb]

end SV
