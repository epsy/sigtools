/-
  Lemmas/C05Flat.lean — the visitor states the proofs of C05 work with (`mk`: positioned in the main
  function's namespace; `mkAt c`: in namespace `c`), and what `process_Call` does on the Call node of
  a forwarding call in a namespace from which the names it uses are the main function's.
-/
import Sigverif.Model.Grammar
import Sigverif.Lemmas.C05TotalBasic
namespace SV
namespace Flat
variable {kids : List NS} {rev : List (Tree × Nat)}

/-- a visitor state positioned in the main function's namespace (index 0); `kids` are the namespaces of
    the nested functions seen so far, `rev` the calls deferred so far -/
def mk (kids : List NS) (rev : List (Tree × Nat)) (names : List (Nat × Entry)) (imm : List Nat) (calls : List CallRec) : VState :=
  { nss := { parent := none, names := names, nonlocals := [], imm := imm } :: kids, cur := 0, calls := calls,
    revisit := rev, hasVa := true, hasVk := true }

theorem lookup_mk (n : List (Nat × Entry)) (i : List Nat) (c : List CallRec) (x : Nat) :
    (mk kids rev n i c).lookup x = (dget n x).map (fun e => (0, e)) := by
  simp only [VState.lookup, mk, nsLookup, VState.ns, List.getD_cons_zero, dget,
    Option.getD_none]
  cases dget n x <;> rfl

theorem assign_mk (n : List (Nat × Entry)) (i : List Nat) (c : List CallRec) (x : Nat) (e : Entry) :
    (mk kids rev n i c).assign x e = mk kids rev (dset n x e) (i.filter (· ≠ x)) c := by
  simp [VState.assign, mk, VState.ns, VState.setNs, dget]

theorem isImm_mk (n : List (Nat × Entry)) (i : List Nat) (c : List CallRec) (x : Nat) :
    (mk kids rev n i c).isImm x = i.contains x := by
  simp [VState.isImm, mk, VState.ns, dget]

theorem visitName_mk (n : List (Nat × Entry)) (i : List Nat) (c : List CallRec) (x : Nat) (ctx : Ctx) :
    visitName (mk kids rev n i c) x ctx =
      if i.contains x && ctx = .load then mk kids rev n i c else mk kids rev (dset n x { m := .unknown }) (i.filter (· ≠ x)) c := by
  simp only [visitName, isImm_mk, assign_mk]

theorem visit_name_write (x : Nat) (ctx : Ctx) (hctx : ctx ≠ .load) (n : List (Nat × Entry)) (i : List Nat)
    (c : List CallRec) :
    visit false (.name x ctx) (mk kids rev n i c) = mk kids rev (dset n x { m := .unknown }) (i.filter (· ≠ x)) c := by
  simp [visit, visitName_mk, hctx]

theorem visit_const (force : Bool) (st : VState) : visit force constT st = st := by
  simp [constT, visit, visitList]

theorem resolveCore_const (t : Bool) (st : VState) : resolveCore constT t st = ((.unknown, false), st) := by
  simp [constT, resolveCore]

theorem resolveArgs_plainConsts (n : Nat) (rest : ArgList) (st : VState) :
    resolveArgs (plainConsts n rest) st =
      ((List.replicate n RM.unknown) ++ (resolveArgs rest st).1, (resolveArgs rest st).2) := by
  induction n generalizing st with
  | zero => simp [plainConsts]
  | succ k ih =>
    simp only [plainConsts, resolveArgs, resolveCore_const, visit_const, untaint, Bool.false_eq_true, if_false]
    rw [ih]
    simp [List.replicate_succ]

theorem resolveKws_kwConsts (ks : List Nat) (rest : KwList) (st : VState) :
    resolveKws (kwConsts ks rest) st =
      (ks.map (fun k => (k, RM.unknown)) ++ (resolveKws rest st).1, (resolveKws rest st).2) := by
  induction ks generalizing st with
  | nil => simp [kwConsts]
  | cons k ks ih =>
    simp only [kwConsts, resolveKws, resolveCore_const, visit_const, untaint, Bool.false_eq_true, if_false]
    rw [ih]
    simp

theorem starCount_plainConsts (n : Nat) (rest : ArgList) : (plainConsts n rest).starCount = rest.starCount := by
  induction n with
  | zero => rfl
  | succ k ih => simp [plainConsts, ArgList.starCount, ih]

theorem dstarCount_kwConsts (ks : List Nat) (rest : KwList) : (kwConsts ks rest).dstarCount = rest.dstarCount := by
  induction ks with
  | nil => rfl
  | cons k ks ih => simp [kwConsts, KwList.dstarCount, ih]

theorem resolveOnlyStar_plainConsts (n : Nat) (rest : ArgList) (st : VState) :
    resolveOnlyStar (plainConsts n rest) st = resolveOnlyStar rest st := by
  induction n with
  | zero => rfl
  | succ k ih => simp [plainConsts, resolveOnlyStar, ih]

theorem resolveOnlyDstar_kwConsts (ks : List Nat) (rest : KwList) (st : VState) :
    resolveOnlyDstar (kwConsts ks rest) st = resolveOnlyDstar rest st := by
  induction ks with
  | nil => rfl
  | cons k ks ih => simp [kwConsts, resolveOnlyDstar, ih]

theorem visit_callee_attr (t : Tree) (ht : isCalleeTree t = true) (hn : isNameNode t = false) (st : VState) :
    visit false t st = st := by
  cases t with
  | attr v a => simp [visit]
  | name _ _ => simp [isNameNode] at hn
  | _ => simp [isCalleeTree] at ht

theorem calleeTree_induction {motive : (t : Tree) → isCalleeTree t = true → Prop}
    (name : ∀ id, motive (.name id .load) rfl)
    (attr : ∀ v a (h : isCalleeTree v = true), motive v h → motive (.attr v a) h) :
    ∀ t h, motive t h
  | .name id .load, _ => name id
  | .attr v a, h => attr v a h (calleeTree_induction name attr v h)
  | .name _ .store, h | .name _ .del, h | .call _ _ _, h | .fdef _ _ _ _ _ _, h | .nonloc _, h | .other _, h => by
    simp [isCalleeTree] at h

theorem resolveCore_callee (t : Tree) (ht : isCalleeTree t = true) (tainted : Bool) (st : VState) :
    (resolveCore t tainted st).2 = st := by
  induction t, ht using calleeTree_induction with
  | name id => simp only [resolveCore]; split <;> rfl
  | attr v a hv ih =>
    simp only [resolveCore]
    split
    · exact ih
    · next hn => rw [visit_callee_attr v hv (by simpa using hn), ih]

/-- a visitor state positioned in namespace `c` (`mk` is the case `c = 0`) -/
def mkAt (c : Nat) (kids : List NS) (rev : List (Tree × Nat)) (n : List (Nat × Entry)) (i : List Nat)
    (cs : List CallRec) : VState :=
  { nss := { parent := none, names := n, nonlocals := [], imm := i } :: kids, cur := c, calls := cs,
    revisit := rev, hasVa := true, hasVk := true }

theorem mkAt_cur (c c' : Nat) (kids : List NS) (rev : List (Tree × Nat)) (n : List (Nat × Entry)) (i : List Nat)
    (cs : List CallRec) : { mkAt c kids rev n i cs with cur := c' } = mkAt c' kids rev n i cs := rfl

theorem mk_eq_mkAt (kids : List NS) (rev : List (Tree × Nat)) (n : List (Nat × Entry)) (i : List Nat)
    (cs : List CallRec) : mk kids rev n i cs = mkAt 0 kids rev n i cs := rfl

/-- seen from namespace `c`, `x` is a name of the main function: looking it up finds the main
    namespace's entry, whatever that namespace holds -/
def MainName (kids : List NS) (c x : Nat) : Prop :=
  ∀ rev n i cs, (mkAt c kids rev n i cs).lookup x = (dget n x).map (fun e => (0, e))

theorem mainName_zero (kids : List NS) (x : Nat) : MainName kids 0 x :=
  fun _ n i cs => lookup_mk n i cs x

variable {c x : Nat}

theorem taint_at (h : MainName kids c x) (n : List (Nat × Entry)) (i : List Nat) (cs : List CallRec) :
    (mkAt c kids rev n i cs).taint x = match dget n x with
      | some e => mkAt c kids rev (dset n x { e with tainted := true }) i cs
      | none => mkAt c kids rev n i cs := by
  simp only [VState.taint, h rev n i cs]
  cases dget n x with
  | none => rfl
  | some e => simp [mkAt, VState.ns, VState.setNs]

/-- the marker a callee expression resolves to when its root is a name of the main function -/
def markerIn (n : List (Nat × Entry)) : Tree → RM
  | .name id _ => match dget n id with
    | some e => e.m
    | none => .nm id
  | .attr v a => .attr (markerIn n v) a
  | _ => .unknown

theorem resolveCore_marker_at (n : List (Nat × Entry)) (i : List Nat) (cs : List CallRec)
    (t : Tree) (ht : isCalleeTree t = true) (hr : ∀ r, calleeRoot t = some r → MainName kids c r) :
    (resolveCore t true (mkAt c kids rev n i cs)).1.1 = markerIn n t := by
  induction t, ht using calleeTree_induction with
  | name id =>
    simp only [resolveCore, hr id rfl rev n i cs, markerIn]
    cases dget n id <;> rfl
  | attr v a hv ih =>
    simp only [resolveCore, markerIn, if_true]
    rw [← ih hr]

/-- the star marker found in a call: what `resolve_name(value, ro=True).get_untainted()` gives -/
def starFound (n : List (Nat × Entry)) (x : Nat) : RM :=
  match dget n x with
  | some e => if e.tainted then .unknown else e.m
  | none => .nm x

theorem untaint_resolveCore_name (h : MainName kids c x) (n : List (Nat × Entry)) (i : List Nat)
    (cs : List CallRec) (t : Bool) :
    untaint (resolveCore (.name x .load) t (mkAt c kids rev n i cs)).1 = starFound n x := by
  simp only [resolveCore, h rev n i cs, starFound, untaint]
  cases dget n x <;> rfl

/-- the namespace after `self.namespace[instance.name].tainted = node` for the marker of a callee -/
def taintCallee (n : List (Nat × Entry)) (w : RM) : List (Nat × Entry) :=
  match w with
  | .attr _ _ => (match w.instance with
    | .arg x _ => (match dget n x with
      | some e => dset n x { e with tainted := true }
      | none => n)
    | _ => n)
  | _ => n

theorem taintStep_at (n : List (Nat × Entry)) (i : List Nat) (cs : List CallRec) (w : RM)
    (hinst : ∀ x t, w.instance = .arg x t → MainName kids c x) :
    taintStep w (mkAt c kids rev n i cs) = mkAt c kids rev (taintCallee n w) i cs := by
  unfold taintStep taintCallee
  cases w with
  | attr v a =>
    simp only
    cases hi : (RM.attr v a).instance with
    | arg x t =>
      simp only [taint_at (hinst x t hi)]
      cases dget n x <;> rfl
    | _ => rfl
  | _ => rfl

theorem resolveArgs_callTree (npos : Nat) (va : Nat) (uva : Bool) (st : VState) :
    resolveArgs (plainConsts npos (if uva then .starred (.name va .load) .nil else .nil)) st =
      (List.replicate npos .unknown, st) := by
  rw [resolveArgs_plainConsts]
  cases uva <;> simp [resolveArgs]

theorem resolveKws_callTree (kws : List Nat) (vk : Nat) (uvk : Bool) (st : VState) :
    resolveKws (kwConsts kws (if uvk then .dstar (.name vk .load) .nil else .nil)) st =
      (kws.map (fun k => (k, RM.unknown)), st) := by
  rw [resolveKws_kwConsts]
  cases uvk <;> simp [resolveKws]

theorem starargs_callTree (h : MainName kids c x) (npos : Nat) (uva : Bool) (n : List (Nat × Entry))
    (i : List Nat) (cs : List CallRec) :
    starStep (plainConsts npos (if uva then .starred (.name x .load) .nil else .nil)) (mkAt c kids rev n i cs) =
      (if uva then some (starFound n x) else none, mkAt c kids rev n i cs) := by
  simp only [starStep, starCount_plainConsts, resolveOnlyStar_plainConsts]
  cases uva with
  | false => rfl
  | true => simp [ArgList.starCount, resolveOnlyStar, isNameNode, untaint_resolveCore_name h, resolveCore_callee (.name x .load) rfl]

theorem kwargs_callTree (h : MainName kids c x) (kws : List Nat) (uvk : Bool) (n : List (Nat × Entry))
    (i : List Nat) (cs : List CallRec) :
    dstarStep (kwConsts kws (if uvk then .dstar (.name x .load) .nil else .nil)) (mkAt c kids rev n i cs) =
      (if uvk then some (starFound n x) else none, mkAt c kids rev n i cs) := by
  simp only [dstarStep, dstarCount_kwConsts, resolveOnlyDstar_kwConsts]
  cases uvk with
  | false => rfl
  | true => simp [KwList.dstarCount, resolveOnlyDstar, isNameNode, untaint_resolveCore_name h, resolveCore_callee (.name x .load) rfl]

/-- namespace `c` is the main namespace itself, or — when the deferred calls are revisited — that of a nested
    function which binds none of the names the call uses -/
theorem visit_callTree_at (force : Bool) (va vk : Nat) (hva : MainName kids c va) (hvk : MainName kids c vk)
    (callee : Tree) (hc : isCalleeTree callee = true) (hroot : ∀ r, calleeRoot callee = some r → MainName kids c r)
    (npos : Nat) (kws : List Nat) (uva uvk : Bool) (n : List (Nat × Entry)) (i : List Nat) (cs : List CallRec)
    (hnow : (!force && ((mkAt c kids rev n i cs).ns c).parent.isSome) = false)
    (hinst : ∀ x t, (markerIn n callee).instance = .arg x t → MainName kids c x) :
    visit force (callTree va vk callee npos kws uva uvk) (mkAt c kids rev n i cs) =
      let n' := taintCallee n (markerIn n callee)
      let fa := if uva then some (starFound n' va) else none
      let fk := if uvk then some (starFound n' vk) else none
      mkAt c kids rev n' i (cs ++ [{ wrapped := markerIn n callee,
                                     args := List.replicate npos .unknown,
                                     kwargs := kws.map (fun k => (k, RM.unknown)),
                                     varargs := fa, varkwargs := fk,
                                     useVa := (hasHide fa true .va).1, useVk := (hasHide fk true .vk).1,
                                     hideA := (hasHide fa true .va).2, hideK := (hasHide fk true .vk).2 }]) := by
  have hres : resolveCore callee true (mkAt c kids rev n i cs) =
      ((markerIn n callee, (resolveCore callee true (mkAt c kids rev n i cs)).1.2), mkAt c kids rev n i cs) :=
    Prod.ext (Prod.ext (resolveCore_marker_at n i cs callee hc hroot) rfl) (resolveCore_callee callee hc true _)
  have hvis : (if isNameNode callee = true then mkAt c kids rev n i cs else visit false callee (mkAt c kids rev n i cs)) =
      mkAt c kids rev n i cs := by
    split
    · rfl
    · rename_i hn
      exact visit_callee_attr callee hc (by simpa using hn) _
  unfold callTree
  rw [visit_call_now _ _ _ _ _ hnow, hres]
  simp only [hvis, taintStep_at n i cs _ hinst, resolveArgs_callTree, resolveKws_callTree,
    starargs_callTree hva, kwargs_callTree hvk]
  rfl

theorem visit_callTree (va vk : Nat) (callee : Tree) (hc : isCalleeTree callee = true) (npos : Nat)
    (kws : List Nat) (uva uvk : Bool) (n : List (Nat × Entry)) (i : List Nat) (c : List CallRec) :
    visit false (callTree va vk callee npos kws uva uvk) (mk kids rev n i c) =
      let n' := taintCallee n (markerIn n callee)
      let fa := if uva then some (starFound n' va) else none
      let fk := if uvk then some (starFound n' vk) else none
      mk kids rev n' i (c ++ [{ wrapped := markerIn n callee,
                                args := List.replicate npos .unknown,
                                kwargs := kws.map (fun k => (k, RM.unknown)),
                                varargs := fa, varkwargs := fk,
                                useVa := (hasHide fa true .va).1, useVk := (hasHide fk true .vk).1,
                                hideA := (hasHide fa true .va).2, hideK := (hasHide fk true .vk).2 }]) :=
  visit_callTree_at false va vk (mainName_zero kids va) (mainName_zero kids vk) callee hc
    (fun r _ => mainName_zero kids r) npos kws uva uvk n i c rfl (fun x _ _ => mainName_zero kids x)

end Flat
end SV
