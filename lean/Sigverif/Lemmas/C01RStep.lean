/-
  Lemmas/C01RStep.lean — one `mergeStep` preserves the role invariant `RI`; the fate of the
  required positional parameters of both operands; and, from these, bucket-level acceptance of
  arbitrary call shapes sent back through a step and through the fold.
-/
import Sigverif.Lemmas.C01RJ
import Sigverif.Lemmas.C01Sound
namespace SV
variable {ρ : Roles} {IsIn : Nat → Prop} {l r m : Sorted}

structure RStepFacts (ρ : Roles) (IsIn : Nat → Prop) (l r m : Sorted) : Prop extends StepFacts l r m where
  ri : RI ρ IsIn m
  fl : ∀ p, (p ∈ l.pos ∨ p ∈ l.pok) → p.required = true → Fate ρ m.pos m.pok m.kwo l.pok p
  fr : ∀ p, (p ∈ r.pos ∨ p ∈ r.pok) → p.required = true → Fate ρ m.pos m.pok m.kwo r.pok p
  len : lenP9 m = cap9 l r

theorem RJ_init (hl : RI ρ IsIn l) (hr : RI ρ IsIn r) :
    RJ ρ l r (l.pos ++ l.pok) (r.pos ++ r.pok) (stK l r) := by
  obtain ⟨k1, k2, k3, -, -⟩ := stK_upd (l := l) (r := r) hl.kw.nodup_kwo hr.kw.nodup_kwo
  refine ⟨by rw [k1, k2]; trivial, fun p hp _ => .inr (List.mem_append.2 hp),
    fun p hp _ => .inr (List.mem_append.2 hp), ?_⟩
  rw [k3]; intro c hc
  exact Or.inl (mem_names_kwoK (mem_names_of_mem hc)).1

/-- the bound on a keyword-only parameter of an operand that is positional-or-keyword by role
    still holds of the result: that operand has no `*args`, so the result is not longer -/
theorem RI.kkwo_step (hl : RI ρ IsIn l) (F : StepFacts l r m) :
    ∀ a ∈ l.kwo, ρ.κ a.name = .ko ∨ (ρ.κ a.name = .pk ∧ m.va.isSome = false ∧
      m.pos.length + m.pok.length ≤ ρ.ι a.name) := by
  intro a ha
  rcases hl.kkwo a ha with h' | ⟨h1', h2', h3'⟩
  · exact Or.inl h'
  · refine Or.inr ⟨h1', by rw [F.va, h2']; rfl, ?_⟩
    rcases F.lenl with h' | h'
    · exact Nat.le_trans h' h3'
    · rw [h2'] at h'; cases h'

theorem RI.role {s : Sorted} (hs : RI ρ IsIn s) {q : Param} (hq : q ∈ s.pos ++ s.pok ∨ q ∈ s.kwo) :
    IsIn q.name ∧ restricts (ρ.κ q.name) q.kind := by
  rcases hq with hq | hq
  · rcases List.mem_append.1 hq with hq | hq
    · exact ⟨hs.isin q (.inl hq), hs.bk.pos q hq ▸ (hs.kpos q hq).imp Eq.symm fun e => ⟨e, .inl rfl⟩⟩
    · exact ⟨hs.isin q (.inr (.inl hq)), hs.bk.pok q hq ▸ .inl (hs.kpok q hq).symm⟩
  · exact ⟨hs.isin q (.inr (.inr hq)), hs.bk.kwo q hq ▸ (hs.kkwo q hq).imp Eq.symm fun e => ⟨e.1, .inr rfl⟩⟩

/-- the summary of a step from one walk: the zip position, the count and `RJ` ride along with C01's own invariants -/
theorem mergeStep_rfacts (hl : RI ρ IsIn l) (hr : RI ρ IsIn r) (h : mergeStep l r = .ok m) :
    RStepFacts ρ IsIn l r m := by
  obtain ⟨st2, A, B, c, W, P, hc, J2⟩ := mergeStep_walk (fun c xs ys st => Kept l r c st ∧ RJ ρ l r xs ys st)
    (fun _ _ _ _ _ _ _ s P z n ⟨hc, j⟩ =>
      ⟨hc.zstep trivial hl.bk hr.bk (Limbo9_of_RI hl hr) (Limbo9_of_RI hr hl) s z P,
        j.zstep trivial hl hr s P z n hc⟩)
    hl.bk hr.bk hl.kw hr.kw ⟨.init, RJ_init hl hr⟩ h
  have F := W.facts hl.kw hr.kw
  have hAsub : ∀ p ∈ A, p ∈ l.kwo := fun p hp => W.sub.lun p (W.movedL.mem hp).1
  have hBsub : ∀ p ∈ B, p ∈ r.kwo := fun p hp => W.sub.run p (W.movedR.mem hp).1
  have len : lenP9 m = cap9 l r := by rw [← hc.full P.done, lenP9, mlen, W.pos, W.pok]
  have fmono : ∀ {own p}, Fate ρ st2.pos st2.pok st2.kwo own p → Fate ρ m.pos m.pok m.kwo own p :=
    fun hf => by simpa [W.pos, W.pok, W.kwo] using hf.append [] [] (A ++ B)
  have kkL := RI.kkwo_step hl F
  have kkR := RI.kkwo_step hr F.swap
  -- names, and through them roles, come from the operands, and `restricts` is transitive
  have src : ∀ p, p ∈ m.pos ∨ p ∈ m.pok ∨ p ∈ m.kwo → IsIn p.name ∧ restricts (ρ.κ p.name) p.kind := by
    intro p hp
    obtain ⟨q, hq, hn, hk⟩ := mergeStep_source hl.bk hr.bk h hp
    have := hq.elim (hl.role ∘ .inl) fun hq => hq.elim (hl.role ∘ .inr) fun hq =>
      hq.elim (hr.role ∘ .inl) (hr.role ∘ .inr)
    exact hn ▸ ⟨this.1, restricts_trans this.2 hk⟩
  refine ⟨F, ⟨F.bk, F.nd, fun p hp => (src p hp).1, ?_, ?_, ?_, ?_⟩, ?_, ?_, len⟩
  · rw [W.pos, W.pok]; exact J2.j1
  · exact fun p hp => (F.bk.pos p hp ▸ (src p (.inl hp)).2).imp Eq.symm And.left
  · exact fun p hp => restricts_pk (F.bk.pok p hp ▸ (src p (.inr (.inl hp))).2)
  · intro p hp
    rw [W.kwo] at hp
    simp only [List.mem_append] at hp
    rcases hp with (hp | hp) | hp
    · rcases J2.kk p hp with h' | h' | ⟨hk, hva, hm⟩
      · obtain ⟨q, hq, hqn⟩ := mem_names.1 h'
        rw [← hqn]; exact kkL q hq
      · obtain ⟨q, hq, hqn⟩ := mem_names.1 h'
        rw [← hqn]; exact kkR q hq
      · exact Or.inr ⟨hk, F.va.trans hva, Nat.le_trans (Nat.le_of_eq len) hm⟩
    · exact kkL p (hAsub p hp)
    · exact kkR p (hBsub p hp)
  · intro p hp hr'
    exact (J2.fl p hp hr').elim fmono fun hf => nomatch hf
  · intro p hp hr'
    exact (J2.fr p hp hr').elim fmono fun hf => nomatch hf

theorem RStepFacts.swap {l r m : Sorted} (G : RStepFacts ρ IsIn l r m) : RStepFacts ρ IsIn r l m :=
  ⟨G.toStepFacts.swap, G.ri, G.fr, G.fl, G.len.trans cap9_comm⟩

theorem step_accB_left {l r m : Sorted} (hl : RI ρ IsIn l)
    (G : RStepFacts ρ IsIn l r m) {n : Nat} {K : List Nat}
    (h : accB m n K) : accB l n K := by
  obtain ⟨a1, a2, a3, a4⟩ := h
  -- a required positional parameter with a known fate is bound
  have key : ∀ (p : Param) (j : Nat), ρ.ι p.name = j →
      Fate ρ m.pos m.pok m.kwo l.pok p → j < n ∨ (p ∈ l.pok ∧ p.name ∈ K) := by
    intro p j hj hf
    rcases hf with ⟨c, hc, hcr, hci⟩ | ⟨⟨c, hc, hcn, hcr⟩ | ⟨c, hc, hcn, hcr⟩, ho⟩
    · rcases a3 _ c (IdxOK_at ρ G.ri.idx (List.mem_append_left _ hc)) hcr with h | ⟨h, _⟩
      · rw [← hj, ← hci]; exact Or.inl h
      · have k1 := G.bk.pos c hc; have k2 := G.bk.pok c h; rw [k1] at k2; cases k2
    · rcases a3 _ c (IdxOK_at ρ G.ri.idx (List.mem_append_right _ hc)) hcr with h | ⟨_, h⟩
      · rw [← hj, ← hcn]; exact Or.inl h
      · exact Or.inr ⟨ho, hcn ▸ h⟩
    · exact Or.inr ⟨ho, hcn ▸ a4 c hc hcr⟩
  refine ⟨?_, ?_, ?_, ?_⟩
  · rcases a1 with h | h
    · exact G.lenl.imp_left (Nat.le_trans h)
    · rw [G.va] at h; simp only [Bool.and_eq_true] at h; exact Or.inr h.1
  · intro k hk
    rcases a2 k hk with h | h | h
    · obtain ⟨p, hp, rfl⟩ := mem_names.1 h; exact (G.orig p (Or.inl hp)).1
    · obtain ⟨p, hp, rfl⟩ := mem_names.1 h; exact (G.orig p (Or.inr hp)).1
    · rw [G.vk] at h; simp only [Bool.and_eq_true] at h; exact Or.inr (Or.inr h.1)
  · intro j p hj hr'
    have hp : p ∈ l.pos ∨ p ∈ l.pok := List.mem_append.1 (List.mem_of_getElem? hj)
    have hi := IdxOK_getElem ρ hl.idx j p hj
    exact key p j (hi.trans (Nat.zero_add j)) (G.fl p hp hr')
  · intro p hp hr'
    obtain ⟨c, hc, hcn, hcr⟩ := G.kwo p.name (Or.inl ⟨p, hp, rfl, hr'⟩)
    exact hcn ▸ a4 c hc hcr

theorem step_accB {l r m : Sorted} (hl : RI ρ IsIn l) (hr : RI ρ IsIn r)
    (G : RStepFacts ρ IsIn l r m) {n : Nat} {K : List Nat}
    (h : accB m n K) : accB l n K ∧ accB r n K :=
  ⟨step_accB_left hl G h, step_accB_left hr G.swap h⟩

theorem mergeStep_accB {l r m : Sorted} {n : Nat} {K : List Nat} (hl : RI ρ IsIn l)
    (hr : RI ρ IsIn r) (h : mergeStep l r = .ok m) :
    RI ρ IsIn m ∧ (accB m n K → accB l n K ∧ accB r n K) :=
  have G := mergeStep_rfacts hl hr h
  ⟨G.ri, step_accB hl hr G⟩

theorem mergeFold_accB (ss : List USig) (acc res : Sorted) (hacc : RI ρ IsIn acc)
    (hss : ∀ s ∈ ss, RI ρ IsIn (sortParams s)) (h : mergeFold acc ss = .ok res) :
    RI ρ IsIn res ∧
    (∀ n K, accB res n K → accB acc n K ∧ ∀ s ∈ ss, accB (sortParams s) n K) :=
  ⟨(mergeFold_back (P := (accB · 0 [])) mergeStep_accB ss acc res hacc hss h).1,
    fun n K => (mergeFold_back (P := (accB · n K)) mergeStep_accB ss acc res hacc hss h).2⟩

end SV
