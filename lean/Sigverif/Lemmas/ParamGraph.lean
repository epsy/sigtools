/-
  Lemmas/ParamGraph.lean — the relation `b = f a` for a metadata map `f`, on the parameters `a`
  satisfying an invariant `P` of the algebra.  Related runs then say two things at once: `P` holds
  of every parameter of the result, and the operation commutes with mapping `f` over the parameters
  (and any map `g` over the return annotation) of its inputs.  With `f := id` this is preservation
  of the invariant alone, with `P := True` commutation alone.
-/
import Sigverif.Lemmas.ParamRelMask
namespace SV
section
variable {f : Param → Param} {P : Param → Prop}

def Gr (f : Param → Param) (P : Param → Prop) (a b : Param) : Prop := P a ∧ b = f a

theorem Gr.paramRel0 (hf : MetaMap f) (hc : ClosedP P) : ParamRel0 (Gr f P) where
  name h := h.2 ▸ hf.name _
  kind h := h.2 ▸ hf.kind _
  dflt h := h.2 ▸ hf.dflt _
  withKind k h := ⟨hc.kind _ k h.1, by rw [h.2, hf.withKind]⟩
  withDflt d h := ⟨hc.dflt _ d h.1, by rw [h.2, hf.withDflt]⟩

theorem Gr.paramRel (hf : MetaMap f) (hc : ClosedP P) (hcomm : ConcComm f P) : ParamRel (Gr f P) where
  toParamRel0 := Gr.paramRel0 hf hc
  concile h k := ⟨hc.concile _ _ h.1 k.1, by rw [h.2, k.2, hcomm _ _ h.1 k.1]⟩

theorem lrel_gr {xs ys : List Param} : LRel (Gr f P) xs ys ↔ AllP P xs ∧ ys = xs.map f := by
  constructor
  · intro h
    induction h with
    | nil => exact ⟨AllP.nil, rfl⟩
    | cons x _ ih => exact ⟨List.forall_mem_cons.2 ⟨x.1, ih.1⟩, by rw [x.2, ih.2]; rfl⟩
  · rintro ⟨h, rfl⟩
    induction xs with
    | nil => exact .nil
    | cons x xs ih => exact .cons ⟨h.head, rfl⟩ (ih h.tail)

theorem sigRel_gr (g : RetMap) (s s' : USig) :
    SigRel (Gr f P) (fun a b => b = g a) s s' ↔ AllP P s.params ∧ s' = mapRet g (mapSig f s) := by
  constructor
  · rintro ⟨h1, h2, h3, h4⟩
    obtain ⟨k1, k2⟩ := lrel_gr.1 h1
    obtain ⟨_, _, _, rt, urt⟩ := s'
    cases h2; cases h3; cases k2
    have e1 : rt = _ := congrArg Prod.fst h4
    have e2 : urt = _ := congrArg Prod.snd h4
    subst e1 e2
    exact ⟨k1, rfl⟩
  · rintro ⟨h, rfl⟩
    exact ⟨lrel_gr.2 ⟨h, rfl⟩, rfl, rfl, rfl⟩

theorem erel_graph {α : Type} {Q : α → α → Prop} {A : α → Prop} {h : α → α} (hQ : ∀ a b, Q a b ↔ A a ∧ b = h a)
    {e e' : Except Err α} (k : ERel Q e e') : OkAll A e ∧ e' = e.map h := by
  cases k with
  | ok k => exact ⟨.ok ((hQ _ _).1 k).1, by rw [((hQ _ _).1 k).2]; rfl⟩
  | error e => exact ⟨.error, rfl⟩

theorem x11_WF_map (hf : MetaMap f) {ps : List Param} (h : WF ps) : WF (ps.map f) :=
  WF_rel (Gr.paramRel0 hf true_closed) (lrel_gr.2 ⟨allTrue ps, rfl⟩) h

theorem sigsRel_gr (g : RetMap) {ss : List USig} (hss : ∀ s ∈ ss, AllP P s.params) :
    SigsRel (Gr f P) ss (ss.map fun s => mapRet g (mapSig f s)) := by
  induction ss with
  | nil => exact .nil
  | cons s ss ih =>
    obtain ⟨hs, hss⟩ := List.forall_mem_cons.1 hss
    exact .cons ⟨lrel_gr.2 ⟨hs, rfl⟩, rfl, rfl, trivial⟩ (ih hss)

theorem id_metaMap : MetaMap id := ⟨fun _ => rfl, fun _ => rfl, fun _ => rfl, fun _ _ => rfl, fun _ _ => rfl⟩

theorem id_concComm : ConcComm id P := fun _ _ _ _ => rfl

theorem mapSig_id : mapSig id = id := by
  funext s; simp only [mapSig, List.map_id, id]

theorem merge_graph (hf : MetaMap f) (hc : ClosedP P) (hcomm : ConcComm f P) (g : RetMap) (ss : List USig)
    (hss : ∀ s ∈ ss, AllP P s.params) :
    OkAll (fun R => AllP P R.params) (merge ss) ∧
      merge (ss.map fun s => mapRet g (mapSig f s)) = (merge ss).map fun s => mapRet g (mapSig f s) := by
  cases ss with
  | nil => exact ⟨.error, rfl⟩
  | cons s ss =>
    obtain ⟨hs, hss⟩ := List.forall_mem_cons.1 hss
    exact erel_graph (sigRel_gr g)
      (merge_rel (Gr.paramRel hf hc hcomm) ((sigRel_gr g _ _).2 ⟨hs, rfl⟩) (sigsRel_gr g hss))

theorem embed_graph (hf : MetaMap f) (hc : ClosedP P) (hcomm : ConcComm f P) (g : RetMap) (uva uvk : Bool)
    (ss : List USig) (hss : ∀ s ∈ ss, AllP P s.params) :
    OkAll (fun R => AllP P R.params) (embed uva uvk ss) ∧
      embed uva uvk (ss.map fun s => mapRet g (mapSig f s)) =
        (embed uva uvk ss).map fun s => mapRet g (mapSig f s) := by
  cases ss with
  | nil => exact ⟨.error, rfl⟩
  | cons s ss =>
    obtain ⟨hs, hss⟩ := List.forall_mem_cons.1 hss
    exact erel_graph (sigRel_gr g)
      (embed_rel (Gr.paramRel hf hc hcomm) uva uvk ((sigRel_gr g _ _).2 ⟨hs, rfl⟩) (sigsRel_gr g hss))

theorem maskCore_graph (hf : MetaMap f) (hc : ClosedP P) (g : RetMap) (sig : USig) (n : Nat) (h : HideFlags)
    (named : List (Nat × Nat)) (pobj : Option Nat) (hfresh : pobj ≠ none → FreshP P ∧ FreshFix f)
    (hsig : AllP P sig.params) :
    OkAll (fun R => AllP P R.params) (maskCore sig n h named pobj) ∧
      maskCore (mapRet g (mapSig f sig)) n h named pobj =
        (maskCore sig n h named pobj).map fun s => mapRet g (mapSig f s) :=
  erel_graph (sigRel_gr g) (maskCore_rel (Gr.paramRel0 hf hc) ((sigRel_gr g _ _).2 ⟨hsig, rfl⟩) n h named pobj
    fun hp n v => ⟨(hfresh hp).1 n v, ((hfresh hp).2 n v).symm⟩)

theorem mask_graph (hf : MetaMap f) (hc : ClosedP P) (g : RetMap) (sig : USig) (n : Nat) (nms : List Nat)
    (h : HideFlags) (hsig : AllP P sig.params) :
    OkAll (fun R => AllP P R.params) (mask sig n nms h) ∧
      mask (mapRet g (mapSig f sig)) n nms h = (mask sig n nms h).map fun s => mapRet g (mapSig f s) :=
  maskCore_graph hf hc g sig n h _ none (fun k => absurd rfl k) hsig

theorem maskPartial_graph (hf : MetaMap f) (hc : ClosedP P) (hfresh : FreshP P) (hfix : FreshFix f) (g : RetMap)
    (sig : USig) (n : Nat) (kw : List (Nat × Nat)) (pobj : Nat) (hsig : AllP P sig.params) :
    OkAll (fun R => AllP P R.params) (maskPartial sig n kw pobj) ∧
      maskPartial (mapRet g (mapSig f sig)) n kw pobj =
        (maskPartial sig n kw pobj).map fun s => mapRet g (mapSig f s) :=
  maskCore_graph hf hc g sig n {} kw (some pobj) (fun _ => ⟨hfresh, hfix⟩) hsig

theorem forwards_graph (hf : MetaMap f) (hc : ClosedP P) (hcomm : ConcComm f P) (g g' : RetMap) (outer inner : USig)
    (n : Nat) (nms : List Nat) (ha hk uva uvk part : Bool) (ho : AllP P outer.params) (hi : AllP P inner.params) :
    OkAll (fun R => AllP P R.params) (forwards outer inner n nms ha hk uva uvk part) ∧
      forwards (mapRet g (mapSig f outer)) (mapRet g' (mapSig f inner)) n nms ha hk uva uvk part =
        (forwards outer inner n nms ha hk uva uvk part).map fun s => mapRet g (mapSig f s) :=
  erel_graph (sigRel_gr g) (forwards_rel (Gr.paramRel hf hc hcomm) ((sigRel_gr g _ _).2 ⟨ho, rfl⟩)
    ((sigRel_gr g' _ _).2 ⟨hi, rfl⟩) n nms ha hk uva uvk part)

end
end SV
