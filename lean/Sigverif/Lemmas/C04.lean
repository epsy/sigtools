/-
  Lemmas/C04.lean — forwards = embed ∘ mask, and `composite` on the masked inner signature in
  terms of `accepts` on the two inputs.
-/
import Sigverif.Lemmas.C02Main
import Sigverif.Props.C03
namespace SV

theorem forwards_false_eq (o i : USig) (n : Nat) (nms : List Nat) (ha hk uva uvk : Bool) :
    forwards o i n nms ha hk uva uvk false =
      (mask i n nms { args := ha, kwargs := hk } >>= fun m => embed uva uvk [o, m]) := rfl

theorem forwards_false_ok {o i R : USig} {n : Nat} {nms : List Nat} {ha hk uva uvk : Bool}
    (h : forwards o i n nms ha hk uva uvk false = .ok R) :
    ∃ M, mask i n nms { args := ha, kwargs := hk } = .ok M ∧ embed uva uvk [o, M] = .ok R :=
  bind_eq_ok h

theorem forwards_true_eq (o i : USig) (n : Nat) (nms : List Nat) (ha hk uva uvk : Bool) :
    forwards o i n nms ha hk uva uvk true =
      (validate (partialParams i.params) >>= fun _ =>
        mask { i with params := partialParams i.params } n nms { args := ha, kwargs := hk } >>=
          fun m => embed uva uvk [o, m]) := by
  simp only [forwards_eq, forwardsInner, if_true]
  cases validate _ <;> rfl

theorem forwards_true_ok {o i R : USig} {n : Nat} {nms : List Nat} {ha hk uva uvk : Bool}
    (h : forwards o i n nms ha hk uva uvk true = .ok R) :
    validate (partialParams i.params) = .ok () ∧
    ∃ M, mask { i with params := partialParams i.params } n nms { args := ha, kwargs := hk } = .ok M ∧
      embed uva uvk [o, M] = .ok R := by
  rw [forwards_true_eq] at h
  obtain ⟨⟨⟩, hv, h⟩ := bind_eq_ok h
  exact ⟨hv, bind_eq_ok h⟩

/-- for closed inputs: `mask` evaluates as it stands, `embed` through `embedParamsC` -/
theorem forwards_false_ok_of {o i M : USig} {n : Nat} {nms : List Nat} {ha hk uva uvk : Bool}
    {ps : List Param}
    (hM : mask i n nms { args := ha, kwargs := hk } = .ok M)
    (hE : embedParamsC o M uva uvk = .ok ps) :
    ∃ R, forwards o i n nms ha hk uva uvk false = .ok R ∧ R.params = ps := by
  rw [forwards_false_eq, hM]
  exact embed_two_ok_of hE

theorem forwards_true_ok_of {o i M : USig} {n : Nat} {nms : List Nat} {ha hk uva uvk : Bool}
    {ps : List Param}
    (hv : validate (partialParams i.params) = .ok ())
    (hM : mask { i with params := partialParams i.params } n nms { args := ha, kwargs := hk } = .ok M)
    (hE : embedParamsC o M uva uvk = .ok ps) :
    ∃ R, forwards o i n nms ha hk uva uvk true = .ok R ∧ R.params = ps := by
  rw [forwards_true_eq, hv, hM]
  exact embed_two_ok_of hE

theorem embed_kwNames_subset {o i R : USig} {uva uvk : Bool} (ho : WF o.params) (hi : WF i.params)
    (hR : embed uva uvk [o, i] = .ok R) :
    ∀ x ∈ kwNames R.params, x ∈ kwNames o.params ∨ x ∈ kwNames i.params := by
  obtain ⟨r, hRr, hkr, F⟩ := embed_merge_tail_facts ho hi hR
  intro x hx
  rw [hRr, kwNames_all hkr, ← names_append] at hx
  rw [kwNames_sortParams ho, kwNames_sortParams hi]
  exact (F.kw_cut x hx).imp_right And.right

theorem mask_names_subset {sig R : USig} {n : Nat} {nms : List Nat} {h : HideFlags}
    (hwf : WF sig.params) (hR : mask sig n nms h = .ok R) :
    ∀ x ∈ names R.params, x ∈ names sig.params := by
  intro x hx
  obtain ⟨p, hp, rfl⟩ := mem_names.1 hx
  obtain ⟨q, hq, hqn, -⟩ := (mask_hide_removes sig R n nms h hwf hR).1 p hp
  rw [← hqn]
  exact mem_names_of_mem hq

theorem nonColl_outer_masked {o i R M : USig} {n : Nat} {nms K : List Nat} {h : HideFlags}
    (hi : WF i.params) (hM : mask i n nms h = .ok M)
    (hnc : nonColl R.params [o.params, i.params] K) :
    nonColl R.params [o.params, M.params] K := by
  intro k hk
  rcases hnc k hk with h1 | h1
  · exact .inl h1
  · right
    intro s hs
    simp only [List.mem_cons, List.not_mem_nil, or_false] at hs
    rcases hs with rfl | rfl
    · exact h1 _ (by simp)
    · intro hc
      exact h1 i.params (by simp) (mask_names_subset hi hM k hc)

theorem nonColl_masked {o i R M : USig} {n : Nat} {nms K : List Nat} {uva uvk : Bool}
    (ho : WF o.params) (hi : WF i.params)
    (hM : mask i n nms {} = .ok M) (hE : embed uva uvk [o, M] = .ok R)
    (hnc : nonColl R.params [o.params, i.params] K) :
    nonColl M.params [i.params]
      (if uvk then K.filter (fun k => !(kwNames o.params).contains k) else []) := by
  have hMwf := mask_wf i M n nms {} hi hM
  intro k hk
  split at hk
  · obtain ⟨hkK, hno⟩ := List.mem_filter.1 hk
    have hno' : k ∉ kwNames o.params := by simpa using hno
    rcases hnc k hkK with h1 | h1
    · rcases embed_kwNames_subset ho hMwf hE k h1 with h2 | h2
      · exact absurd h2 hno'
      · exact .inl h2
    · right
      intro s hs
      simp only [List.mem_cons, List.not_mem_nil, or_false] at hs
      subst hs
      exact h1 _ (by simp)
  · cases hk

/-- `composite` on the masked inner = the wrapper's execution model -/
theorem composite_masked {o i R M : USig} {n : Nat} {nms K : List Nat} {uva uvk : Bool} (m : Nat)
    (ho : WF o.params) (hi : WF i.params) (hn : nms.Nodup) (hK : K.Nodup)
    (hdisj : ∀ k ∈ K, k ∉ nms)
    (hM : mask i n nms {} = .ok M) (hE : embed uva uvk [o, M] = .ok R)
    (hnc : nonColl R.params [o.params, i.params] K) :
    composite o.params M.params uva uvk m K =
      (accepts o.params m K &&
       accepts i.params (n + (if uva then m - (positionals o.params).length else 0))
         (nms ++ (if uvk then K.filter (fun k => !(kwNames o.params).contains k) else []))) := by
  unfold composite
  congr 1
  have hnc' := nonColl_masked ho hi hM hE hnc
  cases uvk
  · exact mask_accepts_iff hi hn List.nodup_nil (fun _ hk => nomatch hk) hM hnc'
  · exact mask_accepts_iff hi hn (hK.sublist List.filter_sublist)
      (fun k hk => hdisj k (List.mem_filter.1 hk).1) hM hnc'

end SV
