/-
  Lemmas/LawsKinds.lean — every bucket of the merger state, hence of the result of a merge step,
  only holds parameters of its kind.
-/
import Sigverif.Lemmas.Core.Sort
import Sigverif.Lemmas.MergeStep
namespace SV

structure BkKinds (b : Bk) : Prop where
  pos : AllKind .po b.pos
  pok : AllKind .pk b.pok
  kwo : AllKind .ko b.kwo
  lUn : AllKind .ko b.lUn
  rUn : AllKind .ko b.rUn

theorem AllKind.append_one {k : Kind} {ps : List Param} {p : Param} (h : AllKind k ps) (hp : p.kind = k) :
    AllKind k (ps ++ [p]) := by
  intro q hq
  simp only [List.mem_append, List.mem_singleton] at hq
  rcases hq with hq | rfl
  · exact h q hq
  · exact hp

theorem AllKind.pset {k : Kind} {ps : List Param} {p : Param} (h : AllKind k ps) (hp : p.kind = k) :
    AllKind k (pset ps p) := by
  intro q hq
  rcases mem_pset hq with hq | rfl
  · exact h q hq
  · exact hp

theorem AllKind.ppop {k : Kind} {ps : List Param} (n : Nat) (h : AllKind k ps) : AllKind k (ppop ps n) := by
  intro q hq
  exact h q (List.mem_filter.1 hq).1

theorem AllKind.flush {ps qs : List Param} {e : Param} (h : AllKind .po ps) (he : e.kind = .po) :
    AllKind .po (ps ++ qs.map (·.withKind .po) ++ [e]) := by
  intro q hq
  simp only [List.mem_append, List.mem_map, List.mem_singleton] at hq
  rcases hq with (hq | ⟨x, _, rfl⟩) | rfl
  · exact h q hq
  · rfl
  · exact he

theorem Put.kinds {K : Prop} (k : K) {e : Param} {b b' : Bk} (ha : Put K e b b') (h : BkKinds b) : BkKinds b' := by
  cases ha with
  | pos _ hk => exact { h with pos := h.pos.append_one (hk k) }
  | pok hk => exact { h with pok := h.pok.append_one (hk k) }
  | kwo hk => exact { h with kwo := h.kwo.pset hk }
  | flush hk => exact { h with pos := h.pos.flush hk, pok := AllKind.nil }

theorem MStep.kinds {K : Prop} (k : K) {l r : Sorted} (xs ys : List Param) (st : MState) (xs' ys' : List Param)
    (st' : MState) (s : MStep K l r xs ys st xs' ys' st') (h : BkKinds st.bk) : BkKinds st'.bk := by
  induction s with
  | both _ _ _ _ _ _ _ _ _ _ _ ha | bothR _ _ _ _ _ _ _ _ _ _ _ ha | left _ _ _ _ _ _ _ _ _ ha
  | right _ _ _ _ _ _ _ _ _ ha => exact ha.kinds k h
  | leftDrop | rightDrop => exact h
  | leftLimbo _ _ _ _ _ _ _ _ hk => exact { h with kwo := h.kwo.pset hk, rUn := h.rUn.ppop _ }
  | rightLimbo _ _ _ _ _ _ _ _ hk => exact { h with kwo := h.kwo.pset hk, lUn := h.lUn.ppop _ }

theorem AllKind.pupdate {k : Kind} {d e : List Param} (hd : AllKind k d) (he : AllKind k e) :
    AllKind k (pupdate d e) := by
  intro p hp
  rcases mem_pupdate hp with hp | hp
  · exact hd p hp
  · exact he p hp

theorem WStep.kinds {K : Prop} (k : K) {l r : Sorted} (xs ys : List Param) (c : WState) (xs' ys' : List Param)
    (c' : WState) (s : WStep K l r xs ys c xs' ys' c')
    (h : AllKind .ko c.kl ∧ AllKind .ko c.kr ∧ BkKinds c.st.bk) :
    AllKind .ko c'.kl ∧ AllKind .ko c'.kr ∧ BkKinds c'.st.bk := by
  obtain ⟨h1, h2, h⟩ := h
  induction s with
  | kw p q => exact ⟨h1.tail, h2, { h with kwo := h.kwo.pset h1.head }⟩
  | kwL p => exact ⟨h1.tail, h2, { h with lUn := h.lUn.pset h1.head }⟩
  | kwSkip p => exact ⟨h1, h2.tail, h⟩
  | kwR p => exact ⟨h1, h2.tail, { h with rUn := h.rUn.pset h2.head }⟩
  | pq s => exact ⟨h1, h2, MStep.kinds k _ _ _ _ _ _ s h⟩
  | unL => exact ⟨h1, h2, { h with kwo := h.kwo.pupdate h.lUn }⟩
  | unR => exact ⟨h1, h2, { h with kwo := h.kwo.pupdate h.rUn }⟩

theorem mergeStep_bk (l r s : Sorted) (hl : BucketKinds l) (hr : BucketKinds r)
    (h : mergeStep l r = .ok s) : BucketKinds s := by
  obtain ⟨st, run, rfl⟩ := mergeStep_runs (K := True) (fun _ => ⟨hl, hr⟩) h
  have k := (Runs.inv (fun _ _ (c : WState) => AllKind .ko c.kl ∧ AllKind .ko c.kr ∧ BkKinds c.st.bk)
    (WStep.kinds trivial) run
    ⟨hl.kwo, hr.kwo, AllKind.nil, AllKind.nil, AllKind.nil, AllKind.nil, AllKind.nil⟩).2.2
  exact ⟨k.pos, k.pok, addStarargs_kind _ _ _ _ _ _ _ _ hl.va hr.va, k.kwo,
    addStarargs_kind _ _ _ _ _ _ _ _ hl.vk hr.vk⟩

end SV
