/-
  Lemmas/MergePhases.lean — the helpers of a merge step (`_merge_unbalanced_pos`,
  `_merge_unbalanced_pok`, `_merge_unmatched_kwoargs`), each described once and for either side:
  every outcome, its condition and the whole resulting state.  A proof does a `cases` on these:
  `cases h ▸ unbalancedPok_out side l r ex st`.
-/
import Sigverif.Lemmas.Core.Except
import Sigverif.Lemmas.Core.Validate
namespace SV

/-- with `side` the side a left-over parameter comes from, `side.pick l r` is its operand and
    `side.pick r l` the other one -/
def Side.pick {α : Sort _} (side : Side) (a b : α) : α := match side with | .L => a | .R => b

@[simp] theorem Side.pick_L {α : Sort _} (a b : α) : Side.L.pick a b = a := rfl
@[simp] theorem Side.pick_R {α : Sort _} (a b : α) : Side.R.pick a b = b := rfl

theorem isSome_of_not_isNone {α : Type} {o : Option α} (h : ¬o.isNone = true) : o.isSome = true := by
  cases o
  · exact absurd rfl h
  · rfl

/-- The outcomes of `_merge_unbalanced_pos` for a parameter `ex` of the operand on `side`, given
    what is left of the other operand's positional-or-keyword parameters. -/
inductive PosOut (side : Side) (l r : Sorted) (ex : Param) (st : MState) :
    List Param → Except Err (MState × List Param) → Prop
  | pull (o : Param) (rest : List Param) : PosOut side l r ex st (o :: rest)
      (.ok ({ st with
        pos := st.pos ++ [concile ex o],
        src := if ex.name = o.name
               then addSources st.src ex.name [side.pick l.src r.src, side.pick r.src l.src]
               else addSources st.src ex.name [side.pick l.src r.src] }, rest))
  /-- kept under the other side's `*args`, which is thereby used up -/
  | star (hva : (side.pick r.va l.va).isSome = true) : PosOut side l r ex st []
      (.ok (side.pick
        { st with pos := st.pos ++ [ex],
                  src := addSources st.src ex.name [side.pick l.src r.src], vaR := false }
        { st with pos := st.pos ++ [ex],
                  src := addSources st.src ex.name [side.pick l.src r.src], vaL := false }, []))
  | raise (hva : (side.pick r.va l.va).isSome = false) (hd : ex.required = true) :
      PosOut side l r ex st [] (.error .valueError)
  | drop (hva : (side.pick r.va l.va).isSome = false) (hd : ex.dflt.isSome = true) :
      PosOut side l r ex st [] (.ok (st, []))

theorem unbalancedPos_out (side : Side) (l r : Sorted) (ex : Param) (cf : List Param) (st : MState) :
    PosOut side l r ex st cf (unbalancedPos side l r ex cf st) := by
  fun_cases unbalancedPos side l r ex cf st
  next o rest => exact .pull o rest
  next hva _ => cases side <;> exact .star hva
  next hva hd => exact .raise (Bool.eq_false_iff.2 hva) hd
  next hva hd => exact .drop (Bool.eq_false_iff.2 hva) (isSome_of_not_isNone hd)

/-- The outcomes of `_merge_unbalanced_pok` for a parameter `ex` of the operand on `side`. -/
inductive PokOut (side : Side) (l r : Sorted) (ex : Param) (st : MState) : Except Err MState → Prop
  /-- the other side has an unmatched keyword-only parameter of that name: the two are conciled
      into a keyword-only parameter -/
  | limbo (q : Param) (hq : pget (side.pick st.rUn st.lUn) ex.name = some q) : PokOut side l r ex st
      (.ok (side.pick
        { st with kwo := pset st.kwo ((concile ex q).withKind .ko),
                  src := addSources st.src ex.name [side.pick r.src l.src, side.pick l.src r.src],
                  rUn := ppop st.rUn ex.name }
        { st with kwo := pset st.kwo ((concile ex q).withKind .ko),
                  src := addSources st.src ex.name [side.pick r.src l.src, side.pick l.src r.src],
                  lUn := ppop st.lUn ex.name }))
  | keep (hq : pget (side.pick st.rUn st.lUn) ex.name = none)
      (hva : (side.pick r.va l.va).isSome = true) (hvk : (side.pick r.vk l.vk).isSome = true) :
      PokOut side l r ex st
        (.ok { st with pok := st.pok ++ [ex],
                       src := addSources st.src ex.name [side.pick l.src r.src] })
  | kwo (hq : pget (side.pick st.rUn st.lUn) ex.name = none)
      (hva : (side.pick r.va l.va).isSome = false) (hvk : (side.pick r.vk l.vk).isSome = true) :
      PokOut side l r ex st
        (.ok { st with kwo := pset st.kwo (ex.withKind .ko),
                       src := addSources st.src ex.name [side.pick l.src r.src] })
  | flush (hq : pget (side.pick st.rUn st.lUn) ex.name = none)
      (hva : (side.pick r.va l.va).isSome = true) (hvk : (side.pick r.vk l.vk).isSome = false) :
      PokOut side l r ex st
        (.ok { st with pos := st.pos ++ st.pok.map (·.withKind .po) ++ [ex.withKind .po],
                       pok := [],
                       src := addSources st.src ex.name [side.pick l.src r.src] })
  | raise (hq : pget (side.pick st.rUn st.lUn) ex.name = none)
      (hva : (side.pick r.va l.va).isSome = false) (hvk : (side.pick r.vk l.vk).isSome = false)
      (hd : ex.required = true) : PokOut side l r ex st (.error .valueError)
  | drop (hq : pget (side.pick st.rUn st.lUn) ex.name = none)
      (hva : (side.pick r.va l.va).isSome = false) (hvk : (side.pick r.vk l.vk).isSome = false)
      (hd : ex.dflt.isSome = true) : PokOut side l r ex st (.ok st)

theorem unbalancedPok_out (side : Side) (l r : Sorted) (ex : Param) (st : MState) :
    PokOut side l r ex st (unbalancedPok side l r ex st) := by
  fun_cases unbalancedPok side l r ex st
  next q hq _ => cases side <;> exact .limbo q hq
  next hq h =>
    rw [Bool.and_eq_true] at h
    exact .keep hq h.1 h.2
  next hq h hvk =>
    refine .kwo hq ?_ hvk
    cases hva : (side.pick r.va l.va).isSome
    · rfl
    · exact absurd (Bool.and_eq_true _ _ ▸ ⟨hva, hvk⟩) h
  next hq _ hvk hva => exact .flush hq hva (Bool.eq_false_iff.2 hvk)
  next hq _ hvk hva hd => exact .raise hq (Bool.eq_false_iff.2 hva) (Bool.eq_false_iff.2 hvk) hd
  next hq _ hvk hva hd =>
    exact .drop hq (Bool.eq_false_iff.2 hva) (Bool.eq_false_iff.2 hvk) (isSome_of_not_isNone hd)

/-- The outcomes of `_merge_unmatched_kwoargs` for the operand on `side`. -/
inductive UnmatchedOut (side : Side) (l r : Sorted) (st : MState) : Except Err MState → Prop
  | none (hun : side.pick st.lUn st.rUn = []) : UnmatchedOut side l r st (.ok st)
  /-- the other side's `**kwargs` takes them all, and is thereby used up -/
  | take (hun : side.pick st.lUn st.rUn ≠ []) (hvk : (side.pick r.vk l.vk).isSome = true) :
      UnmatchedOut side l r st
        (.ok (side.pick
          { st with kwo := pupdate st.kwo st.lUn, src := addAllSources st.src st.lUn l.src,
                    vkR := false }
          { st with kwo := pupdate st.kwo st.rUn, src := addAllSources st.src st.rUn r.src,
                    vkL := false }))
  | raise (hvk : (side.pick r.vk l.vk).isSome = false)
      (hd : (side.pick st.lUn st.rUn).any (·.dflt.isNone) = true) :
      UnmatchedOut side l r st (.error .valueError)
  | drop (hvk : (side.pick r.vk l.vk).isSome = false)
      (hd : ∀ p ∈ side.pick st.lUn st.rUn, p.dflt.isSome = true) : UnmatchedOut side l r st (.ok st)

theorem mergeUnmatched_out (side : Side) (l r : Sorted) (st : MState) :
    UnmatchedOut side l r st (mergeUnmatched side l r st) := by
  fun_cases mergeUnmatched side l r st
  next he => exact .none (List.isEmpty_iff.1 he)
  next he hvk _ => cases side <;> exact .take (fun h => he (List.isEmpty_iff.2 h)) hvk
  next _ hvk hd => exact .raise (Bool.eq_false_iff.2 hvk) hd
  next _ hvk hd =>
    exact .drop (Bool.eq_false_iff.2 hvk) fun p hp =>
      isSome_of_not_isNone (List.any_eq_false.1 (Bool.eq_false_iff.2 hd) p hp)

/-- Every iteration of phase P carries `I`, a predicate on the four lists and the state, forward. -/
structure CarriedP (l r : Sorted)
    (I : List Param → List Param → List Param → List Param → MState → Prop) : Prop where
  pair : ∀ (lp rp : Param) (ls rs il ir : List Param) (st : MState),
    I (lp :: ls) (rp :: rs) il ir st →
      I ls rs il ir { st with
        pos := st.pos ++ [concile lp rp],
        src := if lp.name = rp.name then addSources st.src lp.name [l.src, r.src]
               else addSources st.src lp.name [l.src] }
  left : ∀ (lp : Param) (ls il ir : List Param) (st st1 : MState) (ir1 : List Param),
    unbalancedPos .L l r lp ir st = .ok (st1, ir1) → I (lp :: ls) [] il ir st → I ls [] il ir1 st1
  right : ∀ (rp : Param) (rs il ir : List Param) (st st1 : MState) (il1 : List Param),
    unbalancedPos .R l r rp il st = .ok (st1, il1) → I [] (rp :: rs) il ir st → I [] rs il1 ir st1

theorem phaseP_out {l r : Sorted}
    (I : List Param → List Param → List Param → List Param → MState → Prop)
    (hc : CarriedP l r I)
    {ls rs il ir : List Param} {st : MState} (hI : I ls rs il ir st) :
    match phaseP l r ls rs il ir st with
    | .ok (st', il', ir') => I [] [] il' ir' st'
    | .error e =>
      (∃ lp ls il ir st, I (lp :: ls) [] il ir st ∧ unbalancedPos .L l r lp ir st = .error e) ∨
      (∃ rp rs il ir st, I [] (rp :: rs) il ir st ∧ unbalancedPos .R l r rp il st = .error e) := by
  fun_induction phaseP l r ls rs il ir st with
  | case1 il ir st => exact hI
  | case2 lp ls rp rs il ir st st1 ih => exact ih (hc.pair _ _ _ _ _ _ _ hI)
  | case3 lp ls il ir st ih =>
    cases h1 : unbalancedPos .L l r lp ir st with
    | error e => exact .inl ⟨_, _, _, _, _, hI, h1⟩
    | ok a => exact ih _ _ (hc.left _ _ _ _ _ _ _ h1 hI)
  | case4 rp rs il ir st ih =>
    cases h1 : unbalancedPos .R l r rp il st with
    | error e => exact .inr ⟨_, _, _, _, _, hI, h1⟩
    | ok a => exact ih _ _ (hc.right _ _ _ _ _ _ _ h1 hI)

theorem phaseP_loop {l r : Sorted}
    (I : List Param → List Param → List Param → List Param → MState → Prop)
    (hc : CarriedP l r I)
    {ls rs il ir : List Param} {st st' : MState} {il' ir' : List Param}
    (h : phaseP l r ls rs il ir st = .ok (st', il', ir')) (hI : I ls rs il ir st) :
    I [] [] il' ir' st' := by
  have := phaseP_out I hc hI
  rwa [h] at this

theorem phaseP_raises {l r : Sorted}
    (I : List Param → List Param → List Param → List Param → MState → Prop)
    (hc : CarriedP l r I)
    {ls rs il ir : List Param} {st : MState} {e : Err}
    (h : phaseP l r ls rs il ir st = .error e) (hI : I ls rs il ir st) :
    (∃ lp ls il ir st, I (lp :: ls) [] il ir st ∧ unbalancedPos .L l r lp ir st = .error e) ∨
    (∃ rp rs il ir st, I [] (rp :: rs) il ir st ∧ unbalancedPos .R l r rp il st = .error e) := by
  have := phaseP_out I hc hI
  rwa [h] at this

/-- `phaseQ.induct` states the flushed `pok` bucket through `List.attach`; this is the same
    principle with the bucket as the definition writes it. -/
theorem phaseQ_ind (l r : Sorted) (motive : List Param → List Param → MState → Prop)
  (h1 : ∀ (st : MState), motive [] [] st)
  (h2 : ∀ (lp : Param) (ls : List Param) (rp : Param) (rs : List Param) (st : MState),
        lp.name = rp.name →
          motive ls rs
              { st with
                pok := st.pok ++ [concile lp rp],
                src := addSources st.src lp.name [l.src, r.src] } →
            motive (lp :: ls) (rp :: rs) st)
  (h3 : ∀ (lp : Param) (ls : List Param) (rp : Param) (rs : List Param) (st : MState),
          ¬lp.name = rp.name →
            motive ls rs
                { st with
                  pos := st.pos ++ st.pok.map (·.withKind .po) ++ [(concile lp rp).withKind Kind.po],
                  pok := [],
                  src := addSources st.src lp.name [l.src] } →
              motive (lp :: ls) (rp :: rs) st)
  (h4 : ∀ (lp : Param) (ls : List Param) (st : MState), (∀ (st : MState), motive ls [] st) → motive (lp :: ls) [] st)
  (h5 : ∀ (rp : Param) (rs : List Param) (st : MState),
              (∀ (st : MState), motive [] rs st) → motive [] (rp :: rs) st) :
            ∀ (a a_1 : List Param) (a_2 : MState), motive a a_1 a_2 := by
  intro a b st
  induction a, b, st using phaseQ.induct l r with
  | case1 st => exact h1 st
  | case2 lp ls rp rs st hn ih => exact h2 _ _ _ _ _ hn ih
  | case3 lp ls rp rs st hn ih =>
    apply h3 _ _ _ _ _ hn
    simpa using ih
  | case4 lp ls st ih => exact h4 _ _ _ ih
  | case5 rp rs st ih => exact h5 _ _ _ ih

structure CarriedQ (l r : Sorted) (I : List Param → List Param → MState → Prop) : Prop where
  matched : ∀ (lp rp : Param) (ls rs : List Param) (st : MState), lp.name = rp.name →
    I (lp :: ls) (rp :: rs) st →
      I ls rs { st with
        pok := st.pok ++ [concile lp rp],
        src := addSources st.src lp.name [l.src, r.src] }
  mismatched : ∀ (lp rp : Param) (ls rs : List Param) (st : MState), lp.name ≠ rp.name →
    I (lp :: ls) (rp :: rs) st →
      I ls rs { st with
        pos := st.pos ++ st.pok.map (·.withKind .po) ++ [(concile lp rp).withKind .po],
        pok := [],
        src := addSources st.src lp.name [l.src] }
  left : ∀ (lp : Param) (ls : List Param) (st st1 : MState),
    unbalancedPok .L l r lp st = .ok st1 → I (lp :: ls) [] st → I ls [] st1
  right : ∀ (rp : Param) (rs : List Param) (st st1 : MState),
    unbalancedPok .R l r rp st = .ok st1 → I [] (rp :: rs) st → I [] rs st1

theorem phaseQ_out {l r : Sorted} (I : List Param → List Param → MState → Prop)
    (hc : CarriedQ l r I) {ls rs : List Param} {st : MState} (hI : I ls rs st) :
    match phaseQ l r ls rs st with
    | .ok st' => I [] [] st'
    | .error e =>
      (∃ lp ls st, I (lp :: ls) [] st ∧ unbalancedPok .L l r lp st = .error e) ∨
      (∃ rp rs st, I [] (rp :: rs) st ∧ unbalancedPok .R l r rp st = .error e) := by
  induction ls, rs, st using phaseQ_ind l r with
  | h1 st => rw [phaseQ]; exact hI
  | h2 lp ls rp rs st hn ih => rw [phaseQ, if_pos hn]; exact ih (hc.matched _ _ _ _ _ hn hI)
  | h3 lp ls rp rs st hn ih => rw [phaseQ, if_neg hn]; exact ih (hc.mismatched _ _ _ _ _ hn hI)
  | h4 lp ls st ih =>
    rw [phaseQ]
    cases h1 : unbalancedPok .L l r lp st with
    | error e => exact .inl ⟨_, _, _, hI, h1⟩
    | ok st1 => exact ih _ (hc.left _ _ _ _ h1 hI)
  | h5 rp rs st ih =>
    rw [phaseQ]
    cases h1 : unbalancedPok .R l r rp st with
    | error e => exact .inr ⟨_, _, _, hI, h1⟩
    | ok st1 => exact ih _ (hc.right _ _ _ _ h1 hI)

theorem phaseQ_loop {l r : Sorted} (I : List Param → List Param → MState → Prop)
    (hc : CarriedQ l r I)
    {ls rs : List Param} {st st' : MState}
    (h : phaseQ l r ls rs st = .ok st') (hI : I ls rs st) : I [] [] st' := by
  have := phaseQ_out I hc hI
  rwa [h] at this

theorem phaseQ_raises {l r : Sorted} (I : List Param → List Param → MState → Prop)
    (hc : CarriedQ l r I)
    {ls rs : List Param} {st : MState} {e : Err}
    (h : phaseQ l r ls rs st = .error e) (hI : I ls rs st) :
    (∃ lp ls st, I (lp :: ls) [] st ∧ unbalancedPok .L l r lp st = .error e) ∨
    (∃ rp rs st, I [] (rp :: rs) st ∧ unbalancedPok .R l r rp st = .error e) := by
  have := phaseQ_out I hc hI
  rwa [h] at this

/-- `c` steps of the zip have been made: what is left of the chains `L`, `R` is what they hold from position `c` on -/
structure ZPos (L R : List Param) (c : Nat) (A B : List Param) : Prop where
  xs : L.drop c = A
  ys : R.drop c = B

theorem ZPos.flip {L R A B : List Param} {c : Nat} (h : ZPos L R c A B) : ZPos R L c B A := ⟨h.ys, h.xs⟩

theorem ZPos.step {L R A B : List Param} {c : Nat} (h : ZPos L R c A B) :
    ZPos L R (c + 1) (A.drop 1) (B.drop 1) :=
  ⟨by rw [← h.xs, List.drop_drop], by rw [← h.ys, List.drop_drop]⟩

theorem ZPos.head {L R A B : List Param} {c : Nat} {a : Param} (h : ZPos L R c (a :: A) B) : L[c]? = some a := by
  rw [← List.head?_drop, h.xs]; rfl

theorem ZPos.mem {L R A B : List Param} {c : Nat} {a : Param} (h : ZPos L R c (a :: A) B) : a ∈ L :=
  List.mem_of_getElem? h.head

theorem ZPos.lt {L R A B : List Param} {c : Nat} {a : Param} (h : ZPos L R c (a :: A) B) : c < L.length :=
  (List.getElem?_eq_some_iff.1 h.head).1

theorem ZPos.le {L R A : List Param} {c : Nat} (h : ZPos L R c A []) : R.length ≤ c :=
  List.drop_eq_nil_iff.1 h.ys

def Lockstep (L R A B : List Param) : Prop := ∃ n, ZPos L R n A B

theorem Lockstep.refl (L R : List Param) : Lockstep L R L R := ⟨0, rfl, rfl⟩

theorem Lockstep.symm {L R A B : List Param} (h : Lockstep L R A B) : Lockstep R L B A :=
  h.imp fun _ => ZPos.flip

theorem Lockstep.step {L R A B : List Param} (h : Lockstep L R A B) :
    Lockstep L R (A.drop 1) (B.drop 1) :=
  h.elim fun n P => ⟨n + 1, P.step⟩

theorem unbalancedPos_rest {side : Side} {l r : Sorted} {x : Param} {cf cf' : List Param}
    {st st' : MState} (h : unbalancedPos side l r x cf st = .ok (st', cf')) : cf' = cf.drop 1 := by
  cases h ▸ unbalancedPos_out side l r x cf st <;> rfl

theorem lockstep_carriedP (l r : Sorted) (L R : List Param) :
    CarriedP l r fun A B il ir _ => Lockstep L R (A ++ il) (B ++ ir) where
  pair _ _ _ _ _ _ _ hI := hI.step
  left _ _ _ _ _ _ _ h1 hI := unbalancedPos_rest h1 ▸ hI.step
  right _ _ _ _ _ _ _ h1 hI := unbalancedPos_rest h1 ▸ hI.step

theorem lockstep_carriedQ (l r : Sorted) (L R : List Param) :
    CarriedQ l r fun A B _ => Lockstep L R A B where
  matched _ _ _ _ _ _ hI := hI.step
  mismatched _ _ _ _ _ _ hI := hI.step
  left _ _ _ _ _ hI := hI.step
  right _ _ _ _ _ hI := hI.step

theorem phaseP_lockstep {l r : Sorted} {ls rs il ir il' ir' : List Param} {st st' : MState}
    (h : phaseP l r ls rs il ir st = .ok (st', il', ir')) :
    Lockstep (ls ++ il) (rs ++ ir) il' ir' :=
  phaseP_loop _ (lockstep_carriedP l r _ _) h (.refl _ _)

def mergedStar (wL wR : Bool) (left right : Option Param) : Option Param :=
  match left, right with
  | some lp, some rp => some (if wL && wR then concile lp rp else if wL then lp else rp)
  | _, _ => none

theorem addStarargs_param (l r : Sorted) (wL wR : Bool) (left right : Option Param) (src : Srcs) :
    (addStarargs l r wL wR left right src).1 = mergedStar wL wR left right := by
  cases left with
  | none => rfl
  | some lp =>
    cases right with
    | none => rfl
    | some rp => cases wL <;> cases wR <;> rfl

theorem mergedStar_cases {wL wR : Bool} {left right : Option Param} {v : Param}
    (h : mergedStar wL wR left right = some v) :
    ∃ lp rp, left = some lp ∧ right = some rp ∧ (v = concile lp rp ∨ v = lp ∨ v = rp) := by
  cases left with
  | none => cases h
  | some lp =>
    cases right with
    | none => cases h
    | some rp =>
      refine ⟨lp, rp, rfl, rfl, ?_⟩
      simp only [mergedStar, Option.some.injEq] at h
      subst h
      split
      · exact .inl rfl
      · split
        · exact .inr (.inl rfl)
        · exact .inr (.inr rfl)

theorem mergedStar_isSome (wL wR : Bool) (left right : Option Param) :
    (mergedStar wL wR left right).isSome = (left.isSome && right.isSome) := by
  cases left <;> cases right <;> rfl

theorem addStarargs_source (l r : Sorted) (wL wR : Bool) (left right : Option Param) (src : Srcs) (p : Param)
    (h : (addStarargs l r wL wR left right src).1 = some p) :
    ∃ q, (left = some q ∨ right = some q) ∧ q.name = p.name ∧ q.kind = p.kind := by
  rw [addStarargs_param] at h
  obtain ⟨lp, rp, rfl, rfl, rfl | rfl | rfl⟩ := mergedStar_cases h
  · exact ⟨lp, .inl rfl, rfl, rfl⟩
  · exact ⟨_, .inl rfl, rfl, rfl⟩
  · exact ⟨_, .inr rfl, rfl, rfl⟩

theorem addStarargs_name_C08 (l r : Sorted) (wL wR : Bool) (left right : Option Param) (src : Srcs) (p : Param)
    (h : (addStarargs l r wL wR left right src).1 = some p) :
    (∃ q, left = some q ∧ p.name = q.name) ∨ (∃ q, right = some q ∧ p.name = q.name) := by
  obtain ⟨q, hq | hq, hn, -⟩ := addStarargs_source l r wL wR left right src p h
  · exact .inl ⟨q, hq, hn.symm⟩
  · exact .inr ⟨q, hq, hn.symm⟩

theorem addStarargs_kind (l r : Sorted) (wL wR : Bool) (left right : Option Param) (src : Srcs)
    (k : Kind) (hl : ∀ p, left = some p → p.kind = k) (hr : ∀ p, right = some p → p.kind = k) :
    ∀ p, (addStarargs l r wL wR left right src).1 = some p → p.kind = k := by
  intro p hp
  obtain ⟨q, hq | hq, -, hk⟩ := addStarargs_source l r wL wR left right src p hp
  · exact hk ▸ hl q hq
  · exact hk ▸ hr q hq

/-- the state `_merge` starts from: empty lists, and which side has `*args` / `**kwargs` -/
def mergeInit (l r : Sorted) : MState :=
  { vaL := l.va.isSome, vaR := r.va.isSome, vkL := l.vk.isSome, vkR := r.vk.isSome }

theorem mergeStep_ok (l r s : Sorted) (h : mergeStep l r = .ok s) :
    ∃ (st1 st2 st3 st4 : MState) (il ir : List Param),
      phaseP l r l.pos r.pos l.pok r.pok
        (phaseK2 l r.kwo (phaseK1 l r l.kwo
          (mergeInit l r))) =
          .ok (st1, il, ir) ∧
      phaseQ l r il ir st1 = .ok st2 ∧
      mergeUnmatched .L l r st2 = .ok st3 ∧
      mergeUnmatched .R l r st3 = .ok st4 ∧
      s = { pos := st4.pos, pok := st4.pok,
            va := (addStarargs l r st4.vaL st4.vaR l.va r.va st4.src).1,
            kwo := st4.kwo,
            vk := (addStarargs l r st4.vkL st4.vkR l.vk r.vk
                    (addStarargs l r st4.vaL st4.vaR l.va r.va st4.src).2).1,
            src := (addStarargs l r st4.vkL st4.vkR l.vk r.vk
                    (addStarargs l r st4.vaL st4.vaR l.va r.va st4.src).2).2,
            depths := mergeDepths l.depths r.depths } := by
  obtain ⟨⟨st1, il, ir⟩, h1, h⟩ := bind_eq_ok h
  obtain ⟨st2, h2, h⟩ := bind_eq_ok h
  obtain ⟨st3, h3, h⟩ := bind_eq_ok h
  obtain ⟨st4, h4, h⟩ := bind_eq_ok h
  cases h
  exact ⟨st1, st2, st3, st4, il, ir, h1, h2, h3, h4, rfl⟩

theorem mergeFold_cons_ok {acc res : Sorted} {s : USig} {ss : List USig}
    (h : mergeFold acc (s :: ss) = .ok res) :
    ∃ acc', mergeStep acc (sortParams s) = .ok acc' ∧ mergeFold acc' ss = .ok res := by
  rw [mergeFold] at h
  cases hm : mergeStep acc (sortParams s) with
  | error e => rw [hm] at h; cases h
  | ok acc' => rw [hm] at h; exact ⟨acc', rfl, h⟩

theorem embedFold_cons_ok {uva uvk : Bool} {acc res : Sorted} {n : Nat} {s : USig} {ss : List USig}
    (h : embedFold uva uvk acc n (s :: ss) = .ok res) :
    ∃ acc', embedStep acc (sortParams s) uva uvk n = .ok acc' ∧
      embedFold uva uvk acc' (n + 1) ss = .ok res := by
  rw [embedFold] at h
  cases hm : embedStep acc (sortParams s) uva uvk n with
  | error e => rw [hm] at h; cases h
  | ok acc' => rw [hm] at h; exact ⟨acc', rfl, h⟩

theorem merge_inv {ss : List USig} {R : USig} (h : merge ss = .ok R) :
    ∃ s ss' res, ss = s :: ss' ∧ mergeFold (sortParams s) ss' = .ok res ∧ applyParams s res = .ok R := by
  cases ss with
  | nil => cases h
  | cons s ss' =>
    obtain ⟨res, hf, ha⟩ := bind_eq_ok h
    exact ⟨s, ss', res, rfl, hf, ha⟩

theorem embed_inv {uva uvk : Bool} {ss : List USig} {R : USig} (h : embed uva uvk ss = .ok R) :
    ∃ s ss' res, ss = s :: ss' ∧ embedFold uva uvk (sortParams s) 1 ss' = .ok res ∧
      applyParams s res = .ok R := by
  cases ss with
  | nil => cases h
  | cons s ss' =>
    obtain ⟨res, hf, ha⟩ := bind_eq_ok h
    exact ⟨s, ss', res, rfl, hf, ha⟩

theorem mergeFold_inv {Inv : Sorted → Prop} {ss : List USig} {acc res : Sorted}
    (step : ∀ (l m : Sorted) (s : USig), s ∈ ss → Inv l → mergeStep l (sortParams s) = .ok m → Inv m)
    (hacc : Inv acc) (h : mergeFold acc ss = .ok res) : Inv res := by
  induction ss generalizing acc with
  | nil => cases h; exact hacc
  | cons s ss ih =>
    obtain ⟨acc', hm, h⟩ := mergeFold_cons_ok h
    exact ih (fun l m t ht => step l m t (List.mem_cons_of_mem _ ht))
      (step acc acc' s List.mem_cons_self hacc hm) h

theorem embedFold_inv {Inv : Sorted → Prop} {uva uvk : Bool} {ss : List USig} {acc res : Sorted}
    {n : Nat}
    (step : ∀ (l m : Sorted) (s : USig) (i : Nat), s ∈ ss → Inv l →
      embedStep l (sortParams s) uva uvk i = .ok m → Inv m)
    (hacc : Inv acc) (h : embedFold uva uvk acc n ss = .ok res) : Inv res := by
  induction ss generalizing acc n with
  | nil => cases h; exact hacc
  | cons s ss ih =>
    obtain ⟨acc', hm, h⟩ := embedFold_cons_ok h
    exact ih (fun l m t i ht => step l m t i (List.mem_cons_of_mem _ ht))
      (step acc acc' s n List.mem_cons_self hacc hm) h

theorem merge_two_of_step (a b : USig) (s : Sorted)
    (hs : mergeStep (sortParams a) (sortParams b) = .ok s) (hv : validate s.all = .ok ()) :
    merge [a, b] =
      .ok { params := s.all, src := s.src, depths := s.depths, ret := a.ret, uret := a.uret } := by
  simp only [merge, mergeFold, hs, bind, Except.bind, applyParams, hv, pure, Except.pure]

theorem merge_two_ok (a b M : USig) (hM : merge [a, b] = .ok M) :
    ∃ S, mergeStep (sortParams a) (sortParams b) = .ok S ∧ validate S.all = .ok () ∧
      M = { params := S.all, src := S.src, depths := S.depths, ret := a.ret, uret := a.uret } := by
  obtain ⟨_, _, S, ⟨rfl, rfl⟩, hf, ha⟩ := merge_inv hM
  obtain ⟨S', hS, hf⟩ := mergeFold_cons_ok hf
  cases hf
  exact ⟨S, hS, applyParams_ok _ _ _ ha⟩

end SV
