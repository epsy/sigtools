/-
  Lemmas/C11TBasic.lean — metadata maps on parameters and on the return annotation of a signature:
  they may rewrite the annotation pair in any way; why the algebra commutes with them is Lemmas/ParamRel.
-/
import Sigverif.Props.Defs
import Sigverif.Lemmas.Core.Params
namespace SV

/-- a metadata map: keeps name, kind, default (and commutes with `replace(kind=…)`,
    `replace(default=…)`) -/
structure MetaMap (f : Param → Param) : Prop where
  name : ∀ p, (f p).name = p.name
  kind : ∀ p, (f p).kind = p.kind
  dflt : ∀ p, (f p).dflt = p.dflt
  withKind : ∀ p k, f (p.withKind k) = (f p).withKind k
  withDflt : ∀ p d, f (p.withDflt d) = (f p).withDflt d

def mapSig (f : Param → Param) (s : USig) : USig := { s with params := s.params.map f }

def mapSorted (f : Param → Param) (s : Sorted) : Sorted :=
  { s with pos := s.pos.map f, pok := s.pok.map f, va := s.va.map f, kwo := s.kwo.map f,
           vk := s.vk.map f }

def mapSt (f : Param → Param) (st : MState) : MState :=
  { st with pos := st.pos.map f, pok := st.pok.map f, kwo := st.kwo.map f,
            lUn := st.lUn.map f, rUn := st.rUn.map f }

section
variable {f : Param → Param}

@[simp] theorem mapSorted_pos (s : Sorted) : (mapSorted f s).pos = s.pos.map f := rfl
@[simp] theorem mapSorted_pok (s : Sorted) : (mapSorted f s).pok = s.pok.map f := rfl
@[simp] theorem mapSorted_va (s : Sorted) : (mapSorted f s).va = s.va.map f := rfl
@[simp] theorem mapSorted_kwo (s : Sorted) : (mapSorted f s).kwo = s.kwo.map f := rfl
@[simp] theorem mapSorted_vk (s : Sorted) : (mapSorted f s).vk = s.vk.map f := rfl
@[simp] theorem mapSorted_src (s : Sorted) : (mapSorted f s).src = s.src := rfl
@[simp] theorem mapSorted_depths (s : Sorted) : (mapSorted f s).depths = s.depths := rfl

@[simp] theorem mapSt_pos (st : MState) : (mapSt f st).pos = st.pos.map f := rfl
@[simp] theorem mapSt_pok (st : MState) : (mapSt f st).pok = st.pok.map f := rfl
@[simp] theorem mapSt_kwo (st : MState) : (mapSt f st).kwo = st.kwo.map f := rfl
@[simp] theorem mapSt_lUn (st : MState) : (mapSt f st).lUn = st.lUn.map f := rfl
@[simp] theorem mapSt_rUn (st : MState) : (mapSt f st).rUn = st.rUn.map f := rfl
@[simp] theorem mapSt_src (st : MState) : (mapSt f st).src = st.src := rfl
@[simp] theorem mapSt_vaL (st : MState) : (mapSt f st).vaL = st.vaL := rfl
@[simp] theorem mapSt_vaR (st : MState) : (mapSt f st).vaR = st.vaR := rfl
@[simp] theorem mapSt_vkL (st : MState) : (mapSt f st).vkL = st.vkL := rfl
@[simp] theorem mapSt_vkR (st : MState) : (mapSt f st).vkR = st.vkR := rfl

theorem x11_mapSig_params (sig : USig) : (mapSig f sig).params = sig.params.map f := rfl

def ConcComm (f : Param → Param) (P : Param → Prop) : Prop :=
  ∀ a b, P a → P b → f (concile a b) = concile (f a) (f b)

/-- name, kind and default of a conciliation depend on names, kinds and defaults only: a metadata map
    commutes with `_concile_meta` as soon as the annotation pairs of the two sides agree -/
theorem MetaMap.concile_ext (hf : MetaMap f) {a b : Param}
    (hann : (f (concile a b)).ann = (concile (f a) (f b)).ann)
    (huann : (f (concile a b)).uann = (concile (f a) (f b)).uann) : f (concile a b) = concile (f a) (f b) := by
  have ext : ∀ p q : Param, p.name = q.name → p.kind = q.kind → p.dflt = q.dflt → p.ann = q.ann →
      p.uann = q.uann → p = q := by
    rintro ⟨⟩ ⟨⟩ ⟨⟩ ⟨⟩ ⟨⟩ ⟨⟩ ⟨⟩
    rfl
  refine ext _ _ ?_ ?_ ?_ hann huann
  · rw [hf.name, concile_name, concile_name, hf.name]
  · rw [hf.kind, concile_kind, concile_kind, hf.kind]
  · rw [hf.dflt]
    unfold concile
    simp only [hf.dflt]

/-- the fresh keyword-only parameter of partial mode is a fixed point of `f` -/
def FreshFix (f : Param → Param) : Prop :=
  ∀ n v, f { name := n, kind := .ko, dflt := some v } = { name := n, kind := .ko, dflt := some v }

end

/-- a map on (return annotation, upgraded return annotation) -/
abbrev RetMap := Option Nat × UAnn → Option Nat × UAnn

def mapRet (g : RetMap) (s : USig) : USig :=
  { s with ret := (g (s.ret, s.uret)).1, uret := (g (s.ret, s.uret)).2 }

end SV
