/-
  Lemmas/LawsNeutral.lean — the identity laws.  `merge(s, s)` gives back the buckets of `s`;
  merging with a bare `(*args, **kwargs)` on the left gives the other signature with its star
  parameters conciled with those of the bare one where the step reaches them (on the right:
  `mergeStars_bare`, Lemmas/C02Merge).
-/
import Sigverif.Lemmas.LawsCompute
import Sigverif.Lemmas.Core.Accepts
namespace SV

theorem mergedStar_self (o : Option Param) (hc : ∀ p, o = some p → concile p p = p) :
    mergedStar o.isSome o.isSome o o = o := by
  cases o with
  | none => rfl
  | some p => simp [mergedStar, hc p rfl]

theorem mergeStep_self (S : Sorted) (hnk : (names S.kwo).Nodup) (hc : ∀ p ∈ S.all, concile p p = p) :
    ∃ s, mergeStep S S = .ok s ∧ s.all = S.all := by
  have hc' := fun p h => hc p (mem_all_iff.2 h)
  unfold mergeStep
  simp only [phaseK1_self S S S.kwo _ (fun p hp => pget_of_mem hnk hp)
      (fun p hp => hc' p (.inr (.inr (.inr (.inl hp))))),
    phaseK2_all S S.kwo _ (fun p hp => phas_iff.2 (List.mem_map_of_mem hp)),
    phaseP_self S S S.pos _ _ _ (fun p hp => hc' p (.inl hp)), ok_bind,
    phaseQ_self S S S.pok _ (fun p hp => hc' p (.inr (.inl hp))),
    pure, Except.pure, addStarargs_param]
  refine ⟨_, rfl, ?_⟩
  unfold Sorted.all
  simp only [List.nil_append, pupdate_of_nodup [] S.kwo hnk,
    mergedStar_self _ fun p h => hc' p (.inr (.inr (.inl h))),
    mergedStar_self _ fun p h => hc' p (.inr (.inr (.inr (.inr h))))]

theorem atMostOne_pairwise (k : Kind) (ps : List Param) (h : (ps.filter (·.kind = k)).length ≤ 1) :
    ps.Pairwise (fun p q => ¬(p.kind = k ∧ q.kind = k)) := by
  have hf : (ps.filter (·.kind = k)).Pairwise (fun _ _ => False) := by
    rcases length_le_one_cases _ h with e | ⟨a, e⟩
    · rw [e]; exact .nil
    · rw [e]; exact List.pairwise_singleton _ _
  rw [List.pairwise_filter] at hf
  exact hf.imp fun h hpq => h (decide_eq_true hpq.1) (decide_eq_true hpq.2)

theorem map_eq_self_of (g : Param → Param) (xs : List Param) (h : ∀ p ∈ xs, g p = p) : xs.map g = xs :=
  (List.map_congr_left h).trans (List.map_id xs)

/-- What merging with a bare `(*a, **k)` does to a parameter of the other signature: its `*args`
    (`**kwargs`) is conciled with `a` (`k`) when there is no positional-only (keyword-only)
    parameter; `fa`, `fk` are the two conciliations, which depend on the side of the bare one. -/
def starMap (fa fk : Param → Param) (noPos noKwo : Bool) (p : Param) : Param :=
  if p.kind = .vp then (if noPos then fa p else p)
  else if p.kind = .vk then (if noKwo then fk p else p)
  else p

theorem starMap_cases (fa fk : Param → Param) (b1 b2 : Bool) (p : Param) :
    starMap fa fk b1 b2 p = p ∨ (p.kind = .vp ∧ starMap fa fk b1 b2 p = fa p) ∨
      (p.kind = .vk ∧ starMap fa fk b1 b2 p = fk p) := by
  unfold starMap
  by_cases h1 : p.kind = .vp
  · rw [if_pos h1]
    cases b1
    · exact .inl rfl
    · exact .inr (.inl ⟨h1, rfl⟩)
  · rw [if_neg h1]
    by_cases h2 : p.kind = .vk
    · rw [if_pos h2]
      cases b2
      · exact .inl rfl
      · exact .inr (.inr ⟨h2, rfl⟩)
    · exact .inl (if_neg h2)

theorem starMap_kind {fa fk : Param → Param} (ha : ∀ p, p.kind = .vp → (fa p).kind = .vp)
    (hk : ∀ p, p.kind = .vk → (fk p).kind = .vk) (b1 b2 : Bool) (p : Param) :
    (starMap fa fk b1 b2 p).kind = p.kind := by
  rcases starMap_cases fa fk b1 b2 p with e | ⟨h, e⟩ | ⟨h, e⟩
  · rw [e]
  · rw [e, ha p h, h]
  · rw [e, hk p h, h]

theorem starMap_nonstar (fa fk : Param → Param) (b1 b2 : Bool) (p : Param) (h1 : p.kind ≠ .vp)
    (h2 : p.kind ≠ .vk) : starMap fa fk b1 b2 p = p := by
  rcases starMap_cases fa fk b1 b2 p with e | ⟨h, _⟩ | ⟨h, _⟩
  · exact e
  · exact absurd h h1
  · exact absurd h h2

theorem all_eq_map_starMap (fa fk : Param → Param) (S s : Sorted) (hbk : BucketKinds S)
    (f1 : s.pos = S.pos) (f2 : s.pok = S.pok) (f4 : s.kwo = S.kwo)
    (f3 : s.va = S.va.map (fun p => if S.pos = [] then fa p else p))
    (f5 : s.vk = S.vk.map (fun p => if S.kwo = [] then fk p else p)) :
    s.all = S.all.map (starMap fa fk S.pos.isEmpty S.kwo.isEmpty) := by
  have hfix : ∀ k : Kind, k ≠ .vp → k ≠ .vk → ∀ xs : List Param, (∀ p ∈ xs, p.kind = k) →
      xs.map (starMap fa fk S.pos.isEmpty S.kwo.isEmpty) = xs := fun k h1 h2 xs hxs =>
    map_eq_self_of _ xs fun p hp => starMap_nonstar _ _ _ _ _ (hxs p hp ▸ h1) (hxs p hp ▸ h2)
  unfold Sorted.all
  rw [f1, f2, f3, f4, f5]
  simp only [List.map_append]
  rw [hfix .po (by decide) (by decide) _ hbk.pos, hfix .pk (by decide) (by decide) _ hbk.pok,
    hfix .ko (by decide) (by decide) _ hbk.kwo]
  congr 2
  · congr 1
    cases hva : S.va with
    | none => rfl
    | some p => simp [starMap, hbk.va p hva]
  · cases hvk : S.vk with
    | none => rfl
    | some p => simp [starMap, hbk.vk p hvk]

theorem validate_map (g : Param → Param) (ps : List Param) (hk : ∀ p, (g p).kind = p.kind)
    (hpos : ∀ p, isPositional p = true → g p = p) (hn : (names (ps.map g)).Nodup)
    (hv : validate ps = .ok ()) : validate (ps.map g) = .ok () := by
  obtain ⟨hrs, _, hdf⟩ := (validate_iff _).1 hv
  have hposi : ∀ p, isPositional (g p) = isPositional p := fun p => by simp [isPositional, hk]
  refine (validate_iff _).2 ⟨?_, hn, ?_⟩
  · unfold RankSorted at hrs ⊢
    rw [List.pairwise_map]
    simpa only [hk] using hrs
  · unfold DefSuffix positionals at hdf ⊢
    rw [List.pairwise_filter] at hdf ⊢
    rw [List.pairwise_map]
    refine List.Pairwise.imp ?_ hdf
    intro p q h hp hq
    rw [hposi] at hp hq
    rw [hpos p hp, hpos q hq]
    exact h hp hq

theorem starMap_positional (fa fk : Param → Param) (b1 b2 : Bool) (p : Param)
    (hp : isPositional p = true) : starMap fa fk b1 b2 p = p := by
  rcases (isPositional_iff p).1 hp with h | h
  · exact starMap_nonstar _ _ _ _ _ (by simp [h]) (by simp [h])
  · exact starMap_nonstar _ _ _ _ _ (by simp [h]) (by simp [h])

theorem mergedStar_bare_l (o : Option Param) (a : Param) (xs : List Param) :
    mergedStar xs.isEmpty o.isSome (some a) o =
      o.map (fun rp => if xs = [] then concile a rp else rp) := by
  cases o <;> cases xs <;> simp [mergedStar]

theorem mergeStep_bare_l (S : Sorted) (a k : Param) (src : Srcs) (d : Depths)
    (hbk : BucketKinds S) (hn : (names S.kwo).Nodup) :
    ∃ s, mergeStep { va := some a, vk := some k, src := src, depths := d } S = .ok s ∧
      s.all = S.all.map (starMap (concile a) (concile k) S.pos.isEmpty S.kwo.isEmpty) := by
  unfold mergeStep
  simp only [phaseK1, phaseK2_none { va := some a, vk := some k, src := src, depths := d } S.kwo _ (fun _ _ => rfl),
    phaseP_R_some { va := some a, vk := some k, src := src, depths := d } S rfl, ok_bind,
    phaseQ_R_TT { va := some a, vk := some k, src := src, depths := d } S rfl rfl,
    mergeUnmatched_L_nil,
    mergeUnmatched_R_some { va := some a, vk := some k, src := src, depths := d } S rfl,
    pure, Except.pure, addStarargs_param, pupdate_of_nodup [] S.kwo hn, List.nil_append]
  exact ⟨_, rfl, all_eq_map_starMap _ _ S _ hbk rfl rfl rfl (mergedStar_bare_l ..) (mergedStar_bare_l ..)⟩

/-- Conciling on the left gives the name of the bare signature's star parameter; names stay
    apart because the name of `a` (of `k`) can only be met at a `*` (`**`) parameter, and there
    is at most one of each. -/
theorem starMap_name_ne (a k : Param) (b1 b2 : Bool) {p q : Param} (hne : a.name ≠ k.name)
    (hap : p.name = a.name → p.kind = .vp) (haq : q.name = a.name → q.kind = .vp)
    (hkp : p.name = k.name → p.kind = .vk) (hkq : q.name = k.name → q.kind = .vk)
    (hpq : p.name ≠ q.name) (hvp : ¬(p.kind = .vp ∧ q.kind = .vp)) (hvk : ¬(p.kind = .vk ∧ q.kind = .vk)) :
    (starMap (concile a) (concile k) b1 b2 p).name ≠ (starMap (concile a) (concile k) b1 b2 q).name := by
  have hp := starMap_cases (concile a) (concile k) b1 b2 p
  have hq := starMap_cases (concile a) (concile k) b1 b2 q
  grind [concile_name]

theorem merge_bare_l (sig bare : USig) (a k : Param) (hwf : WF sig.params)
    (ha : a.kind = .vp) (hk : k.kind = .vk) (hb : bare.params = [a, k])
    (hne : a.name ≠ k.name)
    (hna : ∀ p ∈ sig.params, p.name = a.name → p.kind = .vp)
    (hnk : ∀ p ∈ sig.params, p.name = k.name → p.kind = .vk) :
    ∃ R, merge [bare, sig] = .ok R ∧
      R.params = sig.params.map (starMap (concile a) (concile k)
        (sortParams sig).pos.isEmpty (sortParams sig).kwo.isEmpty) := by
  have hall := sortParams_all hwf
  obtain ⟨_, hnn, h1vp, h1vk⟩ := WF_inv _ hwf
  obtain ⟨s, hs, hsa⟩ := mergeStep_bare_l (sortParams sig) a k bare.src bare.depths
    (sortParams_bk sig) (sortParams_swf hwf).parts.2.2.1
  rw [← sortParams_bare bare a k ha hk hb] at hs
  rw [hall] at hsa
  have hvalid : validate s.all = .ok () := by
    rw [hsa]
    refine validate_map _ _ (starMap_kind (fa := concile a) (fk := concile k) (fun _ _ => ha) (fun _ _ => hk) _ _)
      (starMap_positional _ _ _ _) ?_ (validOk_iff_validate.1 hwf.1)
    rw [nodup_names_iff, List.pairwise_map]
    refine List.Pairwise.imp_of_mem ?_ (((nodup_names_iff.1 hnn).and
      (atMostOne_pairwise .vp _ h1vp)).and (atMostOne_pairwise .vk _ h1vk))
    intro p q hp hq ⟨⟨h1, h2⟩, h3⟩
    exact starMap_name_ne a k _ _ hne (hna p hp) (hna q hq) (hnk p hp) (hnk q hq) h1 h2 h3
  exact ⟨_, merge_two_of_step bare sig s hs hvalid, hsa⟩

end SV
