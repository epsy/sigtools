/-
  Lemmas/C12Spec.lean — the advertised signature `pokSpec` of a valid signature is valid: it has buckets (`pokRec`), which
  are filters of the buckets of the original, and is their flattening when the selection respects the order.
  On a valid signature `prepare` returns exactly when the selection is `admissible`, and then returns `pokSpec`.
-/
import Sigverif.Lemmas.C12Prep
import Sigverif.Lemmas.Core.Accepts
namespace SV

/-- the advertised signature on buckets: positional-or-keyword parameters named in `W` move behind the keyword-only
    ones, those named in `P` behind the positional-only ones -/
def pokRec (S : Sorted) (P W : List Nat) : Sorted :=
  { pos := S.pos.filter (fun p => !W.contains p.name) ++
      ((S.pok.filter (fun p => !W.contains p.name)).filter (fun p => P.contains p.name)).map (·.withKind .po),
    pok := (S.pok.filter (fun p => !W.contains p.name)).filter (fun p => !P.contains p.name),
    va := S.va,
    kwo := S.kwo ++ (S.pok.filter (fun p => W.contains p.name)).map (·.withKind .ko),
    vk := S.vk }

theorem pokRec_bk {S : Sorted} (bk : BucketKinds S) (P W : List Nat) : BucketKinds (pokRec S P W) where
  pos p hp := (List.mem_append.1 hp).elim (fun h => bk.pos p (List.mem_filter.1 h).1) (mem_map_withKind p)
  pok p hp := bk.pok p (List.mem_filter.1 (List.mem_filter.1 hp).1).1
  va := bk.va
  kwo p hp := (List.mem_append.1 hp).elim (bk.kwo p) (mem_map_withKind p)
  vk := bk.vk

theorem map_ite_of_pairwise {α : Type} (c : α → Bool) (f : α → α) (l : List α)
    (h : l.Pairwise (fun a b => c a = false → c b = false)) :
    l.map (fun a => if c a then f a else a) = (l.filter c).map f ++ l.filter (fun a => !c a) := by
  induction l with
  | nil => rfl
  | cons a l ih =>
    obtain ⟨ha, hl⟩ := List.pairwise_cons.1 h
    cases hc : c a
    · have hall : ∀ b ∈ a :: l, c b = false := by
        intro b hb
        rcases List.mem_cons.1 hb with rfl | hb
        · exact hc
        · exact ha b hb hc
      rw [List.filter_eq_nil_iff.2 (fun b hb => by simp [hall b hb]),
        List.filter_eq_self.2 (fun b hb => by simp [hall b hb])]
      conv => rhs; rw [List.map_nil, List.nil_append, ← List.map_id (a :: l)]
      exact List.map_congr_left fun b hb => by simp [hall b hb]
    · simp [hc, ih hl]

theorem pokRec_pp {S : Sorted} (bk : BucketKinds S) (P W : List Nat)
    (hpw : S.pok.Pairwise (fun p q => isKept P W p = true → isPpk P q = false)) :
    (pokRec S P W).pos ++ (pokRec S P W).pok =
      ((S.pos ++ S.pok).filter (fun p => !W.contains p.name)).map (markPo P) := by
  have h2 := map_ite_of_pairwise (fun p => P.contains p.name) (·.withKind .po)
    (S.pok.filter (fun p => !W.contains p.name)) <| List.pairwise_filter.2 <| hpw.imp_of_mem fun {p q} hp hq h hpW _ hpP => by
      have := h (by simp only [isKept, bk.pok p hp, hpP, hpW]; rfl)
      simpa [isPpk, bk.pok q hq] using this
  rw [List.filter_append, List.map_append, map_markPo_pos fun p hp => bk.pos p (List.mem_filter.1 hp).1]
  exact (List.append_assoc ..).trans (congrArg _ h2.symm)

theorem pokSpec_eq_all {S : Sorted} (bk : BucketKinds S) (P W : List Nat)
    (hpw : S.pok.Pairwise (fun p q => isKept P W p = true → isPpk P q = false)) :
    pokSpec S.all P W = (pokRec S P W).all := by
  rw [pokSpec_all bk, ← pokRec_pp bk P W hpw]
  simp only [Sorted.all, pokRec, List.append_assoc]

theorem count_names_pokRec_le (S : Sorted) (P W : List Nat) (x : Nat) :
    (names (pokRec S P W).all).count x ≤ (names S.all).count x := by
  have hW := List.countP_eq_countP_filter_add S.pok (fun p => p.name == x) (fun p => !W.contains p.name)
  have hP := List.countP_eq_countP_filter_add (S.pok.filter (fun p => !W.contains p.name))
    (fun p => p.name == x) (fun p => P.contains p.name)
  have hpos : ((S.pos.filter (fun p => !W.contains p.name)).countP (fun p => p.name == x)) ≤
      S.pos.countP (fun p => p.name == x) := List.filter_sublist.countP_le
  have cn : ∀ l : List Param, (names l).count x = l.countP (fun p => p.name == x) := fun l => by
    rw [names, List.count_eq_countP, List.countP_map]; rfl
  simp only [Sorted.all, pokRec, names_append, names_map_withKind, List.count_append, cn, Bool.not_not] at hW hP hpos ⊢
  omega

theorem pokRec_swf {S : Sorted} (h : SWF S) (P W : List Nat)
    (hpw : S.pok.Pairwise (fun p q => isKept P W p = true → isPpk P q = false)) : SWF (pokRec S P W) where
  bk := pokRec_bk h.bk P W
  nd := List.nodup_iff_count.2 fun x => Nat.le_trans (count_names_pokRec_le S P W x) (List.nodup_iff_count.1 h.nd x)
  df := by
    rw [pokRec_pp h.bk P W hpw, List.pairwise_map]
    exact (h.df.filter _).imp fun hpq => by unfold DF; rwa [markPo_dflt, markPo_dflt]

theorem pokSpec_valid (F : List Param) (P W : List Nat) (hwf : WF F)
    (hpw : F.Pairwise (fun p q => isKept P W p = true → isPpk P q = false)) :
    validate (pokSpec F P W) = .ok () ∧ WF (pokSpec F P W) := by
  obtain ⟨S, hS, rfl⟩ := hwf.exists_swf
  have hpw' := hpw.filter (fun p => p.kind = .pk)
  rw [filter_pk_all hS.bk] at hpw'
  rw [pokSpec_eq_all hS.bk P W hpw']
  exact ⟨(pokRec_swf hS P W hpw').validate, (pokRec_swf hS P W hpw').wf⟩

theorem any_contains_false_iff (P W : List Nat) :
    P.any (fun x => W.contains x) = false ↔ ∀ x ∈ P, x ∉ W := by
  simp [List.any_eq_false]

theorem admissible_no_po_W {F : List Param} {P W : List Nat} (hn : NamesDistinct F)
    (h : admissible F P W) : ∀ p ∈ F, p.kind = .po → p.name ∉ W := by
  intro p hp hk hw
  have := ((hn.exists_named_iff W _).1 h.2.2.1).2 p hp hw
  rw [hk] at this
  rcases this with h | h <;> cases h

theorem prepare_cases (F : List Param) (P W : List Nat) (hwf : WF F) :
    (admissible F P W ∧ prepare F P W = .ok (pokSpec F P W, kwPosFrom P W 0 F)) ∨
    (¬ admissible F P W ∧ prepare F P W = .error .valueError) := by
  obtain ⟨-, hn, -⟩ := validOk_iff_C12.1 hwf.1
  rw [prepare_eq]
  by_cases hd : ∀ x ∈ P, x ∉ W
  · have hadm := admissible_iff (P := P) (W := W) F hn hd
    rw [(any_contains_false_iff P W).2 hd]
    rcases prepLoop_cases (P := P) (W := W) (st0 P W) 0 F hn
      (fun p _ _ hx => by simpa [st0, mem_dedup] using hx) with ⟨hok, he⟩ | ⟨hok, he⟩
    · rw [he]
      by_cases hemp : (loopRes P W (st0 P W) 0 F).toUse = []
      · have h := hadm.1 ⟨hok, hemp⟩
        have hfin : finalParams (loopRes P W (st0 P W) 0 F) = pokSpec F P W := by
          obtain ⟨S, hS, rfl⟩ := hwf.exists_swf
          exact finalParams_loopRes_all hS.bk hd fun p hp => admissible_no_po_W hn h p (mem_all_pos hp) (hS.bk.pos p hp)
        refine .inl ⟨h, ?_⟩
        simp only [hemp, hfin, (pokSpec_valid F P W hwf hok.2.1).1, loopRes_kwopos, List.isEmpty_nil,
          Bool.not_true, Bool.false_eq_true, ↓reduceIte]
        simp [st0]
      · refine .inr ⟨fun h => hemp (hadm.2 h).2, ?_⟩
        simp [hemp]
    · rw [he]
      exact .inr ⟨fun h => hok (hadm.2 h).1, rfl⟩
  · refine .inr ⟨fun h => hd h.1, ?_⟩
    rw [if_pos]
    simpa [List.any_eq_true] using hd

theorem prepare_eq_ok_iff (F : List Param) (P W : List Nat) (hwf : WF F)
    (r : List Param × List (Nat × Param)) :
    prepare F P W = .ok r ↔ admissible F P W ∧ r = (pokSpec F P W, kwPosFrom P W 0 F) := by
  rcases prepare_cases F P W hwf with ⟨ha, he⟩ | ⟨ha, he⟩ <;> rw [he]
  · exact ⟨fun h => ⟨ha, (Except.ok.inj h).symm⟩, fun h => h.2 ▸ rfl⟩
  · exact ⟨nofun, fun h => absurd h.1 ha⟩

end SV
