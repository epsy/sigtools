/-
  Lemmas/Core/Bind.lean — `bindKw` in closed form, and `accepts` as a statement about what `bindKw` returns.
-/
import Sigverif.Props.Defs
namespace SV

theorem bindKw_eq_some_iff (kwp : List Nat) (vk : Bool) (K bound b : List Nat) :
    bindKw kwp vk bound K = some b ↔
      (K.filter (fun k => kwp.contains k)).Nodup ∧
      (∀ k ∈ K, k ∈ kwp → k ∉ bound) ∧ (∀ k ∈ K, k ∉ kwp → vk = true) ∧
      b = (K.filter (fun k => kwp.contains k)).reverse ++ bound := by
  fun_induction bindKw kwp vk bound K
  case case1 => simp [eq_comm]
  case case2 bound k ks h1 h2 =>
    refine ⟨nofun, fun h => ?_⟩
    exact absurd (List.contains_iff_mem.1 h2)
      (h.2.1 k (List.mem_cons_self ..) (List.contains_iff_mem.1 h1))
  case case3 bound k ks h1 h2 ih =>
    have hk' : k ∈ kwp := List.contains_iff_mem.1 h1
    have hb' : k ∉ bound := fun h => h2 (List.contains_iff_mem.2 h)
    rw [ih]
    simp only [List.mem_cons, List.filter_cons, h1, if_true, List.reverse_cons,
      List.append_assoc, List.singleton_append, forall_eq_or_imp, List.nodup_cons,
      List.mem_filter, and_true, not_or]
    constructor
    · rintro ⟨hn, h1, h2, h3⟩
      exact ⟨⟨fun hk => (h1 k hk hk').1 rfl, hn⟩,
        ⟨fun _ => hb', fun a ha hakw => (h1 a ha hakw).2⟩, ⟨fun h => absurd hk' h, h2⟩, h3⟩
    · rintro ⟨⟨hnk, hn⟩, ⟨_, h1'⟩, ⟨_, h2⟩, h3⟩
      -- a later occurrence of `k` would be bound twice
      exact ⟨hn, fun a ha hakw => ⟨fun e => hnk (e ▸ ha), h1' a ha hakw⟩, h2, h3⟩
  case case4 bound k ks h1 hv ih =>
    have hk' : k ∉ kwp := fun h => h1 (List.contains_iff_mem.2 h)
    rw [ih]
    simp only [List.mem_cons, List.filter_cons, h1, if_false, Bool.false_eq_true,
      forall_eq_or_imp]
    constructor
    · rintro ⟨hn, h1, h2, h3⟩
      exact ⟨hn, ⟨fun h => absurd h hk', h1⟩, ⟨fun _ => hv, h2⟩, h3⟩
    · rintro ⟨hn, ⟨_, h1⟩, ⟨_, h2⟩, h3⟩
      exact ⟨hn, h1, h2, h3⟩
  case case5 bound k ks h1 hv =>
    refine ⟨nofun, fun h => ?_⟩
    exact absurd (h.2.2.1 k (List.mem_cons_self ..) fun h => h1 (List.contains_iff_mem.2 h)) hv

theorem accepts_eq_true_iff (s : List Param) (n : Nat) (K : List Nat) :
    accepts s n K = true ↔
      (n ≤ (positionals s).length ∨ hasVa s = true) ∧
      ∃ b, bindKw (kwNames s) (hasVk s) (names ((positionals s).take n)) K = some b ∧
        ∀ p ∈ s, isNamed p = true → p.required = true → p.name ∈ b := by
  unfold accepts
  by_cases h : n ≤ (positionals s).length ∨ hasVa s = true
  · have hg : (decide (n > (positionals s).length) && !hasVa s) = false := by
      rcases h with h | h
      · rw [decide_eq_false (Nat.not_lt.2 h), Bool.false_and]
      · rw [h, Bool.not_true, Bool.and_false]
    simp only [hg, Bool.false_eq_true, if_false, h, true_and]
    show (match bindKw (kwNames s) (hasVk s) (names ((positionals s).take n)) K with
      | none => false
      | some bound => (s.filter isNamed).all (fun p => !p.required || bound.contains p.name)) = true
      ↔ _
    cases bindKw (kwNames s) (hasVk s) (names ((positionals s).take n)) K with
    | none => simp only [Bool.false_eq_true, reduceCtorEq, false_and, exists_false]
    | some b =>
      simp only [List.all_eq_true, List.mem_filter, and_imp, Bool.or_eq_true, Bool.not_eq_true',
        List.contains_iff_mem, Option.some.injEq, exists_eq_left']
      exact forall₃_congr fun p _ _ => by cases p.required <;> simp
  · have hg : (decide (n > (positionals s).length) && !hasVa s) = true := by
      simp only [not_or, Nat.not_le, Bool.not_eq_true] at h
      rw [decide_eq_true h.1, h.2]
      rfl
    simp only [hg, if_true, Bool.false_eq_true, h, false_and]

end SV
