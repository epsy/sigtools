/-
  Lemmas/Core/Accepts.lean — `accepts` reads a parameter list only through its `View`, and for a
  list that passes `validate` that view is the view of the buckets of `sortParams`.
-/
import Sigverif.Lemmas.Core.Sort
import Sigverif.Lemmas.Core.Bind
namespace SV

def reqNames (s : List Param) : List Nat := names ((s.filter isNamed).filter (·.required))

/-- what argument binding looks at -/
structure View where
  P : List Nat       -- names of the positional parameters, in order
  va : Bool
  vk : Bool
  kw : List Nat      -- names that can be passed by keyword
  req : List Nat     -- names of the required (non-star) parameters

def View.acc (v : View) (n : Nat) (K : List Nat) : Prop :=
  (n ≤ v.P.length ∨ v.va = true) ∧
  (∀ k ∈ K, k ∈ v.kw → k ∉ v.P.take n) ∧
  (∀ k ∈ K, k ∉ v.kw → v.vk = true) ∧
  (∀ x ∈ v.req, x ∈ v.P.take n ∨ (x ∈ K ∧ x ∈ v.kw))

def viewOf (s : List Param) : View :=
  ⟨names (positionals s), hasVa s, hasVk s, kwNames s, reqNames s⟩

theorem forall_reqNames (s : List Param) (Q : Nat → Prop) :
    (∀ x ∈ reqNames s, Q x) ↔ ∀ p ∈ s, isNamed p = true → p.required = true → Q p.name := by
  simp only [reqNames, forall_mem_names_filter, List.mem_filter, and_imp]

theorem accepts_iff_bindKw_view (s : List Param) (n : Nat) (K : List Nat) :
    accepts s n K = true ↔
      (n ≤ (viewOf s).P.length ∨ (viewOf s).va = true) ∧
      ∃ b, bindKw (viewOf s).kw (viewOf s).vk ((viewOf s).P.take n) K = some b ∧ ∀ x ∈ (viewOf s).req, x ∈ b := by
  simp only [accepts_eq_true_iff, viewOf, forall_reqNames, names_length, ← names_take]

theorem accepts_congr_view {s t : List Param} (h : viewOf s = viewOf t) (n : Nat) (K : List Nat) :
    accepts s n K = accepts t n K := by
  rw [Bool.eq_iff_iff, accepts_iff_bindKw_view, accepts_iff_bindKw_view, h]

theorem accepts_iff_view_filter (s : List Param) (n : Nat) (K : List Nat) :
    accepts s n K = true ↔
      (K.filter fun k => (viewOf s).kw.contains k).Nodup ∧ (viewOf s).acc n K := by
  rw [accepts_iff_bindKw_view]
  unfold View.acc
  simp only [bindKw_eq_some_iff]
  constructor
  · rintro ⟨h1, b, ⟨hn, h2, h3, rfl⟩, hall⟩
    exact ⟨hn, h1, h2, h3, fun x hx => (List.mem_append.1 (hall x hx)).symm.imp_right fun h => by simpa using h⟩
  · rintro ⟨hn, h1, h2, h3, h4⟩
    exact ⟨h1, _, ⟨hn, h2, h3, rfl⟩, fun x hx => List.mem_append.2 ((h4 x hx).symm.imp_left fun h => by simpa using h)⟩

theorem accepts_iff_view (s : List Param) (n : Nat) (K : List Nat) (hK : K.Nodup) :
    accepts s n K = true ↔ (viewOf s).acc n K :=
  (accepts_iff_view_filter s n K).trans (and_iff_right (hK.filter _))

def sview (S : Sorted) : View :=
  ⟨names (S.pos ++ S.pok), S.va.isSome, S.vk.isSome, names (S.pok ++ S.kwo),
   names ((S.pos ++ S.pok ++ S.kwo).filter (·.required))⟩

theorem viewOf_all (S : Sorted) (h : BucketKinds S) : viewOf S.all = sview S := by
  unfold viewOf sview kwNames reqNames
  rw [positionals_all h, filter_isNamed_all h, filter_kwPassable_all h, hasVa_all h, hasVk_all h]
  rfl

theorem forall_sview_req (S : Sorted) (Q : Nat → Prop) :
    (∀ x ∈ (sview S).req, Q x) ↔ ∀ p ∈ S.pos ++ S.pok ++ S.kwo, p.required = true → Q p.name :=
  forall_mem_names_filter _ _ Q

theorem accepts_all_iff (S : Sorted) (h : BucketKinds S) (n : Nat) (K : List Nat) (hK : K.Nodup) :
    accepts S.all n K = true ↔ (sview S).acc n K := by
  rw [accepts_iff_view _ _ _ hK, viewOf_all S h]

theorem accepts_all_view {S : Sorted} (bk : BucketKinds S) {n : Nat} {K : List Nat}
    (h : accepts S.all n K = true) : (sview S).acc n K :=
  viewOf_all S bk ▸ ((accepts_iff_view_filter ..).1 h).2

theorem viewOf_sortParams (s : USig) (h : validate s.params = .ok ()) :
    viewOf s.params = sview (sortParams s) := by
  have hs := validate_sorted h
  rw [sortParams_eq s (validate_nodup h)]
  unfold viewOf sview kwNames reqNames positionals hasVa hasVk
  rw [filter_by_kind_of_sorted hs isPositional (fun k => k = .po || k = .pk) (fun p => rfl),
    filter_by_kind_of_sorted hs kwPassable (fun k => k = .pk || k = .ko) (fun p => rfl),
    filter_by_kind_of_sorted hs isNamed (fun k => k = .po || k = .pk || k = .ko) (fun p => rfl),
    any_kind_eq, any_kind_eq, lastOr_isSome, lastOr_isSome]
  simp [names]

/-- needs neither `WF` (the buckets may have dropped earlier `*`/`**` parameters) nor distinct keywords -/
theorem accepts_sortParams (s : USig) (h : validate s.params = .ok ()) (n : Nat) (K : List Nat) :
    accepts s.params n K = accepts (sortParams s).all n K :=
  accepts_congr_view ((viewOf_sortParams s h).trans (viewOf_all _ (sortParams_bk s)).symm) n K

theorem kwNames_sortParams {s : USig} (h : WF s.params) : kwNames s.params = (sview (sortParams s)).kw :=
  congrArg View.kw (viewOf_sortParams s h.validate)

/-- validity on the buckets: each holds its kind, names are distinct, and among the positional parameters none without
    a default follows one with a default; for such `s` this is `s.all.Pairwise VR` (`pairwiseVR_all_iff`) -/
structure SWF (s : Sorted) : Prop where
  bk : BucketKinds s
  nd : (names s.all).Nodup
  df : (s.pos ++ s.pok).Pairwise DF

theorem pairwiseVR_all_iff {s : Sorted} (bk : BucketKinds s) :
    s.all.Pairwise VR ↔ (names s.all).Nodup ∧ (s.pos ++ s.pok).Pairwise DF := by
  rw [pairwise_VR_iff, defSuffix_all bk]
  exact and_iff_right (rank_sorted_all bk)

theorem wf_all_iff {s : Sorted} (bk : BucketKinds s) : WF s.all ↔ SWF s := by
  unfold WF
  rw [validOk_iff, pairwiseVR_all_iff bk, filter_vp_all bk, filter_vk_all bk]
  constructor
  · rintro ⟨⟨a, b⟩, -, -⟩; exact ⟨bk, a, b⟩
  · rintro ⟨-, a, b⟩
    refine ⟨⟨a, b⟩, ?_, ?_⟩
    · cases s.va <;> simp
    · cases s.vk <;> simp

theorem SWF.wf {s : Sorted} (h : SWF s) : WF s.all := (wf_all_iff h.bk).2 h

theorem SWF.validate {s : Sorted} (h : SWF s) : validate s.all = .ok () :=
  (validate_ok_iff _).2 ((pairwiseVR_all_iff h.bk).2 ⟨h.nd, h.df⟩)

theorem SWF.of_validate {B : Sorted} (bk : BucketKinds B) (hv : SV.validate B.all = .ok ()) : SWF B :=
  have := (pairwiseVR_all_iff bk).1 ((validate_ok_iff _).1 hv)
  ⟨bk, this.1, this.2⟩

theorem SWF.parts {s : Sorted} (h : SWF s) :
    (names s.pos).Nodup ∧ (names s.pok).Nodup ∧ (names s.kwo).Nodup ∧
    (∀ x ∈ names s.pos, x ∉ names s.pok) ∧ (∀ x ∈ names s.pos, x ∉ names s.kwo) ∧
    (∀ x ∈ names s.pok, x ∉ names s.kwo) := by
  have nd := h.nd
  simp only [Sorted.all, names_append, List.nodup_append, List.mem_append] at nd
  obtain ⟨⟨⟨⟨n1, n2, d12⟩, -, -⟩, n3, d3⟩, -, -⟩ := nd
  exact ⟨n1, n2, n3, fun x h1 h2 => d12 x h1 x h2 rfl,
    fun x h1 h3 => d3 x (Or.inl (Or.inl h1)) x h3 rfl,
    fun x h2 h3 => d3 x (Or.inl (Or.inr h2)) x h3 rfl⟩

theorem SWF.nodup_pp {s : Sorted} (hs : SWF s) : (names (s.pos ++ s.pok)).Nodup := by
  have := hs.nd
  simp only [Sorted.all, List.append_assoc] at this
  rw [← List.append_assoc, names_append] at this
  exact (List.nodup_append.1 this).1

theorem SWF.kwo_disj {s : Sorted} (hs : SWF s) : ∀ p ∈ s.kwo, p.name ∉ names (s.pos ++ s.pok) := by
  obtain ⟨-, -, -, -, p5, p6⟩ := hs.parts
  intro p hp h
  have hk := mem_names_of_mem hp
  simp only [names_append, List.mem_append] at h
  rcases h with h | h
  · exact p5 _ h hk
  · exact p6 _ h hk

theorem SWF.nodup_fill {s : Sorted} (hs : SWF s) (k : Nat) :
    (names (s.pok.drop k) ++ names s.kwo).Nodup := by
  obtain ⟨-, p2, p3, -, -, p6⟩ := hs.parts
  rw [names_drop]
  exact List.nodup_append.2 ⟨p2.sublist (List.drop_sublist _ _), p3,
    fun a ha b hb e => p6 a (List.mem_of_mem_drop ha) (e ▸ hb)⟩

theorem sortParams_swf_of_validate (s : USig) (h : validate s.params = .ok ()) : SWF (sortParams s) :=
  .of_validate (sortParams_bk s) (sortParams_all_valid s h)

theorem sortParams_swf {sig : USig} (hwf : WF sig.params) : SWF (sortParams sig) :=
  sortParams_swf_of_validate sig hwf.validate

theorem WF.exists_swf {F : List Param} (h : WF F) : ∃ S, SWF S ∧ S.all = F :=
  ⟨_, sortParams_swf (sig := { params := F }) h, sortParams_all (sig := { params := F }) h⟩

/-- the declarative reading of `accepts` on a bucketed signature -/
def AccP (s : Sorted) (n : Nat) (K : List Nat) : Prop :=
  (n ≤ (s.pos ++ s.pok).length ∨ s.va.isSome = true) ∧
  (∀ k ∈ K, ((k ∈ names s.pok ∨ k ∈ names s.kwo) → k ∉ names ((s.pos ++ s.pok).take n)) ∧
            (¬ (k ∈ names s.pok ∨ k ∈ names s.kwo) → s.vk.isSome = true)) ∧
  (∀ p, (p ∈ s.pos ∨ p ∈ s.pok ∨ p ∈ s.kwo) → p.required = true →
      (p.name ∈ K ∧ (p.name ∈ names s.pok ∨ p.name ∈ names s.kwo)) ∨
      p.name ∈ names ((s.pos ++ s.pok).take n))

theorem accepts_iff {s : Sorted} (bk : BucketKinds s) (n : Nat) {K : List Nat} (hK : K.Nodup) :
    accepts s.all n K = true ↔ AccP s n K := by
  have hkw : ∀ k, k ∈ names (s.pok ++ s.kwo) ↔ (k ∈ names s.pok ∨ k ∈ names s.kwo) :=
    fun k => by rw [names_append, List.mem_append]
  rw [accepts_all_iff s bk n K hK]
  unfold View.acc AccP
  rw [forall_sview_req]
  simp only [sview, names_length, ← names_take, hkw, imp_and, forall_and, and_assoc]
  refine and_congr_right fun _ => and_congr_right fun _ => and_congr_right fun _ => forall_congr' fun p => ?_
  rw [List.mem_append, List.mem_append, or_assoc, or_comm (a := p.name ∈ names _)]

theorem accepts_eq_of_iff {s s' : Sorted} (bk : BucketKinds s) (bk' : BucketKinds s')
    {n n' : Nat} {K K' : List Nat} (hK : K.Nodup) (hK' : K'.Nodup)
    (h : AccP s n K ↔ AccP s' n' K') : accepts s.all n K = accepts s'.all n' K' := by
  rw [Bool.eq_iff_iff, accepts_iff bk n hK, accepts_iff bk' n' hK', h]

/-- bucket-level acceptance of the call shape `(n, K)`, by position in `pos ++ pok`; the clause "a keyword that names a
    keyword-passable parameter is not also bound positionally" is not part of it (`accB_iff`): along a merge it follows
    from the role invariant (`GCond`, Lemmas/C01RFinal.lean) -/
def accB (M : Sorted) (n : Nat) (K : List Nat) : Prop :=
  (n ≤ M.pos.length + M.pok.length ∨ M.va.isSome = true) ∧
  (∀ k ∈ K, k ∈ names M.pok ∨ k ∈ names M.kwo ∨ M.vk.isSome = true) ∧
  (∀ i p, (M.pos ++ M.pok)[i]? = some p → p.required = true →
    i < n ∨ (p ∈ M.pok ∧ p.name ∈ K)) ∧
  (∀ p ∈ M.kwo, p.required = true → p.name ∈ K)

theorem mem_take_of_getElem? {α : Type} {ps : List α} {i n : Nat} {p : α} (h : ps[i]? = some p)
    (hi : i < n) : p ∈ ps.take n :=
  List.mem_iff_getElem?.2 ⟨i, by rw [List.getElem?_take, if_pos hi]; exact h⟩

theorem lt_of_mem_names_take {l : List Param} (hn : (names l).Nodup) {i n : Nat} {p : Param}
    (hi : l[i]? = some p) (hm : p.name ∈ names (l.take n)) : i < n := by
  induction l generalizing i n with
  | nil => simp at hi
  | cons a t ih =>
    simp only [names_cons, List.nodup_cons] at hn
    cases n with
    | zero => simp at hm
    | succ n =>
      cases i with
      | zero => exact Nat.succ_pos _
      | succ i =>
        simp only [List.getElem?_cons_succ] at hi
        simp only [List.take_succ_cons, names_cons, List.mem_cons] at hm
        rcases hm with e | hm
        · exact absurd (e ▸ mem_names_of_mem (List.mem_of_getElem? hi)) hn.1
        · exact Nat.succ_lt_succ (ih hn.2 hi hm)

theorem accB_iff {B : Sorted} (hs : SWF B) (n : Nat) (K : List Nat) :
    (sview B).acc n K ↔
      accB B n K ∧ ∀ k ∈ K, (k ∈ names B.pok ∨ k ∈ names B.kwo) → k ∉ names ((B.pos ++ B.pok).take n) := by
  have hpp := hs.nodup_pp
  unfold accB View.acc
  rw [forall_sview_req]
  simp only [sview, names_length, List.length_append, ← names_take, names_append (a := B.pok), List.mem_append]
  constructor
  · rintro ⟨c1, c2, c3, c4⟩
    refine ⟨⟨c1, fun k hk => ?_, fun i p hi hr => ?_, fun p hp hr => ?_⟩, c2⟩
    · by_cases h : k ∈ names B.pok ∨ k ∈ names B.kwo
      · exact h.elim .inl fun h => .inr (.inl h)
      · exact .inr (.inr (c3 k hk h))
    · have hp := List.mem_of_getElem? hi
      rcases c4 p (.inl (List.mem_append.1 hp)) hr with h | ⟨hK, h | h⟩
      · exact .inl (lt_of_mem_names_take hpp hi h)
      · obtain ⟨q, hq, hqn⟩ := mem_names.1 h
        exact .inr ⟨eq_of_nodup_names hpp (List.mem_append_right _ hq) hp hqn ▸ hq, hK⟩
      · obtain ⟨q, hq, hqn⟩ := mem_names.1 h
        exact absurd (hqn ▸ mem_names_of_mem hp) (hs.kwo_disj q hq)
    · rcases c4 p (.inr hp) hr with h | ⟨hK, _⟩
      · rw [names_take] at h
        exact absurd (List.mem_of_mem_take h) (hs.kwo_disj p hp)
      · exact hK
  · rintro ⟨⟨a1, a2, a3, a4⟩, c2⟩
    refine ⟨a1, c2, fun k hk h => ?_, fun p hp hr => ?_⟩
    · exact (a2 k hk).elim (fun h' => absurd (.inl h') h) fun h' => h'.elim (fun h' => absurd (.inr h') h) id
    · rcases hp with hp | hp
      · obtain ⟨i, hi⟩ := List.getElem?_of_mem (List.mem_append.2 hp)
        rcases a3 i p hi hr with h | ⟨h1, h2⟩
        · exact .inl (mem_names_of_mem (mem_take_of_getElem? hi h))
        · exact .inr ⟨h2, .inl (mem_names_of_mem h1)⟩
      · exact .inr ⟨a4 p hp hr, .inr (mem_names_of_mem hp)⟩

theorem sortParams_of_all {t : Sorted} (ht : SWF t) (src : Srcs) (d : Depths) (r : Option Nat) (u : UAnn) :
    sortParams { params := t.all, src := src, depths := d, ret := r, uret := u } =
      { t with src := src, depths := d } := by
  unfold sortParams
  rw [copyDepths_zero]
  exact sortGo_all t ht.bk ht.parts.2.2.1 src d

end SV
