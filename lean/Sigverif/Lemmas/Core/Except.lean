/-
  Lemmas/Core/Except.lean — inverting `>>=`, `Except.map` and a guard `if c then .error e else x`.
-/
import Sigverif.Props.Defs
namespace SV

theorem bind_eq_ok {α β : Type} {x : Except Err α} {f : α → Except Err β} {b : β}
    (h : (x >>= f) = .ok b) : ∃ a, x = .ok a ∧ f a = .ok b := by
  cases x with
  | error e => cases h
  | ok a => exact ⟨a, rfl, h⟩

theorem bind_eq_error {α β : Type} {x : Except Err α} {f : α → Except Err β} {e : Err}
    (h : (x >>= f) = .error e) : x = .error e ∨ ∃ a, x = .ok a ∧ f a = .error e := by
  cases x with
  | error e' =>
    simp only [bind, Except.bind, Except.error.injEq] at h
    exact .inl (h ▸ rfl)
  | ok a => exact .inr ⟨a, rfl, h⟩

theorem exceptMap_bind {ε α β γ : Type} (g : β → γ) (e : Except ε α) (k : α → Except ε β) :
    (e >>= k).map g = e >>= fun a => (k a).map g := by
  cases e <;> rfl

theorem exceptBind_map {ε α β γ : Type} (g : α → β) (e : Except ε α) (k : β → Except ε γ) :
    e.map g >>= k = e >>= fun a => k (g a) := by
  cases e <;> rfl

theorem ite_error_eq_ok {α : Type} {c : Prop} [Decidable c] {e : Err} {x : Except Err α} {r : α} :
    (if c then .error e else x) = .ok r ↔ ¬ c ∧ x = .ok r := by
  split <;> simp [*]

theorem ite_error_eq_error {α : Type} {c : Prop} [Decidable c] {e e' : Err} {x : Except Err α}
    (h : (if c then .error e else x) = .error e') : c ∧ e = e' ∨ x = .error e' := by
  split at h
  · exact .inl ⟨‹c›, Except.error.inj h⟩
  · exact .inr h

end SV
