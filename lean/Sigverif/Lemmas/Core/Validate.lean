/-
  Lemmas/Core/Validate.lean — `validate` (the check of `inspect.Signature.__init__`) read declaratively:
  it succeeds exactly when the parameters are pairwise in the relation `VR`, and it fails with
  `ValueError` only.  Then `applyParams`, whose only check it is: it raises nothing else, and what it returns is valid.
-/
import Sigverif.Lemmas.Core.Params
namespace SV

/-- the pairwise relation enforced by `inspect.Signature.__init__` -/
def VR (p q : Param) : Prop :=
  p.kind.rank ≤ q.kind.rank ∧
  (isPositional p = true → p.dflt.isSome = true → isPositional q = true → q.dflt.isSome = true) ∧
  p.name ≠ q.name

def RankSorted (ps : List Param) : Prop := ps.Pairwise (fun p q => p.kind.rank ≤ q.kind.rank)

def DF (p q : Param) : Prop := p.dflt.isSome = true → q.dflt.isSome = true

/-- no required positional parameter after an optional one -/
def DefSuffix (ps : List Param) : Prop := (positionals ps).Pairwise DF

theorem validateGo_cons (top : Nat) (seenD : Bool) (seen : List Nat) (p : Param) (ps : List Param) :
    validateGo top seenD seen (p :: ps) =
      if p.kind.rank < top then .error .valueError else
      if ((p.kind = .po || p.kind = .pk) && p.dflt.isNone && seenD) = true then .error .valueError else
      if seen.contains p.name = true then .error .valueError else
      validateGo (if p.kind.rank > top then p.kind.rank else top)
        (seenD || ((p.kind = .po || p.kind = .pk) && p.dflt.isSome)) (p.name :: seen) ps := rfl

theorem validateGo_ok_iff (top : Nat) (seenD : Bool) (seen : List Nat) (ps : List Param) :
    validateGo top seenD seen ps = .ok () ↔
      (∀ p ∈ ps, top ≤ p.kind.rank ∧
         (seenD = true → isPositional p = true → p.dflt.isSome = true) ∧ p.name ∉ seen) ∧
      ps.Pairwise VR := by
  fun_induction validateGo top seenD seen ps
  case case1 => simp
  case case2 top seenD seen p ps h1 =>
    refine ⟨(fun h => nomatch h), fun h => ?_⟩
    exact absurd (h.1 p (List.mem_cons_self ..)).1 (Nat.not_le.2 h1)
  case case3 top seenD seen p ps h1 h2 =>
    refine ⟨(fun h => nomatch h), fun h => ?_⟩
    simp only [Bool.and_eq_true, Bool.or_eq_true, decide_eq_true_eq] at h2
    have := (h.1 p (List.mem_cons_self ..)).2.1 h2.2 (by simpa [isPositional] using h2.1.1)
    rw [Option.isNone_iff_eq_none.1 h2.1.2] at this
    cases this
  case case4 top seenD seen p ps h1 h2 h3 =>
    refine ⟨(fun h => nomatch h), fun h => ?_⟩
    exact absurd (List.contains_iff_mem.1 h3) (h.1 p (List.mem_cons_self ..)).2.2
  case case5 top seenD seen p ps h1 top' h2 seenD' h3 ih =>
    have htop : top' = p.kind.rank := by
      simp only [top']
      split <;> omega
    -- having passed `p`, the accumulators demand of a later `q` what they did before, and `VR p q`
    have step : ∀ q : Param, (top' ≤ q.kind.rank ∧ (seenD' = true → isPositional q = true → q.dflt.isSome = true) ∧
          q.name ∉ p.name :: seen) ↔
        (top ≤ q.kind.rank ∧ (seenD = true → isPositional q = true → q.dflt.isSome = true) ∧ q.name ∉ seen) ∧ VR p q := by
      intro q
      simp only [htop, seenD', VR, isPositional, Bool.or_eq_true, Bool.and_eq_true, or_imp, and_imp, List.mem_cons, not_or,
        ne_comm (a := p.name)]
      constructor
      · rintro ⟨a, ⟨b1, b2⟩, c1, c2⟩
        exact ⟨⟨by omega, b1, c2⟩, a, b2, c1⟩
      · rintro ⟨⟨-, b1, c2⟩, a, b2, c1⟩
        exact ⟨a, ⟨b1, b2⟩, c1, c2⟩
    have hp : top ≤ p.kind.rank ∧ (seenD = true → isPositional p = true → p.dflt.isSome = true) ∧ p.name ∉ seen := by
      refine ⟨by omega, fun hs hp => ?_, by simpa using h3⟩
      cases hd : p.dflt with
      | some _ => rfl
      | none => exact absurd (by simpa [hd, hs, isPositional] using hp) h2
    rw [ih, List.forall_mem_cons, List.pairwise_cons, and_iff_right hp]
    simp only [step, forall_and, and_assoc]

theorem validOk_iff (ps : List Param) : validOk ps = true ↔ ps.Pairwise VR := by
  unfold validOk validate
  have := validateGo_ok_iff 0 false [] ps
  cases h : validateGo 0 false [] ps with
  | error e => simp [h] at this ⊢; exact this
  | ok u => cases u; simp [h] at this ⊢; exact this

theorem validOk_iff_validate {ps : List Param} : validOk ps = true ↔ validate ps = .ok () := by
  unfold validOk
  cases h : validate ps <;> simp

theorem validate_ok_iff (ps : List Param) : validate ps = .ok () ↔ ps.Pairwise VR := by
  rw [← validOk_iff, validOk_iff_validate]

theorem validateGo_err (top : Nat) (seenD : Bool) (seen : List Nat) (ps : List Param) (e : Err)
    (h : validateGo top seenD seen ps = .error e) : e = .valueError := by
  revert e
  fun_induction validateGo top seenD seen ps
  case case5 ih => exact ih
  all_goals rintro _ ⟨⟩
  all_goals rfl

theorem validate_err (ps : List Param) (e : Err) (h : validate ps = .error e) : e = .valueError :=
  validateGo_err _ _ _ _ _ h

theorem nodup_names_iff {ps : List Param} :
    (names ps).Nodup ↔ ps.Pairwise (fun p q => p.name ≠ q.name) :=
  List.pairwise_map

/-- the three conditions of `inspect.Signature.__init__` one by one -/
theorem pairwise_VR_iff (ps : List Param) :
    ps.Pairwise VR ↔ RankSorted ps ∧ (names ps).Nodup ∧ DefSuffix ps := by
  unfold VR RankSorted DefSuffix positionals DF
  rw [List.pairwise_and_iff, List.pairwise_and_iff, List.pairwise_filter, nodup_names_iff,
    and_comm (b := List.Pairwise _ ps)]
  refine and_congr_right fun _ => and_congr_right fun _ => ?_
  exact ⟨fun h => h.imp fun h hp hq hd => h hp hd hq, fun h => h.imp fun h hp hd hq => h hp hq hd⟩

theorem validate_iff (ps : List Param) :
    validate ps = .ok () ↔ RankSorted ps ∧ (names ps).Nodup ∧ DefSuffix ps :=
  (validate_ok_iff ps).trans (pairwise_VR_iff ps)

theorem validate_sorted {ps : List Param} (h : validate ps = .ok ()) : RankSorted ps :=
  ((validate_ok_iff ps).1 h).imp fun h => h.1

theorem validate_nodup {ps : List Param} (h : validate ps = .ok ()) : (names ps).Nodup :=
  nodup_names_iff.2 (((validate_ok_iff ps).1 h).imp fun h => h.2.2)

theorem WF.validate {ps : List Param} (h : WF ps) : validate ps = .ok () :=
  validOk_iff_validate.1 h.1

theorem applyParams_err (sig : USig) (s : Sorted) (e : Err)
    (h : applyParams sig s = .error e) : e = .valueError := by
  simp only [applyParams, bind, Except.bind] at h
  split at h
  · rename_i he; cases h; exact validateGo_err _ _ _ _ _ he
  · cases h

theorem applyParams_ok (sig : USig) (s : Sorted) (R : USig)
    (h : applyParams sig s = .ok R) :
    validate s.all = .ok () ∧
      R = { params := s.all, src := s.src, depths := s.depths, ret := sig.ret, uret := sig.uret } := by
  simp only [applyParams, bind, Except.bind] at h
  split at h
  · cases h
  · rename_i u hu
    cases u
    simp only [pure, Except.pure] at h
    cases h
    exact ⟨hu, rfl⟩

theorem applyParams_fields {sig : USig} {s : Sorted} {R : USig} (h : applyParams sig s = .ok R) :
    R.params = s.all ∧ R.src = s.src ∧ R.depths = s.depths := by
  obtain ⟨-, rfl⟩ := applyParams_ok sig s R h
  exact ⟨rfl, rfl, rfl⟩

theorem applyParams_valid (sig : USig) (s : Sorted) (R : USig)
    (h : applyParams sig s = .ok R) : validOk R.params = true := by
  obtain ⟨hv, rfl⟩ := applyParams_ok sig s R h
  simp [validOk, hv]

/-! Distinctness of the names as a pairwise condition on the parameters, the form the invariants of
    Lemmas/C12* carry. -/

def NamesDistinct (ps : List Param) : Prop := ps.Pairwise (fun p q => p.name ≠ q.name)

theorem validate_ok_iff_C12 {ps : List Param} :
    validate ps = .ok () ↔ RankSorted ps ∧ NamesDistinct ps ∧ DefSuffix ps :=
  (validate_iff ps).trans (and_congr_right fun _ => and_congr_left fun _ => nodup_names_iff)

theorem validOk_iff_C12 {ps : List Param} :
    validOk ps = true ↔ RankSorted ps ∧ NamesDistinct ps ∧ DefSuffix ps :=
  validOk_iff_validate.trans validate_ok_iff_C12

end SV
