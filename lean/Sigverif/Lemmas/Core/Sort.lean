/-
  Lemmas/Core/Sort.lean — `sortGo` in closed form: the two positional buckets and the keyword-only
  bucket collect the parameters of their kind in order, a star bucket keeps the last parameter of its
  kind.  A list sorted by kind is the concatenation of its five kind classes, and a test that depends
  on the kind only is constant on each bucket.
-/
import Sigverif.Lemmas.Core.Validate
namespace SV

def lastOr (l : List Param) (d : Option Param) : Option Param := l.foldl (fun _ p => some p) d

@[simp] theorem lastOr_nil (d : Option Param) : lastOr [] d = d := rfl
@[simp] theorem lastOr_cons (p : Param) (l : List Param) (d : Option Param) :
    lastOr (p :: l) d = lastOr l (some p) := rfl

theorem sortGo_eq (ps : List Param) (s : Sorted) :
    sortGo ps s =
      { s with pos := s.pos ++ ps.filter (·.kind = .po), pok := s.pok ++ ps.filter (·.kind = .pk),
               va := lastOr (ps.filter (·.kind = .vp)) s.va,
               kwo := pupdate s.kwo (ps.filter (·.kind = .ko)),
               vk := lastOr (ps.filter (·.kind = .vk)) s.vk } := by
  induction ps generalizing s with
  | nil => simp [sortGo, pupdate_nil]
  | cons p ps ih =>
    unfold sortGo
    rw [ih]
    cases hk : p.kind <;> simp [hk, pupdate_cons]

theorem filter_kind_nil_of_rank_lt {ps : List Param} {r : Nat} {k : Kind}
    (h : ∀ q ∈ ps, r ≤ q.kind.rank) (hk : k.rank < r) : ps.filter (·.kind = k) = [] := by
  simp only [List.filter_eq_nil_iff, decide_eq_true_eq]
  intro q hq hq'
  have := h q hq
  rw [hq'] at this
  omega

theorem rankSorted_split (ps : List Param) (h : RankSorted ps) :
    ps = ps.filter (·.kind = .po) ++ ps.filter (·.kind = .pk) ++ ps.filter (·.kind = .vp) ++
         ps.filter (·.kind = .ko) ++ ps.filter (·.kind = .vk) := by
  induction ps with
  | nil => rfl
  | cons p ps ih =>
    obtain ⟨hp, hs⟩ := List.pairwise_cons.1 h
    -- the classes of lower rank are empty in the tail, so the head opens its own class
    have e : ∀ k : Kind, k.rank < p.kind.rank → ps.filter (·.kind = k) = [] :=
      fun k hk => filter_kind_nil_of_rank_lt hp hk
    have ih := ih hs
    cases hk : p.kind
    all_goals
      rw [hk] at e
      simp only [List.filter_cons, hk, decide_true, if_true, reduceCtorEq, decide_false,
        Bool.false_eq_true, if_false]
    · exact congrArg (p :: ·) ih
    · rw [e .po (by decide)] at ih ⊢
      exact congrArg (p :: ·) ih
    · rw [e .po (by decide), e .pk (by decide)] at ih ⊢
      exact congrArg (p :: ·) ih
    · rw [e .po (by decide), e .pk (by decide), e .vp (by decide)] at ih ⊢
      exact congrArg (p :: ·) ih
    · rw [e .po (by decide), e .pk (by decide), e .vp (by decide), e .ko (by decide)] at ih ⊢
      exact congrArg (p :: ·) ih

theorem copyDepths_zero (d : Depths) : copyDepths d 0 = d := by
  simp [copyDepths]

theorem mem_filter_kind {ps : List Param} {k : Kind} : ∀ p ∈ ps.filter (·.kind = k), p.kind = k :=
  fun _ h => of_decide_eq_true (List.mem_filter.1 h).2

theorem lastOr_eq_some {l : List Param} {d : Option Param} {p : Param} (h : lastOr l d = some p) :
    p ∈ l ∨ d = some p := by
  induction l generalizing d with
  | nil => exact .inr h
  | cons q l ih =>
    rcases ih h with h | h
    · exact .inl (List.mem_cons_of_mem _ h)
    · cases h; exact .inl List.mem_cons_self

theorem sortGo_bk (ps : List Param) {s : Sorted} (h : BucketKinds s) :
    BucketKinds (sortGo ps s) := by
  rw [sortGo_eq]
  refine ⟨fun q hq => ?_, fun q hq => ?_, fun q hq => ?_, fun q hq => ?_, fun q hq => ?_⟩
  · exact (List.mem_append.1 hq).elim (h.pos q) (mem_filter_kind q)
  · exact (List.mem_append.1 hq).elim (h.pok q) (mem_filter_kind q)
  · exact (lastOr_eq_some hq).elim (mem_filter_kind q) (h.va q)
  · exact (mem_pupdate hq).elim (h.kwo q) (mem_filter_kind q)
  · exact (lastOr_eq_some hq).elim (mem_filter_kind q) (h.vk q)

theorem sortParams_bk (sig : USig) : BucketKinds (sortParams sig) :=
  sortGo_bk _ ⟨fun _ h => (nomatch h), fun _ h => (nomatch h), fun _ h => (nomatch h),
    fun _ h => (nomatch h), fun _ h => (nomatch h)⟩

theorem sortParams_src (sig : USig) :
    (sortParams sig).src = sig.src ∧ (sortParams sig).depths = sig.depths := by
  unfold sortParams
  rw [sortGo_eq, copyDepths_zero]
  exact ⟨rfl, rfl⟩

theorem filter_of_forall_kind {l : List Param} {k : Kind} (h : ∀ p ∈ l, p.kind = k)
    {f : Param → Bool} {g : Kind → Bool} (hf : ∀ p, f p = g p.kind) :
    l.filter f = if g k then l else [] := by
  by_cases hg : g k = true
  · rw [if_pos hg]; apply List.filter_eq_self.2
    intro p hp; rw [hf, h p hp, hg]
  · rw [if_neg hg]; apply List.filter_eq_nil_iff.2
    intro p hp; rw [hf, h p hp]; exact hg

/-- what a rank-sorted list and the flattening of a well-kinded record have in common -/
theorem filter_blocks {a b c d e : List Param}
    (ha : ∀ p ∈ a, p.kind = .po) (hb : ∀ p ∈ b, p.kind = .pk) (hc : ∀ p ∈ c, p.kind = .vp)
    (hd : ∀ p ∈ d, p.kind = .ko) (he : ∀ p ∈ e, p.kind = .vk)
    (f : Param → Bool) (g : Kind → Bool) (hf : ∀ p, f p = g p.kind) :
    (a ++ b ++ c ++ d ++ e).filter f =
      (if g .po then a else []) ++ (if g .pk then b else []) ++ (if g .vp then c else []) ++
      (if g .ko then d else []) ++ (if g .vk then e else []) := by
  simp only [List.filter_append]
  rw [filter_of_forall_kind ha hf, filter_of_forall_kind hb hf, filter_of_forall_kind hc hf,
    filter_of_forall_kind hd hf, filter_of_forall_kind he hf]

theorem filter_by_kind_of_sorted {ps : List Param} (h : RankSorted ps)
    (f : Param → Bool) (g : Kind → Bool) (hf : ∀ p, f p = g p.kind) :
    ps.filter f =
      (if g .po then ps.filter (·.kind = .po) else []) ++ (if g .pk then ps.filter (·.kind = .pk) else []) ++
      (if g .vp then ps.filter (·.kind = .vp) else []) ++ (if g .ko then ps.filter (·.kind = .ko) else []) ++
      (if g .vk then ps.filter (·.kind = .vk) else []) :=
  (congrArg (List.filter f) (rankSorted_split ps h)).trans
    (filter_blocks mem_filter_kind mem_filter_kind mem_filter_kind mem_filter_kind mem_filter_kind f g hf)

theorem positionals_of_sorted {ps : List Param} (hs : RankSorted ps) :
    positionals ps = ps.filter (·.kind = .po) ++ ps.filter (·.kind = .pk) := by
  rw [positionals, filter_by_kind_of_sorted hs isPositional (fun k => k = .po || k = .pk) (fun p => rfl)]
  simp

theorem any_kind_eq (ps : List Param) (k : Kind) :
    ps.any (fun p => p.kind = k) = !(ps.filter (·.kind = k)).isEmpty := by
  rw [Bool.eq_iff_iff]; simp [List.any_eq_true, List.filter_eq_nil_iff]

theorem optToList_kind {o : Option Param} {k : Kind} (h : ∀ p, o = some p → p.kind = k) :
    ∀ p ∈ o.toList, p.kind = k := by
  intro p hp; cases o with
  | none => simp at hp
  | some q => simp at hp; subst hp; exact h _ rfl

theorem mem_all_iff {s : Sorted} {p : Param} :
    p ∈ s.all ↔ p ∈ s.pos ∨ p ∈ s.pok ∨ s.va = some p ∨ p ∈ s.kwo ∨ s.vk = some p := by
  simp only [Sorted.all, List.mem_append, Option.mem_toList, or_assoc]

theorem mem_all_pos {s : Sorted} {p : Param} (h : p ∈ s.pos) : p ∈ s.all :=
  mem_all_iff.2 (.inl h)
theorem mem_all_pok {s : Sorted} {p : Param} (h : p ∈ s.pok) : p ∈ s.all :=
  mem_all_iff.2 (.inr (.inl h))
theorem mem_all_va {s : Sorted} {p : Param} (h : s.va = some p) : p ∈ s.all :=
  mem_all_iff.2 (.inr (.inr (.inl h)))
theorem mem_all_kwo {s : Sorted} {p : Param} (h : p ∈ s.kwo) : p ∈ s.all :=
  mem_all_iff.2 (.inr (.inr (.inr (.inl h))))
theorem mem_all_vk {s : Sorted} {p : Param} (h : s.vk = some p) : p ∈ s.all :=
  mem_all_iff.2 (.inr (.inr (.inr (.inr h))))

theorem mem_sortGo_all {ps : List Param} {s : Sorted} {p : Param} (h : p ∈ (sortGo ps s).all) :
    p ∈ ps ∨ p ∈ s.all := by
  rw [sortGo_eq] at h
  rcases mem_all_iff.1 h with h | h | h | h | h
  · exact (List.mem_append.1 h).elim (fun h => .inr (mem_all_pos h)) fun h => .inl (List.mem_filter.1 h).1
  · exact (List.mem_append.1 h).elim (fun h => .inr (mem_all_pok h)) fun h => .inl (List.mem_filter.1 h).1
  · exact (lastOr_eq_some h).elim (fun h => .inl (List.mem_filter.1 h).1) fun h => .inr (mem_all_va h)
  · exact (mem_pupdate h).elim (fun h => .inr (mem_all_kwo h)) fun h => .inl (List.mem_filter.1 h).1
  · exact (lastOr_eq_some h).elim (fun h => .inl (List.mem_filter.1 h).1) fun h => .inr (mem_all_vk h)

theorem mem_sortParams_all {u : USig} {p : Param} (h : p ∈ (sortParams u).all) : p ∈ u.params :=
  (mem_sortGo_all h).resolve_right List.not_mem_nil

theorem mem_all_kind (S : Sorted) (hS : BucketKinds S) (p : Param) (hp : p ∈ S.all) :
    (p ∈ S.pos ∧ p.kind = .po) ∨ (p ∈ S.pok ∧ p.kind = .pk) ∨ (S.va = some p ∧ p.kind = .vp) ∨
    (p ∈ S.kwo ∧ p.kind = .ko) ∨ (S.vk = some p ∧ p.kind = .vk) := by
  rcases mem_all_iff.1 hp with h | h | h | h | h
  · exact .inl ⟨h, hS.pos p h⟩
  · exact .inr (.inl ⟨h, hS.pok p h⟩)
  · exact .inr (.inr (.inl ⟨h, hS.va p h⟩))
  · exact .inr (.inr (.inr (.inl ⟨h, hS.kwo p h⟩)))
  · exact .inr (.inr (.inr (.inr ⟨h, hS.vk p h⟩)))

theorem rankSorted_snoc_block {a b : List Param} {k : Kind} {r : Nat} (hb : ∀ p ∈ b, p.kind = k) (hr : r ≤ k.rank)
    (ha : RankSorted a ∧ ∀ p ∈ a, p.kind.rank ≤ r) :
    RankSorted (a ++ b) ∧ ∀ p ∈ a ++ b, p.kind.rank ≤ k.rank := by
  have hk : ∀ q ∈ b, q.kind.rank = k.rank := fun q hq => congrArg Kind.rank (hb q hq)
  refine ⟨List.pairwise_append.2 ⟨ha.1, List.pairwise_of_forall_mem_list fun p hp q hq => ?_, fun p hp q hq => ?_⟩,
    fun p hp => (List.mem_append.1 hp).elim (fun h => Nat.le_trans (ha.2 p h) hr) fun h => Nat.le_of_eq (hk p h)⟩
  · rw [hk p hp, hk q hq]; exact Nat.le_refl _
  · rw [hk q hq]; exact Nat.le_trans (ha.2 p hp) hr

section Filters
variable {s : Sorted} (bk : BucketKinds s)
include bk

theorem filter_all_by_kind (f : Param → Bool) (g : Kind → Bool) (hf : ∀ p, f p = g p.kind) :
    s.all.filter f =
      (if g .po then s.pos else []) ++ (if g .pk then s.pok else []) ++
      (if g .vp then s.va.toList else []) ++ (if g .ko then s.kwo else []) ++
      (if g .vk then s.vk.toList else []) :=
  filter_blocks bk.pos bk.pok (optToList_kind bk.va) bk.kwo (optToList_kind bk.vk) f g hf

theorem positionals_all : positionals s.all = s.pos ++ s.pok := by
  unfold positionals
  rw [filter_all_by_kind bk isPositional (fun k => k = .po || k = .pk) (fun p => rfl)]
  simp

theorem defSuffix_all : DefSuffix s.all ↔ (s.pos ++ s.pok).Pairwise DF := by
  rw [DefSuffix, positionals_all bk]

theorem filter_kwPassable_all : s.all.filter kwPassable = s.pok ++ s.kwo := by
  rw [filter_all_by_kind bk kwPassable (fun k => k = .pk || k = .ko) (fun p => rfl)]
  simp

theorem kwNames_all : kwNames s.all = names s.pok ++ names s.kwo := by
  unfold kwNames
  rw [filter_kwPassable_all bk]; simp [names]

theorem filter_isNamed_all : s.all.filter isNamed = s.pos ++ s.pok ++ s.kwo := by
  rw [filter_all_by_kind bk isNamed (fun k => k = .po || k = .pk || k = .ko) (fun p => rfl)]
  simp

theorem filter_vp_all : s.all.filter (fun p => p.kind = .vp) = s.va.toList := by
  rw [filter_all_by_kind bk _ (fun k => k = .vp) (fun p => rfl)]
  simp

theorem filter_vk_all : s.all.filter (fun p => p.kind = .vk) = s.vk.toList := by
  rw [filter_all_by_kind bk _ (fun k => k = .vk) (fun p => rfl)]
  simp

theorem filter_po_all : s.all.filter (fun p => p.kind = .po) = s.pos := by
  rw [filter_all_by_kind bk _ (fun k => k = .po) (fun p => rfl)]
  simp

theorem filter_pk_all : s.all.filter (fun p => p.kind = .pk) = s.pok := by
  rw [filter_all_by_kind bk _ (fun k => k = .pk) (fun p => rfl)]
  simp

theorem filter_ko_all : s.all.filter (fun p => p.kind = .ko) = s.kwo := by
  rw [filter_all_by_kind bk _ (fun k => k = .ko) (fun p => rfl)]
  simp

theorem mem_all_of_kind {p : Param} (hp : p ∈ s.all) :
    (p.kind = .po → p ∈ s.pos) ∧ (p.kind = .pk → p ∈ s.pok) ∧ (p.kind = .vp → s.va = some p) ∧
    (p.kind = .ko → p ∈ s.kwo) ∧ (p.kind = .vk → s.vk = some p) := by
  have key : ∀ k, p.kind = k → p ∈ s.all.filter (fun q => q.kind = k) :=
    fun k hk => List.mem_filter.2 ⟨hp, decide_eq_true hk⟩
  refine ⟨fun hk => ?_, fun hk => ?_, fun hk => ?_, fun hk => ?_, fun hk => ?_⟩
  · exact filter_po_all bk ▸ key _ hk
  · exact filter_pk_all bk ▸ key _ hk
  · exact Option.mem_toList.1 (filter_vp_all bk ▸ key _ hk)
  · exact filter_ko_all bk ▸ key _ hk
  · exact Option.mem_toList.1 (filter_vk_all bk ▸ key _ hk)

theorem hasVa_all : hasVa s.all = s.va.isSome := by
  rw [hasVa, any_kind_eq, filter_vp_all bk]; cases s.va <;> rfl

theorem hasVk_all : hasVk s.all = s.vk.isSome := by
  rw [hasVk, any_kind_eq, filter_vk_all bk]; cases s.vk <;> rfl

theorem rank_sorted_all : RankSorted s.all := by
  have h := rankSorted_snoc_block (a := []) (r := 0) bk.pos (Nat.zero_le _) ⟨.nil, fun _ h => nomatch h⟩
  have h := rankSorted_snoc_block bk.pok (by decide) h
  have h := rankSorted_snoc_block (optToList_kind bk.va) (by decide) h
  have h := rankSorted_snoc_block bk.kwo (by decide) h
  exact (rankSorted_snoc_block (optToList_kind bk.vk) (by decide) h).1

end Filters

theorem lastOr_toList (o : Option Param) : lastOr o.toList none = o := by
  cases o <;> rfl

theorem sortGo_all (t : Sorted) (hb : BucketKinds t) (hn : (names t.kwo).Nodup) (src : Srcs) (d : Depths) :
    sortGo t.all { src := src, depths := d } = { t with src := src, depths := d } := by
  rw [sortGo_eq]
  simp only [filter_po_all hb, filter_pk_all hb, filter_vp_all hb, filter_ko_all hb, filter_vk_all hb,
    lastOr_toList, List.nil_append, pupdate_of_nodup [] t.kwo (by simpa using hn)]

theorem length_le_one_cases {α} (l : List α) (h : l.length ≤ 1) : l = [] ∨ ∃ a, l = [a] := by
  match l, h with
  | [], _ => exact .inl rfl
  | [a], _ => exact .inr ⟨a, rfl⟩
  | _ :: _ :: _, h => simp at h

theorem toList_lastOr (l : List Param) (h : l.length ≤ 1) : (lastOr l none).toList = l := by
  rcases length_le_one_cases l h with rfl | ⟨a, rfl⟩ <;> rfl

theorem lastOr_isSome (l : List Param) : (lastOr l none).isSome = !l.isEmpty := by
  cases l with
  | nil => rfl
  | cons a l =>
    suffices ∀ d : Option Param, d.isSome = true → (lastOr l d).isSome = true from this _ rfl
    induction l with
    | nil => exact fun _ h => h
    | cons b l ih => exact fun _ _ => ih _ rfl

theorem lastOr_toList_sublist (l : List Param) : (lastOr l none).toList.Sublist l := by
  suffices ∀ d : Option Param, (lastOr l d).toList.Sublist (d.toList ++ l) from this none
  induction l with
  | nil => exact fun d => by simp
  | cons a l ih =>
    intro d
    exact (ih (some a)).trans (List.sublist_append_right _ _)

theorem sortParams_eq (s : USig) (hn : (names s.params).Nodup) :
    sortParams s =
      { pos := s.params.filter (·.kind = .po), pok := s.params.filter (·.kind = .pk),
        va := lastOr (s.params.filter (·.kind = .vp)) none,
        kwo := s.params.filter (·.kind = .ko),
        vk := lastOr (s.params.filter (·.kind = .vk)) none, src := s.src, depths := s.depths } := by
  have hko : (names ([] ++ s.params.filter (·.kind = .ko))).Nodup :=
    hn.sublist (List.filter_sublist.map _)
  unfold sortParams
  rw [sortGo_eq, copyDepths_zero, pupdate_of_nodup _ _ hko]
  rfl

/-- the buckets of a valid signature, read in order, drop nothing but earlier `*`/`**` parameters
    (`inspect.Signature` accepts several of them; a `def` has at most one of each) -/
theorem sortParams_all_sublist (s : USig) (h : validate s.params = .ok ()) :
    (sortParams s).all.Sublist s.params := by
  rw [sortParams_eq s (validate_nodup h)]
  conv => rhs; rw [rankSorted_split _ (validate_sorted h)]
  unfold Sorted.all
  exact ((((List.Sublist.refl _).append (List.Sublist.refl _)).append (lastOr_toList_sublist _)).append
    (List.Sublist.refl _)).append (lastOr_toList_sublist _)

theorem sortParams_all_valid (s : USig) (h : validate s.params = .ok ()) :
    validate (sortParams s).all = .ok () :=
  (validate_ok_iff _).2 (((validate_ok_iff _).1 h).sublist (sortParams_all_sublist s h))

theorem sortParams_all {sig : USig} (h : WF sig.params) : (sortParams sig).all = sig.params := by
  have hv := h.validate
  rw [sortParams_eq sig (validate_nodup hv)]
  simp only [Sorted.all, toList_lastOr _ h.2.1, toList_lastOr _ h.2.2]
  exact (rankSorted_split _ (validate_sorted hv)).symm

theorem positionals_sort (s : USig) (h : validate s.params = .ok ()) :
    positionals s.params = (sortParams s).pos ++ (sortParams s).pok := by
  rw [sortParams_eq s (validate_nodup h)]
  exact positionals_of_sorted (validate_sorted h)

theorem named_sortParams {sig : USig} (h : WF sig.params) :
    sig.params.filter isNamed = (sortParams sig).pos ++ (sortParams sig).pok ++ (sortParams sig).kwo := by
  rw [← filter_isNamed_all (sortParams_bk sig), sortParams_all h]

theorem isPositional_iff (p : Param) : isPositional p = true ↔ (p.kind = .po ∨ p.kind = .pk) := by
  simp [isPositional]

theorem WF_inv (ps : List Param) (h : WF ps) :
    RankSorted ps ∧ (names ps).Nodup ∧ (ps.filter (·.kind = .vp)).length ≤ 1 ∧
      (ps.filter (·.kind = .vk)).length ≤ 1 :=
  ⟨validate_sorted h.validate, validate_nodup h.validate, h.2.1, h.2.2⟩

theorem sortParams_fields (sig : USig) (hwf : WF sig.params) :
    (sortParams sig).pos = sig.params.filter (·.kind = .po) ∧
    (sortParams sig).pok = sig.params.filter (·.kind = .pk) ∧
    (sortParams sig).va.toList = sig.params.filter (·.kind = .vp) ∧
    (sortParams sig).kwo = sig.params.filter (·.kind = .ko) ∧
    (sortParams sig).vk.toList = sig.params.filter (·.kind = .vk) := by
  rw [sortParams_eq sig (validate_nodup hwf.validate)]
  exact ⟨rfl, rfl, toList_lastOr _ hwf.2.1, rfl, toList_lastOr _ hwf.2.2⟩

end SV
