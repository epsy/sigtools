/-
  Lemmas/Core/Params.lean — the insertion-ordered dictionary of parameters.
-/
import Sigverif.Props.Defs
namespace SV

@[simp] theorem names_nil : names ([] : List Param) = [] := rfl
@[simp] theorem names_cons (p : Param) (l : List Param) : names (p :: l) = p.name :: names l := rfl
@[simp] theorem names_append (a b : List Param) : names (a ++ b) = names a ++ names b :=
  List.map_append
theorem names_singleton (x : Param) : names [x] = [x.name] := rfl
theorem mem_names {x : Nat} {l : List Param} : x ∈ names l ↔ ∃ p ∈ l, p.name = x :=
  List.mem_map
theorem mem_names_of_mem {p : Param} {l : List Param} (h : p ∈ l) : p.name ∈ names l :=
  List.mem_map_of_mem h
theorem forall_mem_names_filter (l : List Param) (c : Param → Bool) (Q : Nat → Prop) :
    (∀ x ∈ names (l.filter c), Q x) ↔ ∀ p ∈ l, c p = true → Q p.name := by
  simp only [names, List.mem_map, List.mem_filter, forall_exists_index, and_imp]
  exact ⟨fun h p hp hc => h _ p hp hc rfl, fun h _ p hp hc e => e ▸ h p hp hc⟩
@[simp] theorem names_map_withKind (l : List Param) (k : Kind) :
    names (l.map (·.withKind k)) = names l := by
  simp [names, Param.withKind]
theorem isNamed_iff {p : Param} : isNamed p = true ↔ p.kind = .po ∨ p.kind = .pk ∨ p.kind = .ko := by
  simp only [isNamed, Bool.or_eq_true, decide_eq_true_eq, or_assoc]
@[simp] theorem names_toList_none : names (none : Option Param).toList = [] := rfl
@[simp] theorem names_toList_some (p : Param) : names (some p).toList = [p.name] := rfl
@[simp] theorem names_length (l : List Param) : (names l).length = l.length := by simp [names]
theorem names_take (l : List Param) (n : Nat) : names (l.take n) = (names l).take n := by
  simp [names]
theorem names_drop (l : List Param) (n : Nat) : names (l.drop n) = (names l).drop n := by
  simp [names]
@[simp] theorem names_clearDefaults (l : List Param) : names (clearDefaults l) = names l := by
  simp [names, clearDefaults, Param.withDflt]

@[simp] theorem withKind_name (p : Param) (k : Kind) : (p.withKind k).name = p.name := rfl
@[simp] theorem withKind_required (p : Param) (k : Kind) : (p.withKind k).required = p.required := rfl
@[simp] theorem withKind_kind (p : Param) (k : Kind) : (p.withKind k).kind = k := rfl
@[simp] theorem withKind_dflt (p : Param) (k : Kind) : (p.withKind k).dflt = p.dflt := rfl
@[simp] theorem withKind_ann (p : Param) (k : Kind) : (p.withKind k).ann = p.ann := rfl

theorem mem_map_withKind {l : List Param} {k : Kind} : ∀ p ∈ l.map (·.withKind k), p.kind = k := by
  intro p h
  obtain ⟨q, -, rfl⟩ := List.mem_map.1 h
  rfl

@[simp] theorem concile_kind (l r : Param) : (concile l r).kind = l.kind := rfl
@[simp] theorem concile_name (l r : Param) : (concile l r).name = l.name := rfl

theorem concile_dflt_isSome (l r : Param) :
    (concile l r).dflt.isSome = (l.dflt.isSome && r.dflt.isSome) := by
  simp only [concile]
  cases l.dflt <;> cases r.dflt <;> simp
  split <;> rfl

@[simp] theorem concile_required (l r : Param) :
    (concile l r).required = (l.required || r.required) := by
  have := concile_dflt_isSome l r
  unfold Param.required
  cases h1 : (concile l r).dflt <;> cases h2 : l.dflt <;> cases h3 : r.dflt <;> simp_all

theorem pget_some {l : List Param} {x : Nat} {p : Param} (h : pget l x = some p) :
    p ∈ l ∧ p.name = x :=
  ⟨List.mem_of_find?_eq_some h, by simpa using List.find?_some h⟩

theorem pget_eq_none {l : List Param} {x : Nat} : pget l x = none ↔ x ∉ names l := by
  simp [pget, mem_names]

theorem eq_of_nodup_names {d : List Param} (hn : (names d).Nodup) {p q : Param}
    (hp : p ∈ d) (hq : q ∈ d) (e : p.name = q.name) : p = q := by
  induction d with
  | nil => cases hp
  | cons a t ih =>
    rw [names, List.map_cons, List.nodup_cons] at hn
    rcases List.mem_cons.1 hp with rfl | hp' <;> rcases List.mem_cons.1 hq with rfl | hq'
    · rfl
    · exact absurd (e ▸ mem_names_of_mem hq') hn.1
    · exact absurd (e ▸ mem_names_of_mem hp') hn.1
    · exact ih hn.2 hp' hq'

theorem pget_of_mem {d : List Param} (hn : (names d).Nodup) {p : Param} (hp : p ∈ d) :
    pget d p.name = some p := by
  cases hf : pget d p.name with
  | none => exact absurd (mem_names_of_mem hp) (pget_eq_none.1 hf)
  | some q =>
    obtain ⟨hq, hqn⟩ := pget_some hf
    rw [eq_of_nodup_names hn hq hp hqn]

theorem pget_append_of_not_mem {a b : List Param} {x : Nat} (h : x ∉ names a) :
    pget (a ++ b) x = pget b x := by
  have : pget a x = none := pget_eq_none.2 h
  unfold pget at *
  simp [List.find?_append, this]

theorem phas_iff {d : List Param} {k : Nat} : phas d k = true ↔ k ∈ names d := by
  simp [phas, mem_names]

theorem phas_false_iff {d : List Param} {k : Nat} : phas d k = false ↔ k ∉ names d := by
  rw [← phas_iff, Bool.not_eq_true]

theorem pset_of_not_mem {d : List Param} {p : Param} (h : p.name ∉ names d) :
    pset d p = d ++ [p] := by
  induction d with
  | nil => rfl
  | cons q t ih =>
    simp only [names_cons, List.mem_cons, not_or] at h
    simp only [pset, if_neg (Ne.symm h.1), ih h.2, List.cons_append]

theorem mem_pset {d : List Param} {p q : Param} (h : q ∈ pset d p) : q ∈ d ∨ q = p := by
  induction d with
  | nil => exact .inr (List.mem_singleton.1 h)
  | cons a t ih =>
    unfold pset at h
    split at h
    · rcases List.mem_cons.1 h with h | h
      · exact .inr h
      · exact .inl (List.mem_cons_of_mem _ h)
    · rcases List.mem_cons.1 h with h | h
      · exact .inl (h ▸ List.mem_cons_self)
      · exact (ih h).imp_left (List.mem_cons_of_mem _)

theorem mem_names_pset (d : List Param) (p : Param) (k : Nat) :
    k ∈ names (pset d p) ↔ k ∈ names d ∨ k = p.name := by
  induction d with
  | nil => simp [pset]
  | cons q t ih =>
    unfold pset
    split
    · next h => simp [h, or_comm]
    · simp [ih, or_assoc]

theorem mem_ppop {l : List Param} {x : Nat} {p : Param} : p ∈ ppop l x ↔ p ∈ l ∧ p.name ≠ x := by
  simp [ppop]

theorem ppop_of_not_mem {d : List Param} {k : Nat} (h : k ∉ names d) : ppop d k = d := by
  unfold ppop
  rw [List.filter_eq_self]
  intro p hp
  simpa using fun e => h (mem_names.2 ⟨p, hp, e⟩)

theorem ppop_sublist (d : List Param) (k : Nat) : (ppop d k).Sublist d :=
  List.filter_sublist

theorem names_ppop_sublist (d : List Param) (k : Nat) : (names (ppop d k)).Sublist (names d) :=
  (ppop_sublist d k).map _

theorem mem_names_ppop {l : List Param} {x y : Nat} :
    y ∈ names (ppop l x) ↔ y ∈ names l ∧ y ≠ x := by
  simp only [mem_names, mem_ppop]
  constructor
  · rintro ⟨p, ⟨hp, hk⟩, rfl⟩; exact ⟨⟨p, hp, rfl⟩, hk⟩
  · rintro ⟨⟨p, hp, rfl⟩, hk⟩; exact ⟨p, ⟨hp, hk⟩, rfl⟩

theorem not_mem_names_ppop (d : List Param) (k : Nat) : k ∉ names (ppop d k) :=
  fun h => (mem_names_ppop.1 h).2 rfl

theorem nodup_names_ppop {d : List Param} (k : Nat) (h : (names d).Nodup) :
    (names (ppop d k)).Nodup :=
  h.sublist (names_ppop_sublist d k)

theorem pupdate_nil (d : List Param) : pupdate d [] = d := rfl
theorem pupdate_cons (d : List Param) (p : Param) (e : List Param) :
    pupdate d (p :: e) = pupdate (pset d p) e := rfl
theorem pupdate_append (d e f : List Param) : pupdate d (e ++ f) = pupdate (pupdate d e) f := by
  simp [pupdate, List.foldl_append]

theorem mem_pupdate {d e : List Param} {q : Param} (h : q ∈ pupdate d e) : q ∈ d ∨ q ∈ e := by
  induction e generalizing d with
  | nil => exact .inl h
  | cons p e ih =>
    rw [pupdate_cons] at h
    rcases ih h with h | h
    · rcases mem_pset h with h | h
      · exact .inl h
      · exact .inr (h ▸ List.mem_cons_self)
    · exact .inr (List.mem_cons_of_mem _ h)

theorem mem_names_pupdate (d e : List Param) (k : Nat) :
    k ∈ names (pupdate d e) ↔ k ∈ names d ∨ k ∈ names e := by
  induction e generalizing d with
  | nil => simp [pupdate_nil]
  | cons p t ih => simp [pupdate_cons, ih, mem_names_pset, or_assoc]

theorem pupdate_of_disjoint {d e : List Param}
    (hd : ∀ x ∈ names e, x ∉ names d) (he : (names e).Nodup) :
    pupdate d e = d ++ e := by
  induction e generalizing d with
  | nil => exact (List.append_nil d).symm
  | cons p t ih =>
    simp only [names_cons, List.nodup_cons, List.mem_cons, forall_eq_or_imp] at hd he
    rw [pupdate_cons, pset_of_not_mem hd.1, ih _ he.2, List.append_assoc, List.singleton_append]
    intro x hx
    simp only [names_append, names_cons, names_nil, List.mem_append, List.mem_singleton, not_or]
    exact ⟨hd.2 x hx, fun e => he.1 (e ▸ hx)⟩

theorem pupdate_of_nodup (d e : List Param) (h : (names (d ++ e)).Nodup) :
    pupdate d e = d ++ e := by
  rw [names_append, List.nodup_append] at h
  exact pupdate_of_disjoint (fun x hx hx' => h.2.2 x hx' x hx rfl) h.2.1

/-! ### the facts above once more, under names that carry a cluster's mark (`_C01`, `_C02`, `_Laws`, `x10_`) or say
    the direction used (`pget_none`, `phas_false`); some cluster files cite them by these names -/

@[simp] theorem names_nil_C01 : names [] = [] := rfl
@[simp] theorem names_cons_C01 (p : Param) (ps : List Param) : names (p :: ps) = p.name :: names ps := rfl
@[simp] theorem names_nil_C02 : names [] = [] := rfl
@[simp] theorem names_cons_C02 (p : Param) (l : List Param) : names (p :: l) = p.name :: names l := rfl
@[simp] theorem names_map_withKind_C01 (ps : List Param) (k : Kind) :
    names (ps.map (·.withKind k)) = names ps :=
  names_map_withKind ps k
theorem x10_names_append (a b : List Param) : names (a ++ b) = names a ++ names b :=
  names_append a b
theorem x10_names_mapKind (k : Kind) (l : List Param) : names (l.map (·.withKind k)) = names l :=
  names_map_withKind l k

@[simp] theorem withKind_name_C01 (p : Param) (k : Kind) : (p.withKind k).name = p.name := rfl
@[simp] theorem withKind_dflt_C01 (p : Param) (k : Kind) : (p.withKind k).dflt = p.dflt := rfl
@[simp] theorem withKind_required_C01 (p : Param) (k : Kind) : (p.withKind k).required = p.required := rfl
@[simp] theorem withKind_kind_Laws (p : Param) (k : Kind) : (p.withKind k).kind = k := rfl
@[simp] theorem withKind_name_Laws (p : Param) (k : Kind) : (p.withKind k).name = p.name := rfl
@[simp] theorem withKind_dflt_Laws (p : Param) (k : Kind) : (p.withKind k).dflt = p.dflt := rfl
@[simp] theorem concile_name_C01 (l r : Param) : (concile l r).name = l.name := rfl
@[simp] theorem concile_kind_C01 (l r : Param) : (concile l r).kind = l.kind := rfl

theorem pget_none (d : List Param) (n : Nat) (h : n ∉ names d) : pget d n = none :=
  pget_eq_none.2 h
theorem phas_false (d : List Param) (n : Nat) (h : n ∉ names d) : phas d n = false :=
  phas_false_iff.2 h

theorem names_pset_of_mem {d : List Param} {p : Param} (h : p.name ∈ names d) :
    names (pset d p) = names d := by
  induction d with
  | nil => simp at h
  | cons q t ih =>
    unfold pset
    by_cases hq : q.name = p.name
    · simp [hq]
    · rw [if_neg hq, names_cons, names_cons, ih ((List.mem_cons.1 h).resolve_left (Ne.symm hq))]

theorem mem_pset_iff {d : List Param} {p q : Param} (hnd : (names d).Nodup) :
    q ∈ pset d p ↔ (q ∈ d ∧ q.name ≠ p.name) ∨ q = p := by
  induction d with
  | nil => simp [pset]
  | cons a t ih =>
    rw [names_cons, List.nodup_cons] at hnd
    unfold pset
    by_cases ha : a.name = p.name
    · have hnt : ∀ r ∈ t, r.name ≠ p.name := fun r hr e => hnd.1 (ha ▸ e ▸ mem_names_of_mem hr)
      rw [if_pos ha, List.mem_cons, List.mem_cons]
      constructor
      · rintro (rfl | hq)
        · exact Or.inr rfl
        · exact Or.inl ⟨Or.inr hq, hnt q hq⟩
      · rintro (⟨rfl | hq, hne⟩ | rfl)
        · exact absurd ha hne
        · exact Or.inr hq
        · exact Or.inl rfl
    · rw [if_neg ha, List.mem_cons, List.mem_cons, ih hnd.2, or_and_right, or_assoc,
        and_iff_left_of_imp (fun e : q = a => e ▸ ha)]

theorem mem_kwNames {s : List Param} {k : Nat} :
    k ∈ kwNames s ↔ ∃ p ∈ s, (p.kind = .pk ∨ p.kind = .ko) ∧ p.name = k := by
  simp [kwNames, kwPassable, and_assoc]

def cn (ps : List Param) (n : Nat) : Nat := (names ps).count n

@[simp] theorem cn_nil (n : Nat) : cn [] n = 0 := rfl

theorem cn_ppop (d : List Param) (k n : Nat) : cn (ppop d k) n ≤ cn d n := by
  unfold cn names ppop
  exact List.Sublist.count_le _ (List.Sublist.map _ List.filter_sublist)

end SV
