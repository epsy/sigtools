/-
  Lemmas/C02Abstract.lean — soundness / exactness of embed at the level of binding views, in terms
  of the stars the outer signature really forwards (asked for and present).
-/
import Sigverif.Lemmas.Core.Accepts
namespace SV

/-- what is left of a view when only `*args` (`a`) / `**kwargs` (`k`) can feed it: the view of the inner signature after
    its merge with the forwarded stars (`mergeStars_sview`) -/
def View.cut (V : View) (a k : Bool) : View :=
  ⟨if a = true then V.P else [], V.va && a, V.vk && k, if k = true then V.kw else [], V.req⟩

/-- What the proofs below use of the concatenation `embedRes`: `Vo`, `Vi`, `VR` are the views of outer, merged inner
    and result; `dobi`: the outer signature has a defaulted positional parameter (in front of positional parameters
    of the inner one its default is cleared: the exception of exactness). -/
structure EmbedFacts (Vo Vi VR : View) (uva uvk : Bool) (dobi : Prop) : Prop where
  hP : VR.P = Vo.P ++ Vi.P
  hva : VR.va = if uva = true then Vi.va else Vo.va
  hvk : VR.vk = if uvk = true then Vi.vk else Vo.vk
  hkw : ∀ x ∈ VR.kw, x ∈ Vo.kw ∨ x ∈ Vi.kw
  hd : ∀ x, x ∈ Vo.P ∨ x ∈ Vo.kw ∨ x ∈ Vo.req → x ∉ Vi.P ∧ x ∉ Vi.kw ∧ x ∉ Vi.req
  hreqo : ∀ x ∈ Vo.req, x ∈ VR.req
  hreqi : ∀ x ∈ Vi.req, x ∈ VR.req
  hreqR : ∀ x ∈ VR.req, x ∈ Vo.req ∨ x ∈ Vi.req ∨ (dobi ∧ Vi.P ≠ [])

theorem EmbedFacts.kw_of_outer {Vo Vi VR : View} {uva uvk : Bool} {dobi : Prop}
    (F : EmbedFacts Vo Vi VR uva uvk dobi) (x : Nat) (hx : x ∈ VR.kw) (ho : x ∈ Vo.P ∨ x ∈ Vo.kw ∨ x ∈ Vo.req) :
    x ∈ Vo.kw :=
  (F.hkw x hx).resolve_right (F.hd x ho).2.1

def compositeV (Vo Vi : View) (uva uvk : Bool) (n : Nat) (K : List Nat) : Prop :=
  Vo.acc n K ∧
  Vi.acc (if uva then n - Vo.P.length else 0)
         (if uvk then K.filter (fun k => !Vo.kw.contains k) else [])

theorem mem_forwarded_kw {Vo : View} {k : Bool} {K : List Nat} {x : Nat} :
    x ∈ (if k = true then K.filter (fun k => !Vo.kw.contains k) else []) ↔ k = true ∧ x ∈ K ∧ x ∉ Vo.kw := by
  simp [List.mem_filter]

/-- Only what the outer signature really forwards matters: without `*args` it accepts no surplus
    positional argument, without `**kwargs` no surplus keyword. -/
theorem compositeV_forwarded {Vo Vi : View} {uva uvk : Bool} {n : Nat} {K : List Nat} :
    compositeV Vo Vi uva uvk n K ↔ compositeV Vo Vi (uva && Vo.va) (uvk && Vo.vk) n K := by
  refine and_congr_right fun ⟨oa, _, oc, _⟩ => ?_
  have e1 : (if (uva && Vo.va) = true then n - Vo.P.length else 0) =
      if uva = true then n - Vo.P.length else 0 := by
    rcases oa with h | h
    · simp [Nat.sub_eq_zero_of_le h]
    · simp [h]
  have e2 : (if (uvk && Vo.vk) = true then K.filter (fun k => !Vo.kw.contains k) else []) =
      if uvk = true then K.filter (fun k => !Vo.kw.contains k) else [] := by
    cases hf : K.filter (fun k => !Vo.kw.contains k) with
    | nil => simp
    | cons x t =>
      have hx := List.mem_filter.1 (hf ▸ List.mem_cons_self : x ∈ K.filter _)
      simp [oc x hx.1 (by simpa using hx.2)]
  rw [e1, e2]

theorem kw_of_nonColl {Vo Vi VR : View} {K : List Nat}
    (hnc : ∀ k ∈ K, k ∈ VR.kw ∨ (k ∉ Vo.kw ∧ k ∉ Vi.kw)) :
    (∀ x ∈ K, x ∈ Vo.kw → x ∈ VR.kw) ∧ (∀ x ∈ K, x ∈ Vi.kw → x ∈ VR.kw) :=
  ⟨fun x hx hkw => (hnc x hx).elim id fun h => absurd hkw h.1,
   fun x hx hkw => (hnc x hx).elim id fun h => absurd hkw h.2⟩

theorem ite_and_cut (u o i : Bool) :
    (if u = true then (i && (u && o)) else o) = if (u && o) = true then i else o := by
  cases u <;> cases o <;> simp

section
variable {Vo Vi VR : View} {uva uvk a k : Bool} {dobi : Prop} (F : EmbedFacts Vo (Vi.cut a k) VR uva uvk dobi)
include F

theorem EmbedFacts.mem_take (n x : Nat) :
    x ∈ VR.P.take n ↔ x ∈ Vo.P.take n ∨ x ∈ Vi.P.take (if a = true then n - Vo.P.length else 0) := by
  rw [F.hP, List.take_append, List.mem_append]
  cases a <;> simp [View.cut]

theorem EmbedFacts.kw_cut (x : Nat) (hx : x ∈ VR.kw) : x ∈ Vo.kw ∨ (k = true ∧ x ∈ Vi.kw) :=
  (F.hkw x hx).imp_right List.mem_ite_nil_right.1

theorem EmbedFacts.notMem_P (x : Nat) (hx : x ∈ Vo.P ∨ x ∈ Vo.kw ∨ x ∈ Vo.req) (ha : a = true) : x ∉ Vi.P := by
  simpa [View.cut, ha] using (F.hd x hx).1

theorem abstract_sound (ea : a = (uva && Vo.va)) (ek : k = (uvk && Vo.vk)) (n : Nat) (K : List Nat)
    (hnc : ∀ k ∈ K, k ∈ VR.kw ∨ (k ∉ Vo.kw ∧ k ∉ Vi.kw))
    (hacc : VR.acc n K) : compositeV Vo Vi a k n K := by
  obtain ⟨ra, rb, rc, rd⟩ := hacc
  obtain ⟨kwo, kwi⟩ := kw_of_nonColl hnc
  rw [F.hP, F.hva.trans (ea ▸ ite_and_cut uva Vo.va Vi.va)] at ra
  rw [F.hvk.trans (ek ▸ ite_and_cut uvk Vo.vk Vi.vk)] at rc
  refine ⟨⟨?_, ?_, ?_, ?_⟩, ?_, ?_, ?_, ?_⟩
  · cases ha : a
    · simpa [ha, View.cut] using ra
    · exact .inr (Bool.and_eq_true_iff.1 (ea ▸ ha)).2
  · exact fun x hx hkw hin => rb x hx (kwo x hx hkw) ((F.mem_take n x).2 (.inl hin))
  · intro x hx hkw
    cases hk : k
    · have hR : x ∉ VR.kw := fun hR => (F.kw_cut x hR).elim hkw (fun h => by simp [hk] at h)
      simpa [hk] using rc x hx hR
    · exact (Bool.and_eq_true_iff.1 (ek ▸ hk)).2
  · intro x hx
    have hxo : x ∈ Vo.P ∨ x ∈ Vo.kw ∨ x ∈ Vo.req := .inr (.inr hx)
    refine (rd x (F.hreqo x hx)).imp (fun h => ?_) (fun h => ⟨h.1, F.kw_of_outer x h.2 hxo⟩)
    refine ((F.mem_take n x).1 h).resolve_right fun h' => ?_
    cases ha : a
    · simp [ha] at h'
    · exact F.notMem_P x hxo ha (List.mem_of_mem_take h')
  · cases ha : a
    · exact .inl (Nat.zero_le _)
    · simp only [ha, View.cut, if_true, List.length_append] at ra ⊢
      exact ra.imp (by omega) id
  · intro x hx hkw hin
    obtain ⟨-, hxK, -⟩ := mem_forwarded_kw.1 hx
    exact rb x hxK (kwi x hxK hkw) ((F.mem_take n x).2 (.inr hin))
  · intro x hx hkw
    obtain ⟨hk, hxK, hxo⟩ := mem_forwarded_kw.1 hx
    have hR : x ∉ VR.kw := fun hR => (F.kw_cut x hR).elim hxo (fun h => hkw h.2)
    simpa [hk] using rc x hxK hR
  · intro x hx
    have hxo : ¬ (x ∈ Vo.P ∨ x ∈ Vo.kw ∨ x ∈ Vo.req) := fun h => (F.hd x h).2.2 hx
    refine (rd x (F.hreqi x hx)).imp (fun h => ?_) (fun h => ?_)
    · exact ((F.mem_take n x).1 h).resolve_left fun h' => hxo (.inl (List.mem_of_mem_take h'))
    · obtain ⟨hk, hi⟩ := (F.kw_cut x h.2).resolve_left fun h' => hxo (.inr (.inl h'))
      exact ⟨mem_forwarded_kw.2 ⟨hk, h.1, fun hc => hxo (.inr (.inl hc))⟩, hi⟩

theorem abstract_complete (ea : a = (uva && Vo.va)) (ek : k = (uvk && Vo.vk)) (hnd : ¬ (dobi ∧ (Vi.cut a k).P ≠ []))
    (n : Nat) (K : List Nat)
    (hnc : ∀ k ∈ K, k ∈ VR.kw ∨ (k ∉ Vo.kw ∧ k ∉ Vi.kw))
    (hacc : compositeV Vo Vi a k n K) : VR.acc n K := by
  obtain ⟨⟨oa, ob, oc, od⟩, ia, ib, ic, iq⟩ := hacc
  obtain ⟨kwo, kwi⟩ := kw_of_nonColl hnc
  refine ⟨?_, ?_, ?_, ?_⟩
  · rw [F.hP, F.hva.trans (ea ▸ ite_and_cut uva Vo.va Vi.va), List.length_append]
    cases ha : a
    · simpa [View.cut] using oa
    · simp only [ha, View.cut, if_true] at ia ⊢
      exact ia.imp (by omega) id
  · intro x hx hR hin
    rcases (F.mem_take n x).1 hin with hin | hin
    · exact ob x hx (F.kw_of_outer x hR (.inl (List.mem_of_mem_take hin))) hin
    · have ha : a = true := by
        cases ha : a
        · simp [ha] at hin
        · rfl
      have hxo : x ∉ Vo.kw := fun h => F.notMem_P x (.inr (.inl h)) ha (List.mem_of_mem_take hin)
      obtain ⟨hk, hi⟩ := (F.kw_cut x hR).resolve_left hxo
      exact ib x (mem_forwarded_kw.2 ⟨hk, hx, hxo⟩) hi hin
  · intro x hx hR
    obtain ⟨hko, hki⟩ := (hnc x hx).resolve_left hR
    rw [F.hvk.trans (ek ▸ ite_and_cut uvk Vo.vk Vi.vk)]
    cases hk : k
    · simpa using oc x hx hko
    · rw [if_pos rfl]
      exact ic x (mem_forwarded_kw.2 ⟨hk, hx, hko⟩) hki
  · intro x hx
    rcases F.hreqR x hx with h | h | h
    · exact (od x h).imp (fun h' => (F.mem_take n x).2 (.inl h')) (fun h' => ⟨h'.1, kwo x h'.1 h'.2⟩)
    · refine (iq x h).imp (fun h' => (F.mem_take n x).2 (.inr h')) (fun h' => ?_)
      obtain ⟨-, hxK, -⟩ := mem_forwarded_kw.1 h'.1
      exact ⟨hxK, kwi x hxK h'.2⟩
    · exact absurd h hnd

end

end SV
