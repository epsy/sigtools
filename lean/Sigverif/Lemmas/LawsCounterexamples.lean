/-
  Lemmas/LawsCounterexamples.lean — concrete inputs on which the ORIGINAL statements of
  merge_idem, merge_neutral_r and merge_neutral_l fail (they justify the added hypotheses).
-/
import Sigverif.Lemmas.Eval
import Sigverif.Props.Defs
namespace SV

/-! ### merge_idem: a parameter with no annotation but a non-empty upgraded annotation
    (not a state sigtools produces: model artefact) -/
def cxIdem : USig := { params := [⟨1, .pk, none, none, .pre 3⟩] }

theorem cxIdem_eval : merge [cxIdem, cxIdem] =
    .ok { params := [⟨1, .pk, none, none, .empty⟩], src := [(1, [])], depths := [] } := by
  simp only [merge, mergeFold, mergeStep_eq]; exact eq_ok_of (by decide +kernel)

example : WF cxIdem.params ∧ ¬ ∃ R, merge [cxIdem, cxIdem] = .ok R ∧ R.params = cxIdem.params ∧
    R.ret = cxIdem.ret ∧ R.uret = cxIdem.uret := by
  refine ⟨by decide +kernel, ?_⟩
  rintro ⟨R, h, hp, _⟩
  rw [cxIdem_eval] at h
  cases h
  revert hp; decide +kernel

def cxBare : USig := { params := [⟨11, .vp, none, none, .empty⟩, ⟨12, .vk, none, none, .empty⟩] }
/-- `*args` without annotation but with a non-empty upgraded annotation (model artefact) -/
def cxNr1 : USig := { params := [⟨5, .vp, none, none, .pre 3⟩] }
/-- `*args` with a default value (inspect.Parameter refuses it: model artefact) -/
def cxNr2 : USig := { params := [⟨5, .vp, some 4, none, .empty⟩] }

theorem cxNr1_eval : merge [cxNr1, cxBare] =
    .ok { params := [⟨5, .vp, none, none, .empty⟩], src := [(5, [])], depths := [] } := by
  simp only [merge, mergeFold, mergeStep_eq]; exact eq_ok_of (by decide +kernel)
theorem cxNr2_eval : merge [cxNr2, cxBare] =
    .ok { params := [⟨5, .vp, none, none, .empty⟩], src := [(5, [])], depths := [] } := by
  simp only [merge, mergeFold, mergeStep_eq]; exact eq_ok_of (by decide +kernel)

example : WF cxNr1.params ∧ ¬ ∃ R, merge [cxNr1, cxBare] = .ok R ∧ R.params = cxNr1.params := by
  refine ⟨by decide +kernel, ?_⟩
  rintro ⟨R, h, hp⟩
  rw [cxNr1_eval] at h
  cases h
  revert hp; decide +kernel
example : WF cxNr2.params ∧ ¬ ∃ R, merge [cxNr2, cxBare] = .ok R ∧ R.params = cxNr2.params := by
  refine ⟨by decide +kernel, ?_⟩
  rintro ⟨R, h, hp⟩
  rw [cxNr2_eval] at h
  cases h
  revert hp; decide +kernel

/-! ### merge_neutral_l: the name of the bare `*args` is the name of an ordinary parameter of
    `sig`: `merge((*a, **k), (a, *args))` builds `(a, *a)` and the final validation raises
    ValueError (duplicate parameter name).  This one is reachable from real code. -/
def cxNl : USig := { params := [⟨11, .pk, none, none, .empty⟩, ⟨5, .vp, none, none, .empty⟩] }

theorem cxNl_eval : merge [cxBare, cxNl] = .error .valueError := by
  simp only [merge, mergeFold, mergeStep_eq]; exact eq_error_of (by decide +kernel)

example : WF cxNl.params ∧ WF cxBare.params ∧ ¬ ∃ R, merge [cxBare, cxNl] = .ok R := by
  refine ⟨by decide +kernel, by decide +kernel, ?_⟩
  rintro ⟨R, h⟩
  rw [cxNl_eval] at h
  cases h

/-- the two star parameters of `bare` carry the same name (then `bare` is not a valid signature) -/
def cxBare2 : USig := { params := [⟨11, .vp, none, none, .empty⟩, ⟨11, .vk, none, none, .empty⟩] }
def cxNl2 : USig := { params := [⟨5, .vp, none, none, .empty⟩, ⟨6, .vk, none, none, .empty⟩] }
theorem cxNl2_eval : merge [cxBare2, cxNl2] = .error .valueError := by
  simp only [merge, mergeFold, mergeStep_eq]; exact eq_error_of (by decide +kernel)

end SV
