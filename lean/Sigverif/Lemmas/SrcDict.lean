/-
  Lemmas/SrcDict.lean — facts about the association-list dictionaries that carry
  provenance (`Srcs`, `Depths`).
-/
import Sigverif.Model.Merge
namespace SV

section
variable {α : Type}

theorem dget_eq_find (d : List (Nat × α)) (k : Nat) : dget d k = (d.find? (fun e => e.1 = k)).map (·.2) := by
  induction d with
  | nil => rfl
  | cons e t ih =>
    rw [dget, List.find?_cons]
    by_cases h : e.1 = k
    · simp [h]
    · simp [h, ih]

theorem dget_dset (d : List (Nat × α)) (k k' : Nat) (v : α) :
    dget (dset d k v) k' = if k' = k then some v else dget d k' := by
  induction d with
  | nil =>
    simp only [dset, dget]
    by_cases h : k = k'
    · subst h; simp
    · have : ¬ k' = k := fun e => h e.symm
      simp [h, this]
  | cons e t ih =>
    obtain ⟨a, b⟩ := e
    simp only [dset]
    by_cases hak : a = k
    · subst hak
      simp only [if_true, dget]
      by_cases h : a = k'
      · subst h; simp
      · have : ¬ k' = a := fun e => h e.symm
        simp [h, this]
    · simp only [hak, if_false, dget]
      by_cases h : a = k'
      · subst h
        have : ¬ a = k := hak
        simp [this]
      · simp only [h, if_false]
        exact ih

theorem dhas_dset (d : List (Nat × α)) (k k' : Nat) (v : α) :
    dhas (dset d k v) k' = (decide (k' = k) || dhas d k') := by
  simp only [dhas, dget_dset]
  by_cases h : k' = k <;> simp [h]

theorem dget_filter_key (d : List (Nat × α)) (c : Nat → Bool) (x : Nat) :
    dget (d.filter (fun kv => c kv.1)) x = if c x then dget d x else none := by
  simp only [dget_eq_find, List.find?_filter]
  by_cases hc : c x = true
  · rw [if_pos hc]
    congr 2
    funext e
    by_cases he : e.1 = x <;> simp [he, hc]
  · rw [if_neg hc, Option.map_eq_none_iff, List.find?_eq_none]
    intro e _
    by_cases he : e.1 = x <;> simp_all

theorem dget_dpop (d : List (Nat × α)) (k k' : Nat) :
    dget (dpop d k) k' = if k' = k then none else dget d k' := by
  have := dget_filter_key d (fun a => decide (a ≠ k)) k'
  by_cases h : k' = k <;> simpa [dpop, h] using this

theorem dhas_dpop (d : List (Nat × α)) (k k' : Nat) :
    dhas (dpop d k) k' = (!decide (k' = k) && dhas d k') := by
  simp only [dhas, dget_dpop]
  by_cases h : k' = k <;> simp [h]

theorem dget_append (a b : List (Nat × α)) (x : Nat) :
    dget (a ++ b) x = (dget a x).or (dget b x) := by
  simp only [dget_eq_find, List.find?_append]
  cases List.find? _ a <;> rfl

theorem dget_snoc (a : List (Nat × α)) (x : Nat × α) (k : Nat) :
    dget (a ++ [x]) k = match dget a k with
                        | some v => some v
                        | none => if x.1 = k then some x.2 else none := by
  rw [dget_append]
  cases dget a k <;> simp [dget]

theorem dhas_cons (n : Nat) (v : α) (t : List (Nat × α)) (k : Nat) :
    dhas ((n, v) :: t) k = (n == k || dhas t k) := by
  unfold dhas
  simp only [dget]
  by_cases h : n = k <;> simp [h]

theorem dhas_append (a b : List (Nat × α)) (k : Nat) :
    dhas (a ++ b) k = (dhas a k || dhas b k) := by
  simp only [dhas, dget_append]
  cases dget a k <;> rfl

theorem dhas_snoc (a : List (Nat × α)) (n : Nat) (v : α) (k : Nat) :
    dhas (a ++ [(n, v)]) k = (dhas a k || n == k) := by
  rw [dhas_append, dhas_cons]
  simp [dhas, dget]

/-- `update` lets the last entry of `e` for a key win, hence the reversal -/
theorem dget_dupdate (d e : List (Nat × α)) (k : Nat) :
    dget (dupdate d e) k = match dget e.reverse k with
                           | some v => some v
                           | none => dget d k := by
  unfold dupdate
  induction e generalizing d with
  | nil => simp [dget]
  | cons x t ih =>
    simp only [List.foldl_cons, List.reverse_cons]
    rw [ih, dget_snoc]
    cases hg : dget t.reverse k with
    | some v => rfl
    | none =>
      simp only [dget_dset]
      by_cases h : x.1 = k
      · simp [h]
      · have : ¬ k = x.1 := fun e => h e.symm
        simp [h, this]

theorem dget_mapVals {β : Type} (g : α → β) (d : List (Nat × α)) (k : Nat) :
    dget (d.map (fun e => (e.1, g e.2))) k = (dget d k).map g := by
  simp only [dget_eq_find, List.find?_map, Option.map_map, Function.comp_def]

end

theorem dget_mem {α : Type} (d : List (Nat × α)) (x : Nat) (v : α) (h : dget d x = some v) :
    (x, v) ∈ d := by
  rw [dget_eq_find, Option.map_eq_some_iff] at h
  obtain ⟨e, he, rfl⟩ := h
  have := List.find?_some he
  simp only [decide_eq_true_eq] at this
  exact this ▸ List.mem_of_find?_eq_some he

theorem sget_dset (d : Srcs) (k k' : Nat) (v : List Nat) :
    sget (dset d k v) k' = if k' = k then v else sget d k' := by
  simp only [sget, dget_dset]
  by_cases h : k' = k <;> simp [h]

theorem sget_of_not_dhas (d : Srcs) (k : Nat) (h : dhas d k = false) : sget d k = [] := by
  simp only [dhas, Option.isSome_eq_false_iff, Option.isNone_iff_eq_none] at h
  simp [sget, h]

theorem dhas_of_mem_sget (d : Srcs) (k f : Nat) (h : f ∈ sget d k) : dhas d k = true := by
  cases hd : dhas d k with
  | true => rfl
  | false => rw [sget_of_not_dhas d k hd] at h; cases h

theorem sget_addSources (ret : Srcs) (n : Nat) (frm : List Srcs) (k : Nat) :
    sget (addSources ret n frm) k =
      if k = n then sget ret n ++ (frm.map (fun s => sget s n)).flatten else sget ret k := by
  simp only [addSources, sget_dset]

theorem dhas_addSources (ret : Srcs) (n : Nat) (frm : List Srcs) (k : Nat) :
    dhas (addSources ret n frm) k = (decide (k = n) || dhas ret k) := by
  simp only [addSources, dhas_dset]

theorem dhas_foldl_dset {α β : Type} (key : β → Nat) (v : List (Nat × α) → β → α) (xs : List β)
    (acc : List (Nat × α)) (k : Nat) :
    dhas (xs.foldl (fun acc x => dset acc (key x) (v acc x)) acc) k =
      (decide (k ∈ xs.map key) || dhas acc k) := by
  induction xs generalizing acc with
  | nil => simp
  | cons x t ih =>
    simp only [List.foldl_cons]
    rw [ih, dhas_dset]
    simp only [List.map_cons, List.mem_cons]
    by_cases h1 : k = key x <;> by_cases h2 : k ∈ t.map key <;> simp [h1, h2]

theorem dhas_addAllSources (ret : Srcs) (ps : List Param) (frm : Srcs) (k : Nat) :
    dhas (addAllSources ret ps frm) k = (decide (k ∈ names ps) || dhas ret k) :=
  dhas_foldl_dset (fun p : Param => p.name) (fun acc p => sget acc p.name ++ sget frm p.name) ps ret k

/-- `_add_all_sources` appends the entry of `frm` once for each listed parameter of that name -/
theorem sget_addAllSources (ret : Srcs) (ps : List Param) (frm : Srcs) (k : Nat) :
    sget (addAllSources ret ps frm) k =
      sget ret k ++ (List.replicate ((names ps).count k) (sget frm k)).flatten := by
  unfold addAllSources
  induction ps generalizing ret with
  | nil => simp [names]
  | cons p t ih =>
    simp only [List.foldl_cons]
    rw [ih, sget_dset]
    show _ = _ ++ (List.replicate ((p.name :: names t).count k) (sget frm k)).flatten
    rw [List.count_cons]
    by_cases hk : k = p.name
    · subst hk
      simp [List.replicate_succ]
    · have : (p.name == k) = false := by simpa using Ne.symm hk
      simp [hk, this]

def KeysND {α : Type} (d : List (Nat × α)) : Prop := (dkeys d).Nodup

theorem dkeys_dset {α : Type} (d : List (Nat × α)) (k : Nat) (v : α) :
    dkeys (dset d k v) = if dhas d k = true then dkeys d else dkeys d ++ [k] := by
  induction d with
  | nil => simp [dset, dkeys, dhas, dget]
  | cons e t ih =>
    obtain ⟨a, b⟩ := e
    simp only [dset]
    by_cases hak : a = k
    · subst hak
      simp [dkeys, dhas, dget]
    · simp only [hak, if_false]
      have : dhas ((a, b) :: t) k = dhas t k := by simp [dhas, dget, hak]
      rw [this]
      simp only [dkeys, List.map_cons] at ih ⊢
      rw [ih]
      split <;> simp

theorem mem_dkeys_iff {α : Type} (d : List (Nat × α)) (k : Nat) : k ∈ dkeys d ↔ dhas d k = true := by
  simp [dhas, dget_eq_find, dkeys]

theorem dhas_dupdate {α : Type} (d e : List (Nat × α)) (k : Nat) :
    dhas (dupdate d e) k = (dhas e k || dhas d k) := by
  have hk : decide (k ∈ dkeys e) = dhas e k :=
    Bool.eq_iff_iff.2 (decide_eq_true_iff.trans (mem_dkeys_iff e k))
  rw [← hk]
  exact dhas_foldl_dset (fun kv : Nat × α => kv.1) (fun _ kv => kv.2) e d k

theorem dget_eq_none_iff {α : Type} (d : List (Nat × α)) (k : Nat) : dget d k = none ↔ k ∉ dkeys d := by
  rw [mem_dkeys_iff, dhas]
  cases dget d k <;> simp

theorem dpop_of_none {α : Type} (d : List (Nat × α)) (k : Nat) (h : dget d k = none) : dpop d k = d := by
  unfold dpop
  rw [List.filter_eq_self]
  intro kv hkv
  have := (dget_eq_none_iff d k).1 h
  simp only [ne_eq, decide_not, Bool.not_eq_true', decide_eq_false_iff_not]
  exact fun e => this (List.mem_map.2 ⟨kv, hkv, e⟩)

theorem dpop_filter {α : Type} (l : List (Nat × α)) (f : Nat × α → Bool) (x : Nat) :
    dpop (l.filter f) x = l.filter (fun e => f e && decide (e.1 ≠ x)) := by
  unfold dpop
  rw [List.filter_filter]
  congr 1
  funext e
  rw [Bool.and_comm]

theorem dget_map_of_mem {α β : Type} (key : β → Nat) (val : β → α) {l : List β}
    (hn : l.Pairwise (fun a b => key a ≠ key b)) {x : β} (hx : x ∈ l) :
    dget (l.map (fun a => (key a, val a))) (key x) = some (val x) := by
  induction l with
  | nil => cases hx
  | cons a l ih =>
    rw [List.pairwise_cons] at hn
    simp only [List.map_cons, dget]
    rcases List.mem_cons.1 hx with rfl | hx'
    · rw [if_pos rfl]
    · rw [if_neg (hn.1 x hx'), ih hn.2 hx']

theorem KeysND.cons {α : Type} {x : Nat × α} {t : List (Nat × α)} (h : KeysND (x :: t)) :
    x.1 ∉ dkeys t ∧ KeysND t :=
  List.nodup_cons.1 h

theorem KeysND.dset {α : Type} {d : List (Nat × α)} (h : KeysND d) (k : Nat) (v : α) : KeysND (dset d k v) := by
  unfold KeysND at *
  rw [dkeys_dset]
  split
  · exact h
  · rename_i hk
    rw [List.nodup_append]
    refine ⟨h, by simp, ?_⟩
    intro a ha b hb
    simp only [List.mem_singleton] at hb
    subst hb
    intro e
    subst e
    exact hk ((mem_dkeys_iff d a).1 ha)

theorem KeysND.nil {α : Type} : KeysND ([] : List (Nat × α)) := by simp [KeysND, dkeys]

theorem KeysND.addSources {d : Srcs} (h : KeysND d) (n : Nat) (frm : List Srcs) : KeysND (addSources d n frm) :=
  h.dset _ _

theorem KeysND.foldl_dset {α β : Type} (key : β → Nat) (v : List (Nat × α) → β → α) (xs : List β)
    {d : List (Nat × α)} (h : KeysND d) : KeysND (xs.foldl (fun acc x => SV.dset acc (key x) (v acc x)) d) := by
  induction xs generalizing d with
  | nil => exact h
  | cons x t ih => exact ih (h.dset _ _)

theorem KeysND.addAllSources {d : Srcs} (h : KeysND d) (ps : List Param) (frm : Srcs) :
    KeysND (addAllSources d ps frm) :=
  h.foldl_dset (fun p : Param => p.name) (fun acc p => sget acc p.name ++ sget frm p.name) ps

theorem KeysND.dpop {α : Type} {d : List (Nat × α)} (h : KeysND d) (k : Nat) : KeysND (dpop d k) := by
  unfold KeysND dkeys SV.dpop at *
  exact (List.Sublist.map _ List.filter_sublist).nodup h

theorem KeysND.dupdate {α : Type} {d : List (Nat × α)} (h : KeysND d) (e : List (Nat × α)) : KeysND (dupdate d e) :=
  h.foldl_dset (fun kv : Nat × α => kv.1) (fun _ kv => kv.2) e

theorem dget_reverse_of_nd {α : Type} (e : List (Nat × α)) (h : KeysND e) (k : Nat) :
    dget e.reverse k = dget e k := by
  induction e with
  | nil => rfl
  | cons x t ih =>
    obtain ⟨hx, hnd⟩ := h.cons
    simp only [List.reverse_cons]
    rw [dget_snoc, ih hnd]
    simp only [dget]
    by_cases hk : x.1 = k
    · subst hk
      simp [(dget_eq_none_iff _ _).2 hx]
    · simp only [hk, if_false]
      cases dget t k <;> rfl

theorem sget_dupdate (d e : Srcs) (he : KeysND e) (k : Nat) :
    sget (dupdate d e) k = if dhas e k = true then sget e k else sget d k := by
  unfold sget dhas
  rw [dget_dupdate, dget_reverse_of_nd e he]
  cases h : dget e k <;> simp

theorem dget_dupdate_nil {α : Type} (e : List (Nat × α)) (h : KeysND e) (k : Nat) :
    dget (dupdate [] e) k = dget e k := by
  rw [dget_dupdate, dget_reverse_of_nd e h]
  cases dget e k <;> rfl

theorem dkeys_mapKeys {α : Type} (g : Nat → Nat) (d : List (Nat × α)) :
    dkeys (d.map (fun e => (g e.1, e.2))) = (dkeys d).map g := by
  simp only [dkeys, List.map_map, Function.comp_def]

theorem dget_mapKeys {α : Type} (g : Nat → Nat) (d : List (Nat × α)) (c : Nat)
    (hinj : ∀ x ∈ dkeys d, g x = g c → x = c) :
    dget (d.map (fun e => (g e.1, e.2))) (g c) = dget d c := by
  induction d with
  | nil => rfl
  | cons e t ih =>
    have ht : ∀ x ∈ dkeys t, g x = g c → x = c := fun x hx => hinj x (List.mem_cons_of_mem _ hx)
    simp only [List.map_cons, dget]
    by_cases h : e.1 = c
    · simp [h]
    · have : g e.1 ≠ g c := fun e' => h (hinj e.1 List.mem_cons_self e')
      simp only [this, h, if_false]
      exact ih ht

theorem KeysND.mapKeys {α : Type} (g : Nat → Nat) {d : List (Nat × α)} (h : KeysND d)
    (hinj : ∀ x ∈ dkeys d, ∀ y ∈ dkeys d, g x = g y → x = y) :
    KeysND (d.map (fun e => (g e.1, e.2))) := by
  unfold KeysND at *
  rw [dkeys_mapKeys]
  exact List.pairwise_map.2 (h.imp_of_mem fun hx hy hne e => hne (hinj _ hx _ hy e))

/-- one iteration of the loop of `merge_depths` -/
def mdStep (acc : Depths) (e : Nat × Nat) : Depths :=
  match dget acc e.1 with
  | some d => if e.2 > d then acc else dset acc e.1 e.2
  | none => dset acc e.1 e.2

theorem mergeDepths_eq (l r : Depths) : mergeDepths l r = r.foldl mdStep l := rfl

theorem dget_copyDepths (d : Depths) (n f : Nat) :
    dget (copyDepths d n) f = (dget d f).map (· + n) :=
  dget_mapVals (· + n) d f

theorem dhas_copyDepths (d : Depths) (n f : Nat) : dhas (copyDepths d n) f = dhas d f := by
  simp only [dhas, dget_copyDepths, Option.isSome_map]

/-- `merge_depths` keeps the smaller depth of a callable reached twice -/
def minDepth : Option Nat → Option Nat → Option Nat
  | some a, some b => some (min a b)
  | some a, none => some a
  | none, some b => some b
  | none, none => none

theorem minDepth_none_left (a : Option Nat) : minDepth none a = a := by
  cases a <;> rfl

theorem dget_mdStep (l : Depths) (e : Nat × Nat) (f : Nat) :
    dget (mdStep l e) f = if e.1 = f then minDepth (dget l f) (some e.2) else dget l f := by
  unfold mdStep
  by_cases h : e.1 = f
  · subst h
    rw [if_pos rfl]
    cases hd : dget l e.1 with
    | none => rw [dget_dset, if_pos rfl]; rfl
    | some d =>
      simp only
      by_cases hgt : e.2 > d
      · rw [if_pos hgt, hd]; exact congrArg some (by omega)
      · rw [if_neg hgt, dget_dset, if_pos rfl]; exact congrArg some (by omega)
  · have hs : dget (dset l e.1 e.2) f = dget l f := by rw [dget_dset, if_neg (Ne.symm h)]
    rw [if_neg h]
    split
    · split
      · rfl
      · exact hs
    · exact hs

theorem dhas_mdStep (l : Depths) (e : Nat × Nat) (g : Nat) :
    dhas (mdStep l e) g = (e.1 == g || dhas l g) := by
  simp only [dhas, dget_mdStep]
  by_cases hg : e.1 = g
  · cases dget l g <;> simp [hg, minDepth]
  · simp [hg]

theorem dhas_mergeDepths (l r : Depths) (f : Nat) :
    dhas (mergeDepths l r) f = (dhas l f || dhas r f) := by
  rw [mergeDepths_eq]
  induction r generalizing l with
  | nil => simp [dhas, dget]
  | cons e t ih =>
    obtain ⟨k, v⟩ := e
    rw [List.foldl_cons, ih, dhas_mdStep, dhas_cons, Bool.or_comm (k == f), Bool.or_assoc]

theorem minDepth_assoc (a b c : Option Nat) : minDepth (minDepth a b) c = minDepth a (minDepth b c) := by
  cases a <;> cases b <;> cases c <;> simp [minDepth, Nat.min_assoc]

theorem minDepth_le_left {a b : Option Nat} {x : Nat} (h : a = some x) :
    ∃ m, minDepth a b = some m ∧ m ≤ x := by
  subst h
  cases b with
  | none => exact ⟨x, rfl, Nat.le_refl _⟩
  | some y => exact ⟨min x y, rfl, Nat.min_le_left _ _⟩

theorem minDepth_le_right {a b : Option Nat} {y : Nat} (h : b = some y) :
    ∃ m, minDepth a b = some m ∧ m ≤ y := by
  subst h
  cases a with
  | none => exact ⟨y, rfl, Nat.le_refl _⟩
  | some x => exact ⟨min x y, rfl, Nat.min_le_right _ _⟩

theorem minDepth_eq_some {a b : Option Nat} {m : Nat} (h : minDepth a b = some m) :
    a = some m ∨ b = some m := by
  cases a with
  | none => exact .inr (minDepth_none_left b ▸ h)
  | some x =>
    cases b with
    | none => exact .inl h
    | some y =>
      obtain rfl := Option.some.inj h
      rcases Nat.le_total x y with hxy | hxy
      · exact .inl (by rw [Nat.min_eq_left hxy])
      · exact .inr (by rw [Nat.min_eq_right hxy])

/-- fold of `minDepth` over the depths recorded for `f` in an association list that may
    list `f` several times (the Python dict on the right never does) -/
def depthOf (r : Depths) (f : Nat) : Option Nat :=
  r.foldl (fun acc e => if e.1 = f then minDepth acc (some e.2) else acc) none

theorem dget_mergeDepths (l r : Depths) (f : Nat) :
    dget (mergeDepths l r) f =
      r.foldl (fun acc e => if e.1 = f then minDepth acc (some e.2) else acc) (dget l f) := by
  rw [mergeDepths_eq]
  induction r generalizing l with
  | nil => rfl
  | cons e t ih => rw [List.foldl_cons, ih, dget_mdStep, List.foldl_cons]

theorem foldl_minDepth (f : Nat) (r : Depths) (acc0 : Option Nat) (hnd : KeysND r) :
    r.foldl (fun acc e => if e.1 = f then minDepth acc (some e.2) else acc) acc0 =
      minDepth acc0 (dget r f) := by
  induction r generalizing acc0 with
  | nil => cases acc0 <;> rfl
  | cons e t ih =>
    obtain ⟨hx, hndt⟩ := hnd.cons
    simp only [List.foldl_cons, dget]
    by_cases he : e.1 = f
    · subst he
      simp only [if_true]
      rw [ih _ hndt, (dget_eq_none_iff _ _).2 hx]
      cases acc0 <;> simp [minDepth]
    · simp only [he, if_false]
      exact ih _ hndt

theorem KeysND.copyDepths (d : Depths) (n : Nat) (h : KeysND d) : KeysND (copyDepths d n) := by
  unfold KeysND dkeys SV.copyDepths at *
  simpa [List.map_map, Function.comp_def] using h

theorem dget_mergeDepths_copy (l r : Depths) (n f : Nat) (hr : KeysND r) :
    dget (mergeDepths l (copyDepths r n)) f = minDepth (dget l f) ((dget r f).map (· + n)) := by
  rw [dget_mergeDepths, foldl_minDepth f _ _ (KeysND.copyDepths r n hr), dget_copyDepths]

theorem KeysND.mergeDepths (l r : Depths) (h : KeysND l) : KeysND (mergeDepths l r) := by
  rw [mergeDepths_eq]
  induction r generalizing l with
  | nil => exact h
  | cons e t ih =>
    simp only [List.foldl_cons]
    apply ih
    unfold mdStep
    split
    · split
      · exact h
      · exact h.dset _ _
    · exact h.dset _ _

end SV
