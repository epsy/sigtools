/-
  Lemmas/C01QStep.lean — single steps of the two `zip_longest` loops: how each way of changing
  the state acts on `NInv` and `QMono`, and with that each of them (and `PosReq`) along a
  step of `ZOne` and of `ZStep`.
-/
import Sigverif.Lemmas.C01Mono
namespace SV
variable {l r : Sorted} {lp rp x e : Param} {ls rs A B un : List Param} {st st' : MState}

section
variable {x : Nat} {a b c d : List Nat}

theorem nodup_to_second (h : (x :: (a ++ b ++ c ++ d)).Nodup) : (a ++ (b ++ [x]) ++ c ++ d).Nodup := by
  have : (a ++ b ++ x :: (c ++ d)).Nodup :=
    List.perm_middle.nodup_iff.2 (by simpa only [List.append_assoc] using h)
  simpa only [List.append_assoc, List.singleton_append, List.cons_append, List.nil_append] using this

theorem nodup_to_third (h : (x :: (a ++ b ++ c ++ d)).Nodup) : (a ++ b ++ (c ++ [x]) ++ d).Nodup := by
  have : (a ++ b ++ c ++ x :: d).Nodup := List.perm_middle.nodup_iff.2 h
  simpa only [List.append_assoc, List.singleton_append] using this

theorem nodup_drop_second (h : (a ++ b ++ c ++ d).Nodup) : (a ++ [] ++ c ++ d).Nodup := by
  rw [List.append_nil]
  exact h.sublist (((List.sublist_append_left a b).append_right c).append_right d)

end

section
variable {a d : List Nat} {pk kw : List Param}

theorem nodup_to_pok (h : (e.name :: (a ++ names pk ++ names kw ++ d)).Nodup) :
    (a ++ names (pk ++ [e]) ++ names kw ++ d).Nodup := by
  rw [names_append]; exact nodup_to_second h

theorem nodup_to_kwo (h : (e.name :: (a ++ names pk ++ names kw ++ d)).Nodup) :
    (a ++ names pk ++ names (pset kw e) ++ d).Nodup := by
  have hk : e.name ∉ names kw := fun hk => (List.nodup_cons.1 h).1 (by simp [hk])
  rw [pset_of_not_mem hk, names_append]; exact nodup_to_third h

end

theorem q_match_N (hn : lp.name = rp.name)
    (hu : Upd st' st.pos (st.pok ++ [concile lp rp]) st.kwo st.lUn st.rUn)
    (h : NInv (lp :: ls) (rp :: rs) st) : NInv ls rs st' := by
  obtain ⟨-, h2, h3, h4, h5⟩ := hu
  obtain ⟨nl, nr, nu⟩ := h
  simp only [names_cons, List.cons_append] at nl nr
  refine ⟨?_, ?_, h4 ▸ h5 ▸ nu⟩
  · rw [h2, h3, h4]; exact nodup_to_pok (e := concile lp rp) nl
  · rw [← hn] at nr
    rw [h2, h3, h5]; exact nodup_to_pok (e := concile lp rp) nr

theorem q_mis_N
    (hu : Upd st' (st.pos ++ st.pok.map (·.withKind .po) ++ [(concile lp rp).withKind .po]) []
      st.kwo st.lUn st.rUn)
    (h : NInv (lp :: ls) (rp :: rs) st) : NInv ls rs st' := by
  obtain ⟨-, h2, h3, h4, h5⟩ := hu
  obtain ⟨nl, nr, nu⟩ := h
  simp only [names_cons, List.cons_append] at nl nr
  refine ⟨?_, ?_, h4 ▸ h5 ▸ nu⟩
  · rw [h2, h3, h4]; exact nodup_drop_second (List.nodup_cons.1 nl).2
  · rw [h2, h3, h5]; exact nodup_drop_second (List.nodup_cons.1 nr).2

/-! A step takes `dl` and `dr` (one parameter or none each) off the two lists and appends what it
makes of them to the buckets of the state; what has to be said each time is where a required
parameter that was taken has gone (`hwit`). -/

theorem reqCount_le_of_wit {d cs ck ek : List Param} (hd : d.length ≤ 1)
    (hwit : ∀ y, hasReq d y → anyReq cs ∨ hasReq ck y ∨ hasReq ek y) :
    reqCount d ≤ reqCount cs + reqCount ck + reqCount ek := by
  rcases Nat.eq_zero_or_pos (reqCount d) with h0 | h0
  · rw [h0]; exact Nat.zero_le _
  · obtain ⟨p, hp, hr⟩ := anyReq_iff_reqCount.2 h0
    -- at most one is taken, and it has a required successor in one of the three lists
    refine Nat.le_trans (Nat.le_trans List.countP_le_length hd) ?_
    rcases hwit p.name ⟨p, hp, rfl, hr⟩ with h | h | h
    · exact Nat.le_trans (anyReq_iff_reqCount.1 h)
        (Nat.le_trans (Nat.le_add_right _ _) (Nat.le_add_right _ _))
    · exact Nat.le_trans (anyReq_iff_reqCount.1 (hasReq_anyReq h))
        (Nat.le_trans (Nat.le_add_left _ _) (Nat.le_add_right _ _))
    · exact Nat.le_trans (anyReq_iff_reqCount.1 (hasReq_anyReq h)) (Nat.le_add_left _ _)

theorem wgt_step {a b c a' b' c' d n : Nat} (h : d ≤ a' + b' + c') :
    a + b + c + (d + n) ≤ a + a' + (b + b') + (c + c') + n := by omega

theorem len_step {p q c k d n : Nat} (h : c + k ≤ d) : p + c + (q + k) + n ≤ p + q + (d + n) := by
  omega

theorem QMono.append {dl dr cs ck ek : List Param}
    (hpos : st'.pos = st.pos ++ cs) (hpok : st'.pok = st.pok ++ ck) (hkwo : st'.kwo = st.kwo ++ ek)
    (hlun : st'.lUn = st.lUn) (hrun : st'.rUn = un)
    (hdl : dl.length ≤ 1) (hdr : dr.length ≤ 1)
    (hll : cs.length + ck.length ≤ dl.length ∨ l.va.isSome = true)
    (hlr : cs.length + ck.length ≤ dr.length ∨ r.va.isSome = true)
    (hwit : ∀ y, hasReq dl y ∨ hasReq dr y → anyReq cs ∨ hasReq ck y ∨ hasReq ek y)
    (hK : ∀ y, hasReq st.rUn y → hasReq un y ∨ hasReq ek y) :
    QMono l r (dl ++ A) (dr ++ B) st A B st' := by
  have wl := reqCount_le_of_wit hdl fun y h => hwit y (Or.inl h)
  have wr := reqCount_le_of_wit hdr fun y h => hwit y (Or.inr h)
  refine ⟨?_, ?_, ?_, ?_, fun h => hpos ▸ (anyReq_append _ _).2 (Or.inl h), fun y => ?_,
    fun y => ?_⟩
  · simp only [wgt, hpos, hpok, hkwo, reqCount_append]; exact wgt_step wl
  · simp only [wgt, hpos, hpok, hkwo, reqCount_append]; exact wgt_step wr
  · simp only [mlen, hpos, hpok, List.length_append]; exact hll.imp_left len_step
  · simp only [mlen, hpos, hpok, List.length_append]; exact hlr.imp_left len_step
  · simp only [Wit, hpos, hpok, hkwo, hasReq_append, anyReq_append]
    have := hwit y
    grind
  · simp only [WitK, hkwo, hlun, hrun, hasReq_append]
    rintro (h | h | h)
    · exact Or.inl (Or.inl h)
    · exact Or.inr (Or.inl h)
    · exact (hK y h).elim (fun h => Or.inr (Or.inr h)) (fun h => Or.inl (Or.inr h))

theorem QMono.flush
    (hu : Upd st' (st.pos ++ st.pok.map (·.withKind .po)) [] st.kwo st.lUn st.rUn) :
    QMono l r A B st A B st' := by
  obtain ⟨h1, h2, h3, h4, h5⟩ := hu
  refine ⟨?_, ?_, ?_, ?_, fun h => h1 ▸ (anyReq_append _ _).2 (Or.inl h), fun y => ?_,
    fun y => ?_⟩
  · simp [wgt, h1, h2, h3]
  · simp [wgt, h1, h2, h3]
  · simp [mlen, h1, h2]
  · simp [mlen, h1, h2]
  · simp only [Wit, h1, h2, h3, anyReq_append, anyReq_map_withKind, hasReq_nil, false_or]
    rintro (h | h | h)
    · exact Or.inl (Or.inl h)
    · exact Or.inl (Or.inr (hasReq_anyReq h))
    · exact Or.inr h
  · simp only [WitK, h3, h4, h5]
    exact id

theorem QMono.pair_pos (he : e.required = (lp.required || rp.required))
    (hu : Upd st' (st.pos ++ [e]) st.pok st.kwo st.lUn st.rUn) :
    QMono l r (lp :: A) (rp :: B) st A B st' := by
  obtain ⟨h1, h2, h3, h4, h5⟩ := hu
  refine QMono.append (dl := [lp]) (dr := [rp]) (cs := [e]) (ck := []) (ek := []) h1
    (by rw [h2, List.append_nil]) (by rw [h3, List.append_nil]) h4 h5 (Nat.le_refl _)
    (Nat.le_refl _) (Or.inl (Nat.le_refl _)) (Or.inl (Nat.le_refl _)) ?_ (fun _ h => Or.inl h)
  simp only [hasReq_cons, hasReq_nil, or_false, anyReq_cons, anyReq_nil, he, Bool.or_eq_true]
  rintro y (⟨-, h⟩ | ⟨-, h⟩)
  · exact Or.inl h
  · exact Or.inr h

theorem q_match_M (hn : lp.name = rp.name)
    (hu : Upd st' st.pos (st.pok ++ [concile lp rp]) st.kwo st.lUn st.rUn) :
    QMono l r (lp :: A) (rp :: B) st A B st' := by
  obtain ⟨h1, h2, h3, h4, h5⟩ := hu
  refine QMono.append (dl := [lp]) (dr := [rp]) (cs := []) (ck := [concile lp rp]) (ek := [])
    (by rw [h1, List.append_nil]) h2 (by rw [h3, List.append_nil]) h4 h5 (Nat.le_refl _)
    (Nat.le_refl _) (Or.inl (Nat.le_refl _)) (Or.inl (Nat.le_refl _)) ?_ (fun _ h => Or.inl h)
  simp only [hasReq_cons, hasReq_nil, or_false, anyReq_nil, false_or, concile_name,
    concile_required, Bool.or_eq_true]
  rintro y (⟨e, h⟩ | ⟨e, h⟩)
  · exact ⟨e, Or.inl h⟩
  · exact ⟨hn.trans e, Or.inr h⟩

theorem QMono.left_pos (hva : r.va.isSome = true) (he : x.required = true → e.required = true)
    (hu : Upd st' (st.pos ++ [e]) st.pok st.kwo st.lUn st.rUn) :
    QMono l r (x :: A) B st A B st' := by
  obtain ⟨h1, h2, h3, h4, h5⟩ := hu
  refine QMono.append (dl := [x]) (dr := []) (cs := [e]) (ck := []) (ek := []) h1
    (by rw [h2, List.append_nil]) (by rw [h3, List.append_nil]) h4 h5 (Nat.le_refl _)
    (Nat.zero_le _) (Or.inl (Nat.le_refl _)) (Or.inr hva) ?_ (fun _ h => Or.inl h)
  simp only [hasReq_cons, hasReq_nil, or_false, anyReq_cons, anyReq_nil]
  exact fun y h => he h.2

theorem QMono.left_pok (hva : r.va.isSome = true)
    (hu : Upd st' st.pos (st.pok ++ [x]) st.kwo st.lUn st.rUn) :
    QMono l r (x :: A) B st A B st' := by
  obtain ⟨h1, h2, h3, h4, h5⟩ := hu
  exact QMono.append (dl := [x]) (dr := []) (cs := []) (ck := [x]) (ek := [])
    (by rw [h1, List.append_nil]) h2 (by rw [h3, List.append_nil]) h4 h5 (Nat.le_refl _)
    (Nat.zero_le _) (Or.inl (Nat.le_refl _)) (Or.inr hva)
    (fun y h => Or.inr (Or.inl (h.resolve_right (hasReq_nil y).1))) (fun _ h => Or.inl h)

/-- `e` stands for `x` among the keyword-only parameters; it may also take over the role of a
    parameter of the same name that leaves the right unmatched ones -/
theorem QMono.left_kwo (hu : Upd st' st.pos st.pok (st.kwo ++ [e]) st.lUn un)
    (hn : e.name = x.name) (hr : x.required = true → e.required = true)
    (hK : ∀ y, hasReq st.rUn y → hasReq un y ∨ hasReq [e] y) :
    QMono l r (x :: A) B st A B st' := by
  obtain ⟨h1, h2, h3, h4, h5⟩ := hu
  refine QMono.append (dl := [x]) (dr := []) (cs := []) (ck := []) (ek := [e])
    (by rw [h1, List.append_nil]) (by rw [h2, List.append_nil]) h3 h4 h5 (Nat.le_refl _)
    (Nat.zero_le _) (Or.inl (Nat.zero_le _)) (Or.inl (Nat.zero_le _)) ?_ hK
  simp only [hasReq_cons, hasReq_nil, or_false, anyReq_nil, false_or]
  exact fun y h => ⟨hn.trans h.1, hr h.2⟩

theorem QMono.left_drop (hd : x.dflt.isSome = true)
    (hu : Upd st' st.pos st.pok st.kwo st.lUn st.rUn) :
    QMono l r (x :: A) B st A B st' := by
  obtain ⟨h1, h2, h3, h4, h5⟩ := hu
  refine QMono.append (dl := [x]) (dr := []) (cs := []) (ck := []) (ek := [])
    (by rw [h1, List.append_nil]) (by rw [h2, List.append_nil]) (by rw [h3, List.append_nil])
    h4 h5 (Nat.le_refl _) (Nat.zero_le _) (Or.inl (Nat.zero_le _)) (Or.inl (Nat.zero_le _)) ?_
    (fun _ h => Or.inl h)
  simp only [hasReq_cons, hasReq_nil, or_false]
  intro y h
  rw [(required_iff x).1 h.2] at hd
  cases hd

theorem QMono.flush_then {ls' rs' : List Param} {c : Param}
    (hu : Upd st' (st.pos ++ st.pok.map (·.withKind .po) ++ [c]) [] st.kwo st.lUn st.rUn)
    (hstep : ∀ stm : MState, Upd stm (st.pos ++ st.pok.map (·.withKind .po)) [] st.kwo st.lUn st.rUn →
      Upd st' (stm.pos ++ [c]) stm.pok stm.kwo stm.lUn stm.rUn → QMono l r ls rs stm ls' rs' st') :
    QMono l r ls rs st ls' rs' st' := by
  obtain ⟨h1, h2, h3, h4, h5⟩ := hu
  let stm : MState := { st with pos := st.pos ++ st.pok.map (·.withKind .po), pok := [] }
  have hm : Upd stm (st.pos ++ st.pok.map (·.withKind .po)) [] st.kwo st.lUn st.rUn :=
    ⟨rfl, rfl, rfl, rfl, rfl⟩
  exact (QMono.flush hm).trans (hstep stm hm ⟨h1, h2, h3, h4, h5⟩)

theorem q_mis_M
    (hu : Upd st' (st.pos ++ st.pok.map (·.withKind .po) ++ [(concile lp rp).withKind .po]) []
      st.kwo st.lUn st.rUn) :
    QMono l r (lp :: A) (rp :: B) st A B st' :=
  QMono.flush_then hu fun _ _ h => QMono.pair_pos (by simp) h

theorem QMono.left_flush (hva : r.va.isSome = true)
    (hu : Upd st' (st.pos ++ st.pok.map (·.withKind .po) ++ [x.withKind .po]) [] st.kwo
      st.lUn st.rUn) :
    QMono l r (x :: A) B st A B st' :=
  QMono.flush_then hu fun _ _ h => QMono.left_pos (e := x.withKind .po) hva id h

/-! The chains of the run hold the positional-only parameters too; the names that `NInv` speaks of are
those of the positional-or-keyword part `pkOf`.  The right-hand step is the left-hand one at the flipped state. -/

def pkOf (xs : List Param) : List Param := xs.filter (fun p => p.kind = .pk)

theorem pkOf_po {xs : List Param} (h : x.kind = .po) : pkOf (x :: xs) = pkOf xs := by
  simp [pkOf, h]
theorem pkOf_pk {xs : List Param} (h : x.kind = .pk) : pkOf (x :: xs) = x :: pkOf xs := by
  simp [pkOf, h]

theorem pkOf_buckets {s : Sorted} (bs : BucketKinds s) : pkOf (s.pos ++ s.pok) = s.pok := by
  rw [pkOf, List.filter_append, List.filter_eq_nil_iff.2 (fun p hp => by simp [bs.pos p hp]),
    List.filter_eq_self.2 (fun p hp => by simp [bs.pok p hp]), List.nil_append]

theorem BucketKinds.mem_pok {s : Sorted} {p : Param} (bs : BucketKinds s)
    (hm : p ∈ s.pos ++ s.pok) (hk : p.kind = .pk) : p ∈ s.pok := by
  rcases List.mem_append.1 hm with hm | hm
  · rw [bs.pos p hm] at hk; cases hk
  · exact hm

theorem NInv.fresh_pk {xs : List Param} (h : NInv (pkOf (x :: xs)) rs st) (hx : x.kind = .pk) :
    x.name ∉ names st.kwo := by
  rw [pkOf_pk hx] at h; exact h.fresh

theorem NInv.tail_right (h : NInv ls (e :: rs) st) : NInv ls rs st := by
  refine ⟨h.nl, ?_, h.nu⟩
  have := h.nr
  rw [names_cons, List.cons_append, List.cons_append, List.cons_append] at this
  exact (List.nodup_cons.1 this).2

variable {K : Prop} {xs ys xs' ys' : List Param}

theorem NInv.zone {own other : Sorted} (k : K) (h : ZOne K own other x st ys ys' st')
    (hN : NInv (pkOf (x :: xs)) (pkOf ys) st) : NInv (pkOf xs) (pkOf ys') st' := by
  have nu := hN.nu
  -- a positional-or-keyword `x` against the exhausted right chain: on the right its name may be
  -- put in front, once `x` is taken out of the unmatched ones
  have pre : x.kind = .pk → ys = [] →
      (x.name :: (names (pkOf xs) ++ names st.pok ++ names st.kwo ++ names st.lUn)).Nodup ∧
      (x.name :: (names [] ++ names st.pok ++ names st.kwo ++
        names (ppop st.rUn x.name))).Nodup := by
    rintro hx rfl
    rw [pkOf_pk hx] at hN
    obtain ⟨nl, nr, -⟩ := hN
    simp only [names_cons, List.cons_append] at nl
    refine ⟨nl, ?_⟩
    have := not_mem_names_ppop st.rUn x.name
    have := nr.sublist ((List.Sublist.refl _).append (names_ppop_sublist st.rUn x.name))
    simp only [List.nodup_cons, List.mem_append, not_or] at nl ⊢
    exact ⟨⟨⟨⟨by simp, nl.1.1.1.2⟩, nl.1.1.2⟩, ‹_›⟩, this⟩
  have pre' : x.kind = .pk → ys = [] → pget st.rUn x.name = none →
      (x.name :: (names (pkOf xs) ++ names st.pok ++ names st.kwo ++ names st.lUn)).Nodup ∧
      (x.name :: (names [] ++ names st.pok ++ names st.kwo ++ names st.rUn)).Nodup :=
    fun hx hy hq => ppop_of_not_mem (pget_eq_none.1 hq) ▸ pre hx hy
  cases h with
  | pull y cf hx hy _ =>
    rw [pkOf_po (hx k), pkOf_pk (hy k)] at hN
    have a := hN.tail_right
    exact ⟨a.nl, a.nr, a.nu⟩
  | keepP hx => rw [pkOf_po (hx k)] at hN; exact ⟨hN.nl, hN.nr, hN.nu⟩
  | goneP hx => rw [pkOf_po (hx k)] at hN; exact hN
  | limbo q hx hq =>
    obtain ⟨nl, nr⟩ := pre (hx k) rfl
    exact ⟨nodup_to_kwo (e := (concile x q).withKind .ko) nl,
      nodup_to_kwo (e := (concile x q).withKind .ko) nr,
      fun y hy hy' => nu y hy ((names_ppop_sublist _ _).subset hy')⟩
  | keepQ hx hq =>
    obtain ⟨nl, nr⟩ := pre' (hx k) rfl hq
    exact ⟨nodup_to_pok nl, nodup_to_pok nr, nu⟩
  | own hx hq =>
    obtain ⟨nl, nr⟩ := pre' (hx k) rfl hq
    exact ⟨nodup_to_kwo (e := x.withKind .ko) nl, nodup_to_kwo (e := x.withKind .ko) nr, nu⟩
  | flushQ hx hq =>
    obtain ⟨nl, nr⟩ := pre' (hx k) rfl hq
    exact ⟨nodup_drop_second (List.nodup_cons.1 nl).2, nodup_drop_second (List.nodup_cons.1 nr).2, nu⟩
  | goneQ hx hq =>
    obtain ⟨nl, nr⟩ := pre' (hx k) rfl hq
    exact ⟨(List.nodup_cons.1 nl).2, (List.nodup_cons.1 nr).2, nu⟩

theorem NInv.zstep (k : K) (h : ZStep K l r xs ys st xs' ys' st')
    (hN : NInv (pkOf xs) (pkOf ys) st) : NInv (pkOf xs') (pkOf ys') st' := by
  cases h with
  | pair a c xs ys st ha hc =>
    rw [pkOf_po (ha k), pkOf_po (hc k)] at hN; exact ⟨hN.nl, hN.nr, hN.nu⟩
  | same a c xs ys st ha hc hn =>
    rw [pkOf_pk (ha k), pkOf_pk (hc k)] at hN; exact q_match_N (st := st) hn ⟨rfl, rfl, rfl, rfl, rfl⟩ hN
  | diff a c xs ys st ha hc hn =>
    rw [pkOf_pk (ha k), pkOf_pk (hc k)] at hN
    exact q_mis_N (lp := a) (rp := c) ⟨rfl, rfl, rfl, rfl, rfl⟩ hN
  | left x xs ys ys' st st' h => exact hN.zone k h
  | right x xs xs' ys st st' h => exact (NInv.zone k h hN.flip).flip

theorem QMono.zone (k : K) (h : ZOne K l r x st ys ys' st')
    (hk : x.kind = .pk → x.name ∉ names st.kwo) (hnr : (names st.rUn).Nodup) :
    QMono l r (x :: xs) ys st xs ys' st' := by
  cases h with
  | pull y cf hx hy _ =>
    exact QMono.pair_pos (lp := x) (rp := y) (by simp) ⟨rfl, rfl, rfl, rfl, rfl⟩
  | keepP hx hva => exact QMono.left_pos hva id ⟨rfl, rfl, rfl, rfl, rfl⟩
  | goneP hx hva hd => exact QMono.left_drop hd ⟨rfl, rfl, rfl, rfl, rfl⟩
  | limbo q hx hq =>
    refine QMono.left_kwo (e := (concile x q).withKind .ko)
      ⟨rfl, rfl, pset_of_not_mem (hk (hx k)), rfl, rfl⟩ rfl (by simp +contextual) ?_
    intro y hy
    by_cases hyx : y = x.name
    · have := (hasReq_of_pget hnr hq).1 (hyx ▸ hy)
      exact Or.inr (by simp [hyx, this])
    · exact Or.inl (hasReq_ppop.2 ⟨hy, hyx⟩)
  | keepQ hx hq hva => exact QMono.left_pok hva ⟨rfl, rfl, rfl, rfl, rfl⟩
  | own hx hq =>
    exact QMono.left_kwo (e := x.withKind .ko) ⟨rfl, rfl, pset_of_not_mem (hk (hx k)), rfl, rfl⟩
      rfl id (fun y hy => Or.inl hy)
  | flushQ hx hq hva => exact QMono.left_flush hva ⟨rfl, rfl, rfl, rfl, rfl⟩
  | goneQ hx hq _ _ hd => exact QMono.left_drop hd ⟨rfl, rfl, rfl, rfl, rfl⟩

theorem QMono.zstep (k : K) (h : ZStep K l r xs ys st xs' ys' st')
    (hN : NInv (pkOf xs) (pkOf ys) st) : QMono l r xs ys st xs' ys' st' := by
  cases h with
  | pair a c xs ys st ha hc =>
    exact QMono.pair_pos (lp := a) (rp := c) (by simp) ⟨rfl, rfl, rfl, rfl, rfl⟩
  | same a c xs ys st ha hc hn => exact q_match_M (st := st) hn ⟨rfl, rfl, rfl, rfl, rfl⟩
  | diff a c xs ys st ha hc hn => exact q_mis_M (lp := a) (rp := c) ⟨rfl, rfl, rfl, rfl, rfl⟩
  | left x xs ys ys' st st' h =>
    exact QMono.zone k h hN.fresh_pk (List.nodup_append.1 hN.nr).2.1
  | right x xs xs' ys st st' h =>
    exact (QMono.zone (l := r) (r := l) k h hN.flip.fresh_pk
      (List.nodup_append.1 hN.flip.nr).2.1).flip

/-! `StepFacts.pos` is about kinds, which `QMono` does not see: a required positional-only parameter
that is taken off a chain goes into `pos`. -/

def reqPo (ps : List Param) : Prop := ∃ p ∈ ps, p.kind = .po ∧ p.required = true

theorem reqPo_append (a b : List Param) : reqPo (a ++ b) ↔ reqPo a ∨ reqPo b := by
  simp only [reqPo, List.mem_append, or_and_right, exists_or]
theorem not_reqPo_nil : ¬ reqPo [] := fun ⟨_, hp, _⟩ => nomatch hp
theorem reqPo.req (h : reqPo [x]) : x.required = true := by
  obtain ⟨p, hp, -, hr⟩ := h; cases List.mem_singleton.1 hp; exact hr
theorem not_reqPo_pk (hx : x.kind = .pk) : ¬ reqPo [x] := by
  rintro ⟨p, hp, hk, -⟩; cases List.mem_singleton.1 hp; rw [hx] at hk; cases hk

def PosReq (xs ys : List Param) (st : MState) : Prop := anyReq st.pos ∨ reqPo xs ∨ reqPo ys

theorem PosReq.flip (h : PosReq xs ys st) : PosReq ys xs st.flip :=
  h.elim Or.inl fun h => Or.inr h.symm

theorem PosReq.step {dl dr cs : List Param} (hpos : st'.pos = st.pos ++ cs)
    (hreq : reqPo dl ∨ reqPo dr → anyReq cs) (h : PosReq (dl ++ A) (dr ++ B) st) : PosReq A B st' := by
  unfold PosReq at h ⊢
  rw [hpos, anyReq_append]
  rw [reqPo_append, reqPo_append] at h
  rcases h with h | (h | h) | (h | h)
  · exact Or.inl (Or.inl h)
  · exact Or.inl (Or.inr (hreq (Or.inl h)))
  · exact Or.inr (Or.inl h)
  · exact Or.inl (Or.inr (hreq (Or.inr h)))
  · exact Or.inr (Or.inr h)

theorem PosReq.zone {own other : Sorted} (k : K) (h : ZOne K own other x st ys ys' st')
    (hp : PosReq (x :: xs) ys st) : PosReq xs ys' st' := by
  have hpk : ∀ {cs : List Param}, x.kind = .pk → reqPo [x] ∨ reqPo [] → anyReq cs :=
    fun hx h => (h.elim (not_reqPo_pk hx) not_reqPo_nil).elim
  have hdf : x.dflt.isSome = true → reqPo [x] ∨ reqPo [] → anyReq [] := fun hd h =>
    h.elim (fun h => by rw [(required_iff x).1 h.req] at hd; cases hd) (fun h => (not_reqPo_nil h).elim)
  cases h with
  | pull y cf hx hy _ =>
    refine PosReq.step (dl := [x]) (dr := [y]) (cs := [concile x y]) rfl (fun h => ?_) hp
    rw [anyReq_cons, concile_required, Bool.or_eq_true]
    exact Or.inl (h.elim (fun h => Or.inl h.req) (fun h => (not_reqPo_pk (hy k) h).elim))
  | keepP hx =>
    refine PosReq.step (dl := [x]) (dr := []) (cs := [x]) rfl (fun h => ?_) hp
    exact (anyReq_cons ..).2 (Or.inl (h.elim reqPo.req fun h => (not_reqPo_nil h).elim))
  | goneP hx _ hd => exact PosReq.step (dl := [x]) (dr := []) (List.append_nil _).symm (hdf hd) hp
  | limbo q hx => exact PosReq.step (dl := [x]) (dr := []) (List.append_nil _).symm (hpk (hx k)) hp
  | keepQ hx => exact PosReq.step (dl := [x]) (dr := []) (List.append_nil _).symm (hpk (hx k)) hp
  | own hx => exact PosReq.step (dl := [x]) (dr := []) (List.append_nil _).symm (hpk (hx k)) hp
  | flushQ hx => exact PosReq.step (dl := [x]) (dr := []) (List.append_assoc ..) (hpk (hx k)) hp
  | goneQ hx => exact PosReq.step (dl := [x]) (dr := []) (List.append_nil _).symm (hpk (hx k)) hp

theorem PosReq.zstep (k : K) (h : ZStep K l r xs ys st xs' ys' st') (hp : PosReq xs ys st) :
    PosReq xs' ys' st' := by
  have hpk : ∀ {a c : Param} {cs : List Param}, a.kind = .pk → c.kind = .pk →
      reqPo [a] ∨ reqPo [c] → anyReq cs :=
    fun ha hc h => (h.elim (not_reqPo_pk ha) (not_reqPo_pk hc)).elim
  cases h with
  | pair a c xs ys st ha hc =>
    refine PosReq.step (dl := [a]) (dr := [c]) (cs := [concile a c]) rfl (fun h => ?_) hp
    rw [anyReq_cons, concile_required, Bool.or_eq_true]
    exact Or.inl (h.imp reqPo.req reqPo.req)
  | same a c xs ys st ha hc =>
    exact PosReq.step (dl := [a]) (dr := [c]) (List.append_nil _).symm (hpk (ha k) (hc k)) hp
  | diff a c xs ys st ha hc =>
    exact PosReq.step (dl := [a]) (dr := [c]) (List.append_assoc ..) (hpk (ha k) (hc k)) hp
  | left x xs ys ys' st st' h => exact hp.zone k h
  | right x xs xs' ys st st' h => exact (PosReq.zone k h hp.flip).flip

end SV
