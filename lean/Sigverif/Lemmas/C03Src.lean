/-
  Lemmas/C03Src.lean — provenance through `mask`: the sources lose exactly the entries of the
  parameters that are gone (`Lost`, `mask_lost`).  With the closed form of the loop
  (Lemmas/C03Closed) this gives that `mask` looks at the set of names only (`mask_set`).
-/
import Sigverif.Lemmas.C03Closed
import Sigverif.Lemmas.SrcDict
namespace SV

theorem dget_removeFromSrc (d : Srcs) (ns : List Nat) (x : Nat) :
    dget (removeFromSrc d ns) x = if x ∈ ns then none else dget d x := by
  unfold removeFromSrc
  induction ns generalizing d with
  | nil => simp
  | cons n t ih =>
    simp only [List.foldl_cons]
    rw [ih, dget_dpop]
    by_cases h1 : x ∈ t
    · simp [h1]
    · by_cases h2 : x = n
      · simp [h2]
      · simp [h1, h2]

theorem names_sOf_all (pos : List Param) (vk : Option Param) (st : KState) :
    names (sOf pos vk st).all =
      names pos ++ (names st.pok ++ (names st.va.toList ++ (names st.kwo ++ names vk.toList))) := by
  simp [sOf, Sorted.all, names_append, List.append_assoc]

theorem srcVa_eq (va : Option Param) (d : Srcs) : srcVa va d = removeFromSrc d (names va.toList) := by
  cases va <;> simp [srcVa, removeFromSrc, names]

theorem mem_left_iff {L L' R : List Nat} (hnd : L.Nodup)
    (h : ∀ k, L.count k = L'.count k + R.count k) (k : Nat) : k ∈ L' ↔ k ∈ L ∧ k ∉ R := by
  have h1 := List.nodup_iff_count.1 hnd k
  have h2 := h k
  rw [← List.count_pos_iff, ← List.count_pos_iff, ← List.count_eq_zero]
  omega

theorem count_names_ppop (l : List Param) (x k : Nat) :
    (names (ppop l x)).count k = if x = k then 0 else (names l).count k := by
  have e : names (ppop l x) = (names l).filter (· ≠ x) := by
    simp only [names, ppop, List.filter_map]
    rfl
  by_cases h : x = k
  · rw [if_pos h, List.count_eq_zero, ← h]
    exact not_mem_names_ppop l x
  · rw [if_neg h, e, List.count_filter]
    exact decide_eq_true (Ne.symm h)

theorem initState_src (s : Sorted) (h : HideFlags) (c : List Nat) (pok : List Param) :
    (initState s h c pok).src =
      removeFromSrc s.src (c ++ ((if h.args || h.varargs then names s.va.toList else []) ++
        ((if h.kwargs then names pok else []) ++ (if h.kwargs then names s.kwo else [])))) := by
  simp only [initState, srcVa_eq]
  cases h.kwargs <;> cases (h.args || h.varargs) <;> simp [removeFromSrc_append]

theorem count_ite_nil (b : Bool) (X : List Nat) (k : Nat) :
    (if b then [] else X).count k + (if b then X else []).count k = X.count k := by
  cases b <;> simp

/-- `src` is `s0` without the entries of some names `G`, which together with the names `L` that are still there make up
    `N0` (counted, so the order of the pieces is free) -/
def Lost (s0 : Srcs) (N0 L : List Nat) (src : Srcs) : Prop :=
  ∃ G, src = removeFromSrc s0 G ∧ ∀ k, N0.count k = L.count k + G.count k

theorem Lost.refl (s0 : Srcs) (N0 : List Nat) : Lost s0 N0 N0 s0 := ⟨[], rfl, fun _ => rfl⟩

theorem Lost.step {s0 src : Srcs} {N0 L : List Nat} (h : Lost s0 N0 L src) (L' R : List Nat)
    (hL : ∀ k, L.count k = L'.count k + R.count k) : Lost s0 N0 L' (removeFromSrc src R) := by
  obtain ⟨G, rfl, hG⟩ := h
  exact ⟨G ++ R, removeFromSrc_append .., fun k => by rw [hG, hL, List.count_append, Nat.add_assoc, Nat.add_comm (R.count k)]⟩

theorem Lost.dget {s0 src : Srcs} {N0 L : List Nat} (h : Lost s0 N0 L src) (hnd : N0.Nodup)
    (hkeys : ∀ k, k ∉ N0 → dget s0 k = none) (k : Nat) :
    dget src k = if k ∈ L then dget s0 k else none := by
  obtain ⟨G, rfl, hG⟩ := h
  rw [dget_removeFromSrc]
  have hL := mem_left_iff hnd hG k
  have hG' := mem_left_iff hnd (fun k => (hG k).trans (Nat.add_comm ..)) k
  by_cases hk : k ∈ L
  · rw [if_pos hk, if_neg fun hg => (hG'.1 hg).2 hk]
  · rw [if_neg hk]
    by_cases h0 : k ∈ N0
    · rw [if_pos (hG'.2 ⟨h0, hk⟩)]
    · rw [hkeys k h0, ite_self]

theorem removeFromSrc_eq_filter (d : Srcs) (ns : List Nat) :
    removeFromSrc d ns = d.filter (fun e => decide (e.1 ∉ ns)) := by
  unfold removeFromSrc
  induction ns generalizing d with
  | nil => exact (List.filter_eq_self.2 fun _ _ => by simp).symm
  | cons n t ih =>
    rw [List.foldl_cons, ih, dpop, List.filter_filter]
    exact List.filter_congr fun e _ => by simp [not_or, eq_comm, Bool.and_comm]

theorem Lost.ext {s0 src src' : Srcs} {N0 L L' : List Nat} (h : Lost s0 N0 L src) (h' : Lost s0 N0 L' src')
    (hnd : N0.Nodup) (hLL : ∀ k, k ∈ L ↔ k ∈ L') : src = src' := by
  obtain ⟨G, rfl, hG⟩ := h
  obtain ⟨G', rfl, hG'⟩ := h'
  rw [removeFromSrc_eq_filter, removeFromSrc_eq_filter]
  refine List.filter_congr fun e _ => ?_
  have a := mem_left_iff hnd (fun k => (hG k).trans (Nat.add_comm ..)) e.1
  have b := mem_left_iff hnd (fun k => (hG' k).trans (Nat.add_comm ..)) e.1
  rw [decide_eq_decide, a, b, hLL]

theorem step_lost {s0 : Srcs} {N0 : List Nat} {pos : List Param} {vk : Option Param} {st st' : KState} {x : Nat}
    (inv : Inv pos vk st) (hk : KStep vk st x none st')
    (hs : Lost s0 N0 (names (sOf pos vk st).all) st.src) : Lost s0 N0 (names (sOf pos vk st').all) st'.src := by
  have nd := inv.swf.nd
  rw [names_sOf_all] at nd hs ⊢
  cases hk with
  | hitPok before conv bp hpok hx =>
    have e : srcVa st.va (dpop st.src x) = removeFromSrc st.src ([x] ++ names st.va.toList) := by
      rw [srcVa_eq, ← removeFromSrc_append]; rfl
    simp only [bnd, List.append_nil, Option.isSome_none, Bool.false_eq_true, if_false, e]
    refine hs.step _ _ fun k => ?_
    subst hx
    simp only [hpok, names_append, names_cons, names_map_withKind, names_toList_none, List.count_append,
      List.count_cons, List.count_nil]
    omega
  | hitKwo p hp hmem hname =>
    subst hname
    refine hs.step _ [p.name] fun k => ?_
    have h1 := List.nodup_iff_count.1 nd p.name
    have h2 := List.count_pos_iff.2 (mem_names_of_mem hmem)
    simp only [List.count_append, count_names_ppop, List.count_cons, List.count_nil, beq_iff_eq] at h1 ⊢
    split
    · rename_i e; subst e; omega
    · omega
  | toVk hp hkw hv => simpa only [absorbed, Option.map_none, Option.toList_none, List.append_nil] using hs

theorem init_lost {s : Sorted} {n : Nat} {h : HideFlags} {c : List Nat} {pos pok : List Param}
    (hp : prelude s n h = .ok (c, pos, pok)) :
    Lost s.src (names s.all) (names (sOf pos s.vk (initState s h c pok)).all) (initState s h c pok).src := by
  rw [names_sOf_all, initState_src]
  refine (Lost.refl _ _).step _ _ fun k => ?_
  have hpp : (names s.pos).count k + (names s.pok).count k =
      (names ((s.pos ++ s.pok).take n)).count k +
        ((names (s.pos.drop n)).count k + (names (s.pok.drop (n - s.pos.length))).count k) := by
    rw [← List.count_append, ← List.count_append, ← List.count_append, ← names_append, ← names_append,
      ← names_append, ← List.drop_append, List.take_append_drop]
  have hpok := count_ite_nil h.kwargs (names pok) k
  have hkwo := count_ite_nil h.kwargs (names s.kwo) k
  have hva := count_ite_nil (h.args || h.varargs) (names s.va.toList) k
  simp only [initState, apply_ite names, apply_ite Option.toList, Option.toList_none, names_nil, Sorted.all,
    names_append, List.count_append]
  rcases prelude_ok hp with ⟨ha, rfl, rfl, rfl⟩ | ⟨ha, -, rfl, rfl, rfl⟩
  · simp only [names_nil, List.count_nil, List.count_append] at hpok ⊢
    omega
  · omega

theorem final_lost {s0 : Srcs} {N0 : List Nat} {s : Sorted} {pos : List Param} {h : HideFlags} {st : KState}
    (hs : Lost s0 N0 (names (sOf pos s.vk st).all) st.src) :
    Lost s0 N0 (names (sOf pos (finalVk s h) st).all) (finalSrc s h st) := by
  unfold finalVk finalSrc
  split
  · rw [names_sOf_all] at hs ⊢
    rw [srcVa_eq]
    refine hs.step _ _ fun k => ?_
    simp only [List.count_append, names_toList_none, List.count_nil]
    omega
  · exact hs

theorem loop_lost {s : Sorted} (hs : SWF s) {n : Nat} {h : HideFlags} {c : List Nat} {pos pok : List Param}
    {nms : List Nat} {st : KState} (hpre : prelude s n h = .ok (c, pos, pok))
    (hm : maskNames s.vk (initState s h c pok) (plainNames (if h.kwargs then [] else nms)) = .ok st) :
    Lost s.src (names s.all) (names (sOf pos s.vk st).all) st.src := by
  have h0 := init_lost hpre
  cases hk : h.kwargs with
  | true =>
    rw [hk] at hm
    cases hm
    exact h0
  | false =>
    rw [hk] at hm
    have inv := init_inv hs hpre hk
    refine ((maskNames_run _ inv.dropPos hm).induct
      (I := fun st => Inv pos s.vk st ∧ Lost s.src (names s.all) (names (sOf pos s.vk st).all) st.src) ?_ ⟨inv, h0⟩).2
    intro st st' x pv hmem _ hk h
    obtain rfl : pv = none := plainNames_snd _ hmem
    exact ⟨hk.inv h.1 (fun h => by cases h), step_lost h.1 hk h.2⟩

theorem mask_lost {sig R : USig} (hwf : WF sig.params) {n : Nat} {nms : List Nat} {h : HideFlags}
    (hR : mask sig n nms h = .ok R) : Lost sig.src (names sig.params) (names R.params) R.src := by
  obtain ⟨c, pos, pok, st, hpre, hm, -, -, rfl⟩ := mask_ok hwf hR
  have hf := final_lost (h := h) (loop_lost (sortParams_swf hwf) hpre hm)
  rw [(sortParams_src sig).1, sortParams_all hwf] at hf
  exact hf

theorem states_src_eq {s0 : Srcs} {N0 : List Nat} {pos : List Param} {vk : Option Param} {a b : KState}
    (la : Lost s0 N0 (names (sOf pos vk a).all) a.src) (lb : Lost s0 N0 (names (sOf pos vk b).all) b.src)
    (hnd : N0.Nodup) (k1 : a.pok = b.pok) (k2 : a.va = b.va) (k3 : a.kwo.Perm b.kwo) : a.src = b.src := by
  refine la.ext lb hnd fun k => ?_
  have hk : k ∈ names a.kwo ↔ k ∈ names b.kwo := (k3.map (·.name)).mem_iff
  rw [names_sOf_all, names_sOf_all, k1, k2]
  simp only [List.mem_append, hk]

theorem mask_set {sig R : USig} (hwf : WF sig.params) {n : Nat} {nms nms' : List Nat} {h : HideFlags}
    (hn' : nms'.Nodup) (hmem : ∀ y, y ∈ nms ↔ y ∈ nms') (hR : mask sig n nms h = .ok R) :
    ∃ R', mask sig n nms' h = .ok R' ∧ SigEquiv R R' ∧ R.src = R'.src ∧ R.depths = R'.depths := by
  obtain ⟨c, pos, pok, a, hp, ha, -, sa, rfl⟩ := mask_ok hwf hR
  have hs := sortParams_swf hwf
  obtain ⟨hargs, hk, hva, hvk⟩ := h
  cases hk
  · obtain ⟨b, hb, k1, k2, k3⟩ := maskNames_set (init_inv hs hp rfl) hn' hmem ha
    have sb := final_swf (loop_swf hs hp hb) _ (finalVk_cases (sortParams sig) ⟨hargs, false, hva, hvk⟩)
    refine ⟨_, mask_of_phases hwf hp hb, sigEquiv_of_states sa.bk sb.bk k1 k2 k3 _ _ _ _ _ _, ?_, rfl⟩
    -- the sources depend only on which parameters are left
    have k4 := states_src_eq (loop_lost hs hp ha) (loop_lost hs hp hb) hs.nd k1 k2 k3
    simp only [finalSrc, k4]
  · -- hide_kwargs: the names are not looked at
    exact ⟨_, mask_of_phases hwf hp ha, SigEquiv.refl _, rfl, rfl⟩

end SV
