/-
  Lemmas/C20Plain.lean — the string layer of `support`: the spellings WITHOUT `use_modifiers_kwoargs`
  (any setting of `use_modifiers_annotate` and `use_modifiers_posoargs`) on texts without `<…>`, and without `/`
  when `use_modifiers_posoargs` is set: `read_sig` hands the pieces over in order, annotations stripped and collected
  when `use_modifiers_annotate` is set.  The native spelling (no option) is the first case of this.
-/
import Sigverif.Lemmas.C20Ann
namespace SV

def Param.stripU (ua : Bool) (p : Param) : Param := { p with ann := if ua then none else p.ann }

/-- the piece as the `def` spells it: with `use_modifiers_annotate` the annotation is left to the decorator -/
def Piece.stripU (ua : Bool) : Piece → Piece
  | .slash => .slash
  | .bare => .bare
  | .chev n a d => .chev n (if ua then none else a) d
  | .star two n a d => .star two n (if ua then none else a) d
  | .plain n a d => .plain n (if ua then none else a) d

theorem Piece.stripU_false (pc : Piece) : pc.stripU false = pc := by
  cases pc <;> rfl

theorem Piece.annUpd_false (a : List (Nat × Nat)) (pc : Piece) : pc.annUpd false a = a := by
  cases pc with
  | slash => rfl
  | bare => rfl
  | chev n ann d => cases ann <;> rfl
  | star two n ann d => cases ann <;> rfl
  | plain n ann d => cases ann <;> rfl

theorem fold_pieceAnnUpd_false (ps : List Piece) (a : List (Nat × Nat)) : ps.foldl (Piece.annUpd false) a = a := by
  induction ps with
  | nil => rfl
  | cons p ps ih => rw [List.foldl_cons, Piece.annUpd_false, ih]

theorem rsLoop_plain_any (ua upo : Bool) (ps : List Piece) : ∀ (st : RS) (i : Nat), st.chev = none →
    (∀ p ∈ ps, p.chevFree = true) → (upo = true → Piece.slash ∉ ps) →
    (rsLoop ua upo false st i ps).params = st.params ++ ps.map (fun p => (p.stripU ua).toItem) := by
  induction ps with
  | nil => intro st i _ _ _; exact (List.append_nil _).symm
  | cons p ps ih =>
    intro st i hch hs hsl
    have hp := hs p List.mem_cons_self
    have hsl' : upo = true → p ≠ .slash := fun h e => hsl h (e ▸ List.mem_cons_self)
    have key : (rsStep ua upo false st i p).params = st.params ++ [(p.stripU ua).toItem] := by
      cases p with
      | slash =>
        cases upo
        · rfl
        · exact absurd rfl (hsl' rfl)
      | chev n a d => cases hp
      | bare => simp [rsStep, rsChevFix, hch, Piece.stripU, Piece.toItem]
      | star two n a d => cases two <;> simp [rsStep, rsMeta_raw, rsChevFix, hch, Piece.stripU, Piece.toItem]
      | plain n a d =>
        simp only [rsStep, rsMeta_raw, rsNamed, Bool.not_false, if_true, Piece.stripU, Piece.toItem]
        split <;> rfl
    rw [rsLoop, ih _ (i + 1) (rsStep_frame ua upo false st i p hch hp hsl').1 (fun q hq => hs q (List.mem_cons_of_mem _ hq))
      (fun h hm => hsl h (List.mem_cons_of_mem _ hm)), key, List.map_cons, List.append_assoc]
    rfl

theorem pieceOf_stripU (ua : Bool) (p : Param) : pieceOf (p.stripU ua) = (pieceOf p).stripU ua := by
  simp only [pieceOf, Param.stripU]
  cases p.kind <;> rfl

theorem piecesAux_stripU (ua : Bool) (s : List Param) : ∀ prev,
    piecesAux prev (s.map (Param.stripU ua)) = (piecesAux prev s).map (Piece.stripU ua) := by
  induction s with
  | nil => intro prev; simp only [List.map_nil, piecesAux]; split <;> rfl
  | cons p ps ih =>
    intro prev
    rw [List.map_cons, piecesAux_cons, piecesAux_cons, ih]
    have hk : (p.stripU ua).kind = p.kind := rfl
    simp only [hk, pieceOf_stripU, List.map_append, List.map_cons]
    congr 1
    · congr 1
      · split <;> rfl
      · split <;> rfl

theorem sParams_plain_eq (ua upo : Bool) (s : List Param) (hwf : WF s)
    (hstar : ∀ p ∈ s, (p.kind = .vp ∨ p.kind = .vk) → p.dflt = none) (hnpo : upo = true → ∀ p ∈ s, p.kind ≠ .po) :
    sParams ua upo false (pieces s) =
      .ok ((s.map (fun p => mkP ua p.kind p)).map (annMap (s.foldl (annUpd ua) []))) := by
  have h1 := rsLoop_plain_any ua upo (pieces s) {} 0 rfl (piecesAux_chevFree s none)
    (fun h => slash_not_mem_pieces s (hnpo h))
  obtain ⟨h2, h3, h5, h4⟩ := rsLoop_frame ua upo false (pieces s) {} 0 rfl (piecesAux_chevFree s none)
    (fun h => slash_not_mem_pieces s (hnpo h))
  -- what the def says: the signature with its annotations stripped when they go to the decorator
  have hitems : (pieces s).map (fun p => (p.stripU ua).toItem) = (pieces (s.map (Param.stripU ua))).map Piece.toItem := by
    unfold pieces
    rw [piecesAux_stripU, List.map_map]
    rfl
  have hparse := parseDef_pieces' (s.map (Param.stripU ua))
    (x11_WF_map (f := Param.stripU ua) ⟨fun _ => rfl, fun _ => rfl, fun _ => rfl, fun _ _ => rfl, fun _ _ => rfl⟩ hwf)
    (by intro p hp hk
        obtain ⟨q, hq, rfl⟩ := List.mem_map.1 hp
        exact hstar q hq hk)
  have hF0 : (s.map (Param.stripU ua)).map Param.bare = s.map (fun p => mkP ua p.kind p) := by
    rw [List.map_map]
    exact List.map_congr_left (fun p _ => by cases p; rfl)
  rw [hF0] at hparse
  refine sParams_of_readSig ua upo false (pieces s) _ _ _ ?_ ?_ ?_
    (annotate_fold ua (s.map (fun p => mkP ua p.kind p)) s
      (fun p hp => ⟨mkP ua p.kind p, List.mem_map_of_mem (f := fun p => mkP ua p.kind p) hp, rfl⟩)) ?_
  · simp only [readSig, rsChevFix, h2, h1, List.nil_append, hitems, hparse]
  · simp only [readSig, rsChevFix, h2, h3]
  · simp only [readSig, rsChevFix, h2, h5]; exact fold_annUpd_pieces ua s none []
  · simp only [readSig, rsChevFix, h2, h4 rfl, List.isEmpty_nil, if_true]

end SV
