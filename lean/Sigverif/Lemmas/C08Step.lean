/-
  Lemmas/C08Step.lean — one merge step: its source map is well-formed and truthful relative to the
  operands (also for the star-only right operand that `_embed` builds), has no repeated key; its
  depths are the operands' merged.
-/
import Sigverif.Lemmas.C08Merge
namespace SV

theorem addStarargs_rel (l r : Sorted) (wL wR : Bool) (left right : Option Param) (N : List Nat) (src : Srcs)
    (hl : ∀ p, left = some p → sget l.src p.name ≠ [])
    (hr : (∀ p, right = some p → sget r.src p.name ≠ []) ∨ wL = left.isSome)
    (h : SrcRel l r N src) :
    SrcRel l r (names (addStarargs l r wL wR left right src).1.toList ++ N)
      (addStarargs l r wL wR left right src).2 := by
  fun_cases addStarargs l r wL wR left right src
  · rename_i lp rp _ _
    show SrcRel l r (lp.name :: N) (if _ then _ else _)
    split
    · exact h.add lp.name [l.src, r.src] (by simp) ⟨l.src, by simp, hl lp rfl⟩
    · exact h.add lp.name [l.src] (by simp) ⟨l.src, by simp, hl lp rfl⟩
  · rename_i lp rp _ _
    exact h.add lp.name [l.src] (by simp) ⟨l.src, by simp, hl lp rfl⟩
  · -- only the right operand is credited: it must have an entry, so `wL` was not cleared in vain
    rename_i lp rp _ hw
    rcases hr with hr | hr
    · exact h.add rp.name [r.src] (by simp) ⟨r.src, by simp, hr rp rfl⟩
    · exact absurd hr hw
  · exact h

/-- what the merger keeps when the right operand has star parameters only, as the one `_embed` builds -/
structure LeftFlags (l : Sorted) (st : MState) : Prop where
  vaL : st.vaL = l.va.isSome
  vkL : st.vkL = l.vk.isSome
  rUn : st.rUn = []

theorem WStep.leftFlags {K : Prop} {l r : Sorted} (xs ys : List Param) (c : WState) (xs' ys' : List Param)
    (c' : WState) (s : WStep K l r xs ys c xs' ys' c') (h : c.kr = [] ∧ ys = [] ∧ LeftFlags l c.st) :
    c'.kr = [] ∧ ys' = [] ∧ LeftFlags l c'.st := by
  obtain ⟨h1, h2, h⟩ := h
  induction s with
  | kw | kwL => exact ⟨h1, h2, h.vaL, h.vkL, h.rUn⟩
  | kwSkip | kwR => cases h1
  | unL => exact ⟨rfl, rfl, h.vaL, h.vkL, h.rUn⟩
  | unR _ hun => exact absurd h.rUn hun
  | pq s =>
    refine ⟨rfl, ?_⟩
    induction s with
    | both | bothR | right | rightDrop | rightLimbo => cases h2
    | left _ _ _ _ _ _ _ _ _ ha => exact ⟨rfl, h.vaL, h.vkL, ha.un.2.trans h.rUn⟩
    | leftDrop => exact ⟨rfl, h⟩
    | leftLimbo _ _ _ _ _ hq => rw [h.rUn] at hq; cases hq

structure SrcWF (s : Sorted) : Prop where
  keys : ∀ k, dhas s.src k = true ↔ k ∈ names s.all
  ne   : ∀ k, k ∈ names s.all → sget s.src k ≠ []

theorem SrcWF.sourced {s : Sorted} (h : SrcWF s) (ps : List Param) (hps : ∀ p ∈ ps, p ∈ s.all) :
    Sourced s.src ps := fun p hp => h.ne p.name (mem_names_of_mem (hps p hp))

theorem mem_names_all (s : Sorted) (k : Nat) :
    k ∈ names s.all ↔ k ∈ names s.pos ∨ k ∈ names s.pok ∨ k ∈ names s.va.toList ∨ k ∈ names s.kwo ∨
      k ∈ names s.vk.toList := by
  simp only [Sorted.all, names_append, List.mem_append, or_assoc]

/-- **one merge step keeps provenance well-formed and truthful**; the right operand may instead
    consist of star parameters only (the operand `_embed` builds, whose map is empty) -/
theorem mergeStep_src_gen (l r s : Sorted) (hl : Sourced l.src l.all)
    (hr : Sourced r.src r.all ∨ (r.pos = [] ∧ r.pok = [] ∧ r.kwo = []))
    (h : mergeStep l r = .ok s) : SrcRel l r (names s.all) s.src := by
  obtain ⟨st4, run, rfl⟩ := mergeStep_runs (K := False) False.elim h
  have hrn : Sourced r.src r.kwo ∧ Sourced r.src (r.pos ++ r.pok) := by
    rcases hr with hr | ⟨e1, e2, e3⟩
    · exact ⟨fun p hp => hr p (mem_all_kwo hp), fun p hp => hr p
        ((List.mem_append.1 hp).elim mem_all_pos mem_all_pok)⟩
    · rw [e1, e2, e3]; exact ⟨Sourced.nil _, Sourced.nil _⟩
  have k4 := (Runs.inv _ WStep.src run ⟨⟨fun p hp => hl p (mem_all_kwo hp), hrn.1⟩,
    fun p hp => hl p ((List.mem_append.1 hp).elim mem_all_pos mem_all_pok), hrn.2,
    SrcRel.nil l r, Sourced.nil _, Sourced.nil _⟩).2.2.2
  -- a star-only right operand never gets the left operand's star flags cleared, so no star parameter
  -- is credited to the right operand alone
  have hflags : (Sourced r.src r.all) ∨ (st4.vaL = l.va.isSome ∧ st4.vkL = l.vk.isSome) := by
    rcases hr with hr | ⟨e1, e2, e3⟩
    · exact .inl hr
    · have f := (Runs.inv _ WStep.leftFlags run ⟨e3, by rw [e1, e2]; rfl, rfl, rfl, rfl⟩).2.2
      exact .inr ⟨f.vaL, f.vkL⟩
  have r1 := addStarargs_rel l r st4.vaL st4.vaR l.va r.va _ _
    (fun p hp => hl p (mem_all_va hp))
    (by rcases hflags with hf | hf
        · exact .inl (fun p hp => hf p (mem_all_va hp))
        · exact .inr hf.1) k4.toSrcRel
  have r2 := addStarargs_rel l r st4.vkL st4.vkR l.vk r.vk _ _
    (fun p hp => hl p (mem_all_vk hp))
    (by rcases hflags with hf | hf
        · exact .inl (fun p hp => hf p (mem_all_vk hp))
        · exact .inr hf.2) r1
  refine r2.congr fun k => ?_
  have perm : ∀ {a b c d e : Prop}, a ∨ b ∨ c ∨ d ∨ e ↔ e ∨ c ∨ a ∨ b ∨ d := by
    intros; simp only [or_comm, or_left_comm]
  simp only [mem_names_all, List.mem_append, mem_held]
  exact perm

theorem SrcWF.sourcedAll {s : Sorted} (h : SrcWF s) : Sourced s.src s.all :=
  h.sourced s.all fun _ hp => hp

def DepOK (src : Srcs) (depths : Depths) : Prop := ∀ k f, f ∈ sget src k → dhas depths f = true

theorem mergeStep_depths (l r s : Sorted) (h : mergeStep l r = .ok s) :
    s.depths = mergeDepths l.depths r.depths := by
  obtain ⟨st1, st2, st3, st4, il, ir, h1, h2, h3, h4, rfl⟩ := mergeStep_ok l r s h
  rfl

theorem addStarargs_nd (l r : Sorted) (wL wR : Bool) (left right : Option Param) (src : Srcs)
    (h : KeysND src) : KeysND (addStarargs l r wL wR left right src).2 := by
  fun_cases addStarargs l r wL wR left right src
  · show KeysND (if _ then _ else _)
    split <;> exact h.addSources _ _
  · exact h.addSources _ _
  · exact h.addSources _ _
  · exact h

theorem mergeStep_nd (l r s : Sorted) (h : mergeStep l r = .ok s) : KeysND s.src := by
  obtain ⟨st, run, rfl⟩ := mergeStep_runs (K := False) False.elim h
  have k := Runs.inv (fun _ _ (c : WState) => KeysND c.st.src) WStep.nd run KeysND.nil
  exact addStarargs_nd _ _ _ _ _ _ _ (addStarargs_nd _ _ _ _ _ _ _ k)

end SV
