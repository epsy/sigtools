/-
  Lemmas/C12Trans.lean — functional characterisation of `translateLoop` over `kwPosFrom`.
-/
import Sigverif.Lemmas.C12Prep
import Sigverif.Lemmas.C12Bind
namespace SV

/-- F's positional argument list rebuilt from A's: keyword-only slots are filled as long as
    original positional arguments remain -/
def fill (w : Param → Bool) (val : Param → Nat) : List Param → List Nat → List Nat
  | [], as => as
  | _ :: _, [] => []
  | f :: fs, a :: as => if w f then val f :: fill w val fs (a :: as) else a :: fill w val fs as

/-- the keyword-only parameters whose slot was filled positionally -/
def filledW (w : Param → Bool) : List Param → List Nat → List Param
  | [], _ => []
  | _ :: _, [] => []
  | f :: fs, a :: as => if w f then f :: filledW w fs (a :: as) else filledW w fs as

def valOf (kw : List (Nat × Nat)) (f : Param) : Nat := ((dget kw f.name).or f.dflt).getD 0

theorem fill_nil_args (w : Param → Bool) (val : Param → Nat) (ps : List Param) :
    fill w val ps [] = [] := by cases ps <;> simp [fill]

theorem filledW_nil_args (w : Param → Bool) (ps : List Param) : filledW w ps [] = [] := by
  cases ps <;> simp [filledW]

theorem fill_congr (w : Param → Bool) (val val' : Param → Nat) (ps : List Param) (args : List Nat)
    (h : ∀ f ∈ ps, val f = val' f) : fill w val ps args = fill w val' ps args := by
  induction ps generalizing args with
  | nil => simp [fill]
  | cons f fs ih =>
    cases args with
    | nil => simp [fill]
    | cons a as =>
      simp only [fill, h f (by simp)]
      rw [ih _ (fun g hg => h g (by simp [hg])), ih _ (fun g hg => h g (by simp [hg]))]

theorem filledW_sublist (w : Param → Bool) (ps : List Param) (args : List Nat) :
    (filledW w ps args).Sublist (ps.filter w) := by
  induction ps generalizing args with
  | nil => simp [filledW]
  | cons f fs ih =>
    cases args with
    | nil => simp [filledW]
    | cons a as =>
      simp only [filledW, List.filter_cons]
      split
      · exact (ih _).cons_cons _
      · exact ih _

theorem mem_filledW {w : Param → Bool} {ps : List Param} {args : List Nat} {f : Param}
    (h : f ∈ filledW w ps args) : f ∈ ps ∧ w f = true :=
  List.mem_filter.1 ((filledW_sublist w ps args).subset h)

theorem translateLoop_cons (pos : Nat) (p : Param) (rest : List (Nat × Param)) (args : List Nat)
    (kw : List (Nat × Nat)) (miss : List Nat) :
    translateLoop ((pos, p) :: rest) args kw miss =
      if ((dget kw p.name).or p.dflt).isSome = true then
        if pos < args.length then translateLoop rest (listInsert args pos (valOf kw p)) (dpop kw p.name) miss
        else translateLoop rest args kw miss
      else translateLoop rest args kw (miss ++ [p.name]) := by
  rw [translateLoop]
  cases hg : dget kw p.name with
  | some v => simp [valOf, hg]
  | none =>
    cases hd : p.dflt with
    | none => simp
    | some d => simp [valOf, hg, hd, dpop_of_none kw p.name hg]

theorem translateLoop_nopos {P W : List Nat} (ps : List Param) (i : Nat) (args : List Nat) (kw : List (Nat × Nat))
    (h : args.length ≤ i) (hval : ∀ f ∈ ps, isKwo P W f = true → ((dget kw f.name).or f.dflt).isSome = true) :
    translateLoop (kwPosFrom P W i ps) args kw [] = (args, kw, []) := by
  induction ps generalizing i with
  | nil => rfl
  | cons f fs ih =>
    have iht := ih (i + 1) (by omega) fun g hg => hval g (List.mem_cons_of_mem _ hg)
    rw [kwPosFrom]
    split
    · next hw => rwa [translateLoop_cons, if_pos (hval f (List.mem_cons_self ..) hw), if_neg (by omega)]
    · exact iht

theorem translateLoop_missing_mono (kp : List (Nat × Param)) (args : List Nat)
    (kw : List (Nat × Nat)) (miss : List Nat) (h : miss ≠ []) :
    (translateLoop kp args kw miss).2.2 ≠ [] := by
  induction kp generalizing args kw miss with
  | nil => simpa [translateLoop] using h
  | cons e t ih =>
    rw [translateLoop_cons]
    split
    · split <;> exact ih _ _ _ h
    · exact ih _ _ _ (by simp)

theorem translateLoop_missing {P W : List Nat} (ps : List Param) (i : Nat) (args : List Nat)
    (kw : List (Nat × Nat)) (miss : List Nat)
    (h : ∃ f ∈ ps, isKwo P W f = true ∧ (dget kw f.name).or f.dflt = none) :
    (translateLoop (kwPosFrom P W i ps) args kw miss).2.2 ≠ [] := by
  induction ps generalizing i args kw miss with
  | nil => simp at h
  | cons g gs ih =>
    obtain ⟨f, hf, hw, hv⟩ := h
    rw [kwPosFrom]
    split
    · rw [translateLoop_cons]
      split
      · next hvg =>
        -- `g` has a value, so `f` comes later; popping `g`'s keyword leaves `f` without one
        have hf' : f ∈ gs := (List.mem_cons.1 hf).resolve_left fun e => by rw [← e, hv] at hvg; cases hvg
        obtain ⟨hg, hd⟩ := Option.or_eq_none_iff.1 hv
        split
        · exact ih _ _ _ _ ⟨f, hf', hw, by rw [dget_dpop, hg, ite_self, hd]; rfl⟩
        · exact ih _ _ _ _ ⟨f, hf', hw, hv⟩
      · exact translateLoop_missing_mono _ _ _ _ (by simp)
    · next hwg => exact ih _ _ _ _ ⟨f, (List.mem_cons.1 hf).resolve_left fun e => hwg (e ▸ hw), hw, hv⟩

theorem filter_const_true {α : Type} (l : List α) : l.filter (fun _ => true) = l := by
  rw [List.filter_eq_self]; simp

theorem listInsert_at_length (done todo : List Nat) (v : Nat) :
    listInsert (done ++ todo) done.length v = (done ++ [v]) ++ todo := by
  simp [listInsert]

theorem translateLoop_eq {P W : List Nat} (ps : List Param) (i : Nat) (done todo : List Nat)
    (kw : List (Nat × Nat)) (hlen : done.length = i) (hn : NamesDistinct ps)
    (hval : ∀ f ∈ ps, isKwo P W f = true → ((dget kw f.name).or f.dflt).isSome = true) :
    translateLoop (kwPosFrom P W i ps) (done ++ todo) kw [] =
      (done ++ fill (isKwo P W) (valOf kw) ps todo,
       kw.filter (fun kv => !(names (filledW (isKwo P W) ps todo)).contains kv.1), []) := by
  induction ps generalizing i done todo kw with
  | nil => simp [kwPosFrom, translateLoop, fill, filledW, names, filter_const_true]
  | cons f fs ih =>
    cases todo with
    | nil =>
      rw [List.append_nil, translateLoop_nopos _ _ _ _ (by omega) hval]
      simp [fill, filledW, names, filter_const_true]
    | cons a as =>
      simp only [NamesDistinct, List.pairwise_cons] at hn
      simp only [kwPosFrom, fill, filledW]
      by_cases hw : isKwo P W f = true
      · simp only [hw, ↓reduceIte]
        have hlt : i < (done ++ a :: as).length := by simp; omega
        have hv := hval f (by simp) hw
        rw [translateLoop_cons, if_pos hv, if_pos hlt, ← hlen, listInsert_at_length]
        -- the names are distinct, so popping `f`'s keyword does not concern the parameters after it
        have hpop : ∀ g ∈ fs, dget (dpop kw f.name) g.name = dget kw g.name := fun g hg => by
          rw [dget_dpop, if_neg (hn.1 g hg).symm]
        rw [ih (i := done.length + 1) (done ++ [valOf kw f]) (a :: as) (dpop kw f.name) (by simp) hn.2
            fun g hg hwg => by rw [hpop g hg]; exact hval g (List.mem_cons_of_mem _ hg) hwg,
          fill_congr _ (valOf (dpop kw f.name)) (valOf kw) fs _ fun g hg => by simp only [valOf, hpop g hg]]
        simp only [List.append_assoc, List.singleton_append, Prod.mk.injEq, true_and, and_true]
        simp only [dpop, List.filter_filter, names, List.map_cons]
        apply List.filter_congr
        intro kv _
        simp [Bool.and_comm]
      · simp only [hw, Bool.false_eq_true, ↓reduceIte]
        have : done ++ a :: as = (done ++ [a]) ++ as := by simp
        rw [this, ih (i := i + 1) (done ++ [a]) as kw (by simp [hlen]) hn.2
          (fun g hg' => hval g (by simp [hg']))]
        simp

theorem posNamed_nil_args (ps : List Param) : posNamed ps [] = [] := by simp [posNamed]

theorem dget_posNamed_none (ps : List Param) (args : List Nat) (x : Nat)
    (h : ∀ p ∈ ps, p.name ≠ x) : dget (posNamed ps args) x = none := by
  induction ps generalizing args with
  | nil => simp [posNamed, dget]
  | cons f fs ih =>
    cases args with
    | nil => simp [posNamed, dget]
    | cons a as =>
      rw [posNamed_cons, dget]
      simp [h f (by simp), ih as (fun p hp => h p (by simp [hp]))]

theorem fill_drop (w : Param → Bool) (val : Param → Nat) (ps : List Param) (args : List Nat) :
    (fill w val ps args).drop ps.length = args.drop (ps.filter (fun p => !w p)).length := by
  induction ps generalizing args with
  | nil => simp [fill]
  | cons f fs ih =>
    cases args with
    | nil => simp [fill]
    | cons a as =>
      simp only [fill, List.filter_cons]
      by_cases hw : w f = true
      · simp [hw, ih]
      · simp [hw, ih]

theorem fill_posNamed (w : Param → Bool) (val : Param → Nat) (ps : List Param) (args : List Nat)
    (hn : NamesDistinct ps) (x : Nat) :
    dget (posNamed ps (fill w val ps args)) x =
      (dget (posNamed (ps.filter (fun p => !w p)) args) x).or
        (dget ((filledW w ps args).map (fun f => (f.name, val f))) x) := by
  induction ps generalizing args with
  | nil => simp [fill, filledW, posNamed, dget]
  | cons f fs ih =>
    simp only [NamesDistinct, List.pairwise_cons] at hn
    cases args with
    | nil => simp [fill, filledW, posNamed, dget]
    | cons a as =>
      simp only [fill, filledW, List.filter_cons]
      by_cases hw : w f = true
      · simp only [hw, ↓reduceIte, Bool.not_true, Bool.false_eq_true, posNamed_cons, List.map_cons, dget]
        by_cases hx : f.name = x
        · simp only [hx, ↓reduceIte]
          rw [dget_posNamed_none]
          · simp
          · intro p hp
            have := hn.1 p (List.mem_filter.1 hp).1
            rw [← hx]; exact fun h => this h.symm
        · simp only [hx, ↓reduceIte]
          exact ih _ hn.2
      · simp only [hw, Bool.false_eq_true, ↓reduceIte, Bool.not_false, posNamed_cons, dget]
        by_cases hx : f.name = x
        · simp [hx]
        · simp only [hx, ↓reduceIte]
          exact ih _ hn.2

end SV
