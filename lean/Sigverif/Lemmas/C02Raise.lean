/-
  Lemmas/C02Raise.lean — when does `embed uva uvk [o, i]` raise IncompatibleSignatures.
-/
import Sigverif.Lemmas.C02Main
namespace SV

theorem nodup3_disj {a b c : List Nat} (h : (a ++ b ++ c).Nodup) :
    (∀ x ∈ a, x ∉ b) ∧ (∀ x ∈ a, x ∉ c) ∧ (∀ x ∈ b, x ∉ c) := by
  rw [List.nodup_append] at h
  obtain ⟨hab, _, habc⟩ := h
  rw [List.nodup_append] at hab
  refine ⟨?_, ?_, ?_⟩
  · intro x hx hb; exact hab.2.2 x hx x hb rfl
  · intro x hx hc; exact habc x (List.mem_append_left _ hx) x hc rfl
  · intro x hx hc; exact habc x (List.mem_append_right _ hx) x hc rfl

theorem mergeStars_error {I : Sorted} {a k : Option Param} {e : Err}
    (hn : (names (I.pos ++ I.pok ++ I.kwo)).Nodup)
    (h : mergeStars I a k = .error e) :
    ∃ x, x ∈ rq (I.pos ++ I.pok ++ I.kwo) ∧
      (x ∈ names (I.pos ++ I.pok) → a.isSome = true → False) ∧
      (x ∈ names (I.pok ++ I.kwo) → k.isSome = true → False) := by
  have o := mergeStars_out hn a k
  rw [h] at o
  simp only [names_append] at hn
  obtain ⟨d1, d2, d3⟩ := nodup3_disj hn
  simp only [rq_append, names_append, List.mem_append]
  -- names are distinct, so the parameter that stops the merge sits in no other bucket
  cases o with
  | noArgs _ x hx =>
    have hxn := rq_subset_names hx
    exact ⟨x, .inl (.inl hx), fun _ => Bool.false_ne_true, fun h1 _ => h1.elim (d1 x hxn) (d2 x hxn)⟩
  | noKwargs _ x hx =>
    have hxn := rq_subset_names hx
    exact ⟨x, .inr hx, fun h1 _ => h1.elim (d2 x · hxn) (d3 x · hxn), fun _ => Bool.false_ne_true⟩
  | noStars x hx =>
    exact ⟨x, .inl (.inr hx), fun _ => Bool.false_ne_true, fun _ => Bool.false_ne_true⟩

theorem compositeV_false_of {Vo Vi : View} {a k : Bool} {x : Nat} (hx : x ∈ Vi.req)
    (h1 : x ∈ Vi.P → a = true → False) (h2 : x ∈ Vi.kw → k = true → False) (n : Nat)
    (K : List Nat) : ¬ compositeV Vo Vi a k n K := by
  rintro ⟨-, -, -, -, iq⟩
  rcases iq x hx with h | h
  · cases a
    · simp at h
    · exact h1 (List.mem_of_mem_take h) rfl
  · exact h2 h.2 (mem_forwarded_kw.1 h.1).1

theorem count_names_starOf_le (l r : Option Param) (w : Bool) (x : Nat) :
    (names (starOf l r w).toList).count x ≤ (names l.toList).count x := by
  cases h : starOf l r w with
  | none => exact Nat.zero_le _
  | some p =>
    obtain ⟨lp, rfl, hn⟩ := starOf_name h
    simp [names, hn]

theorem count_names_ite_le {b : Bool} {l l' : List Param} {x : Nat}
    (h : (names l).count x ≤ (names l').count x) :
    (names (if b then l else [])).count x ≤ (names (if b then l' else [])).count x := by
  cases b
  · exact Nat.le_refl _
  · exact h

theorem contrib_eq_filter {S : Sorted} (bk : BucketKinds S) (a k : Bool) :
    contrib S a k = S.all.filter fun p => (p.kind != .vp || a) && (p.kind != .vk || k) := by
  rw [filter_all_by_kind bk _ (fun kd => (kd != .vp || a) && (kd != .vk || k)) fun _ => rfl]
  simp [contrib]

theorem count_contrib_le {S : Sorted} (bk : BucketKinds S) (a k : Bool) (x : Nat) :
    (names (contrib S a k)).count x ≤ (names S.all).count x := by
  rw [contrib_eq_filter bk]
  exact (List.filter_sublist.map _).count_le x

theorem mem_contrib {S : Sorted} (bk : BucketKinds S) {a k : Bool} {p : Param} (h : p ∈ contrib S a k) :
    p ∈ S.all ∧ (p.kind = .vp → a = true) ∧ (p.kind = .vk → k = true) := by
  rw [contrib_eq_filter bk, List.mem_filter] at h
  refine ⟨h.1, fun e => ?_, fun e => ?_⟩ <;> simpa [e] using h.2

theorem mergeStars_count_contrib {I i' : Sorted} {a k : Option Param}
    (hn : (names (I.pos ++ I.pok ++ I.kwo)).Nodup) (h : mergeStars I a k = .ok i') (uva uvk : Bool) (x : Nat) :
    (names (contrib i' uva uvk)).count x ≤ (names (contrib I uva uvk)).count x := by
  have hnamed := (mergeStars_sublist hn h).count_le x
  obtain ⟨hva, hvk⟩ := mergeStars_stars h
  have hva := hva ▸ count_names_starOf_le I.va a I.pos.isEmpty x
  have hvk := hvk ▸ count_names_starOf_le I.vk k (pupdate [] I.kwo).isEmpty x
  have := count_names_ite_le (b := uva) hva
  have := count_names_ite_le (b := uvk) hvk
  simp only [contrib, names_append, List.count_append] at hnamed ⊢
  omega

theorem exists_count_of_not_nodup {l : List Nat} (h : ¬ l.Nodup) : ∃ x, 2 ≤ l.count x := by
  rw [List.nodup_iff_count] at h
  obtain ⟨x, hx⟩ := Classical.not_forall.1 h
  exact ⟨x, by omega⟩

theorem composite_false_of_mergeStars_error {o i : USig} {uva uvk : Bool} {e : Err}
    (ho : WF o.params) (hi : WF i.params)
    (hm : mergeStars (sortParams i) (if uva then (sortParams o).va else none)
            (if uvk then (sortParams o).vk else none) = .error e)
    (n : Nat) (K : List Nat) (hK : K.Nodup) : composite o.params i.params uva uvk n K = false := by
  obtain ⟨x, hx, h1, h2⟩ := mergeStars_error (sortParams_named_nodup hi) hm
  rw [isSome_ite_none] at h1 h2
  exact Bool.eq_false_iff.2 fun hc =>
    compositeV_false_of hx h1 h2 n K ((composite_iff ho hi n K hK).1 hc)

/-- Some name is collected twice; each side offers every name at most once, so it is offered
    once by each, and a star parameter is never taken from both. -/
theorem sharedNamed_of_tail_error {o i : USig} {i' : Sorted} {uva uvk : Bool} {e : Err}
    (ho : WF o.params) (hi : WF i.params)
    (hm : mergeStars (sortParams i) (if uva then (sortParams o).va else none)
            (if uvk then (sortParams o).vk else none) = .ok i')
    (ht : checkAll (tailLists (sortParams o) i' uva uvk) [] = .error e) :
    sharedNamed o.params i.params := by
  have hnO := sortParams_nodup ho
  have hnI := sortParams_nodup hi
  obtain ⟨x, hx⟩ := exists_count_of_not_nodup (checkAll_error ht)
  rw [List.nil_append, ← tailNames, count_tailNames] at hx
  have cO := Nat.le_trans (count_contrib_le (sortParams_bk o) (!uva) (!uvk) x)
    (List.nodup_iff_count.1 hnO x)
  have cI' := mergeStars_count_contrib (sortParams_named_nodup hi) hm uva uvk x
  have cI := Nat.le_trans (count_contrib_le (sortParams_bk i) uva uvk x)
    (List.nodup_iff_count.1 hnI x)
  obtain ⟨p, hp, rfl⟩ := mem_names.1 (List.count_pos_iff.1 (show 0 < _ by omega) :
    x ∈ names (contrib (sortParams o) (!uva) (!uvk)))
  obtain ⟨q, hq, hqe⟩ := mem_names.1 (List.count_pos_iff.1 (show 0 < _ by omega) :
    p.name ∈ names (contrib (sortParams i) uva uvk))
  obtain ⟨hpa, pa, pk⟩ := mem_contrib (sortParams_bk o) hp
  obtain ⟨hqa, qa, qk⟩ := mem_contrib (sortParams_bk i) hq
  refine ⟨p, sortParams_all ho ▸ hpa, q, sortParams_all hi ▸ hqa, hqe.symm, ?_⟩
  rintro ⟨hk, hs | hs⟩
  · have h1 := pa hs
    rw [qa (hk ▸ hs)] at h1
    cases h1
  · have h1 := pk hs
    rw [qk (hk ▸ hs)] at h1
    cases h1

end SV
