/-
  Lemmas/C12Names.lean — `autoNames`, `startNames`, `endNames`.
-/
import Sigverif.Lemmas.Core.Validate
import Sigverif.Model.Modifiers
namespace SV

theorem dedup_nil : dedup [] = [] := rfl

theorem autoNames_nil (F : List Param) :
    autoNames F [] = .ok ((F.filter (fun p => p.kind = .pk && p.dflt.isSome)).map (·.name)) := by
  simp [autoNames, dedup_nil]

def pkNames (ps : List Param) : List Nat := (ps.filter (fun p => p.kind = .pk)).map (·.name)

theorem pkNames_cons (p : Param) (ps : List Param) :
    pkNames (p :: ps) = if p.kind = .pk then p.name :: pkNames ps else pkNames ps := by
  simp only [pkNames, List.filter_cons]
  split <;> simp_all

theorem pkNames_nil_after {p : Param} {ps : List Param} (hk : ¬ p.kind = .pk) (hpo : ¬ p.kind = .po)
    (hs : ∀ q ∈ ps, p.kind.rank ≤ q.kind.rank) : pkNames ps = [] := by
  have hp : 2 ≤ p.kind.rank := by
    revert hk hpo
    cases p.kind <;> decide
  simp only [pkNames, List.map_eq_nil_iff, List.filter_eq_nil_iff, decide_eq_true_eq]
  intro q hq hqk
  have := Nat.le_trans hp (hs q hq)
  rw [hqk] at this
  exact absurd this (by decide)

theorem mem_pkNames {ps : List Param} {x : Nat} (h : x ∈ pkNames ps) : ∃ p ∈ ps, p.name = x := by
  simp only [pkNames, List.mem_map, List.mem_filter] at h
  obtain ⟨p, ⟨hp, -⟩, rfl⟩ := h
  exact ⟨p, hp, rfl⟩

theorem not_mem_snoc {p : Param} {ps : List Param} {acc : List Nat}
    (ha : ∀ q ∈ p :: ps, q.name ∉ acc) (hn : ∀ q ∈ ps, p.name ≠ q.name) :
    ∀ q ∈ ps, q.name ∉ acc ++ [p.name] := by
  intro q hq h
  rcases List.mem_append.1 h with h | h
  · exact ha q (List.mem_cons_of_mem _ hq) h
  · exact hn q hq (List.mem_singleton.1 h).symm

theorem startGo_true (ps : List Param) (start : Nat) (acc : List Nat)
    (hs : RankSorted ps) (hn : NamesDistinct ps) (ha : ∀ p ∈ ps, p.name ∉ acc) :
    startNames.go start ps true acc = (true, acc ++ pkNames ps) := by
  induction ps generalizing acc with
  | nil => simp [startNames.go, pkNames]
  | cons p ps ih =>
    simp only [RankSorted, NamesDistinct, List.pairwise_cons] at hs hn
    have hp := ha p (by simp)
    rw [startNames.go, pkNames_cons]
    by_cases hk : p.kind = .pk
    · simp only [hk, ↓reduceIte, Bool.true_or]
      have : acc.contains p.name = false := by simpa using hp
      simp only [this, Bool.false_eq_true, ↓reduceIte]
      rw [ih _ hs.2 hn.2]
      · simp
      · exact not_mem_snoc ha hn.1
    · simp only [hk, ↓reduceIte]
      by_cases hpo : p.kind = .po
      · simp only [hpo, ne_eq, not_true_eq_false, ↓reduceIte]
        exact ih _ hs.2 hn.2 (fun q hq => ha q (by simp [hq]))
      · simp only [ne_eq, hpo, not_false_eq_true, ↓reduceIte]
        rw [pkNames_nil_after hk hpo hs.1]
        simp

theorem startGo_false (ps : List Param) (start : Nat) (acc : List Nat)
    (hs : RankSorted ps) (hn : NamesDistinct ps) (ha : ∀ p ∈ ps, p.name ∉ acc) :
    (start ∉ pkNames ps ∧ startNames.go start ps false acc = (false, acc)) ∨
    (∃ pre post, pkNames ps = pre ++ start :: post ∧ start ∉ pre ∧
      startNames.go start ps false acc = (true, acc ++ start :: post)) := by
  induction ps generalizing acc with
  | nil => simp [startNames.go, pkNames]
  | cons p ps ih =>
    simp only [RankSorted, NamesDistinct, List.pairwise_cons] at hs hn
    have hp := ha p (by simp)
    rw [startNames.go, pkNames_cons]
    by_cases hk : p.kind = .pk
    · simp only [hk, ↓reduceIte, Bool.false_or]
      by_cases hst : p.name = start
      · subst hst
        right
        refine ⟨[], pkNames ps, by simp, by simp, ?_⟩
        have : acc.contains p.name = false := by simpa using hp
        simp only [decide_true, ↓reduceIte, this, Bool.false_eq_true]
        rw [startGo_true _ _ _ hs.2 hn.2 (not_mem_snoc ha hn.1)]
        simp
      · simp only [hst, decide_false, Bool.false_eq_true, ↓reduceIte]
        rcases ih acc hs.2 hn.2 (fun q hq => ha q (by simp [hq])) with ⟨h1, h2⟩ | ⟨pre, post, h1, h2, h3⟩
        · left; exact ⟨by simp [h1]; exact fun h => hst h.symm, h2⟩
        · right; exact ⟨p.name :: pre, post, by simp [h1], by simp [h2]; exact fun h => hst h.symm, h3⟩
    · simp only [hk, ↓reduceIte]
      by_cases hpo : p.kind = .po
      · simp only [hpo, ne_eq, not_true_eq_false, ↓reduceIte]
        exact ih _ hs.2 hn.2 (fun q hq => ha q (by simp [hq]))
      · simp only [ne_eq, hpo, not_false_eq_true, ↓reduceIte]
        left
        rw [pkNames_nil_after hk hpo hs.1]
        simp

theorem endGo_true (ps : List Param) (end_ : Nat) (acc : List Nat) :
    endNames.go end_ ps true acc = (true, acc) := by
  induction ps with
  | nil => simp [endNames.go]
  | cons p ps ih =>
    rw [endNames.go]
    by_cases hk : p.kind = .pk
    · simp [hk, ih]
    · by_cases hpo : p.kind = .po
      · simp [hpo, ih]
      · simp [hk, hpo]

theorem endGo_false (ps : List Param) (end_ : Nat) (acc : List Nat)
    (hs : RankSorted ps) (hn : NamesDistinct ps) (ha : ∀ p ∈ ps, p.name ∉ acc) :
    (end_ ∉ pkNames ps ∧ endNames.go end_ ps false acc = (false, acc ++ pkNames ps)) ∨
    (∃ pre post, pkNames ps = pre ++ end_ :: post ∧ end_ ∉ pre ∧
      endNames.go end_ ps false acc = (true, acc ++ pre ++ [end_])) := by
  induction ps generalizing acc with
  | nil => simp [endNames.go, pkNames]
  | cons p ps ih =>
    simp only [RankSorted, NamesDistinct, List.pairwise_cons] at hs hn
    have hp := ha p (by simp)
    rw [endNames.go, pkNames_cons]
    by_cases hk : p.kind = .pk
    · have hc : acc.contains p.name = false := by simpa using hp
      simp only [hk, ↓reduceIte, Bool.false_or, Bool.not_false, hc, Bool.false_eq_true]
      by_cases hst : p.name = end_
      · right
        refine ⟨[], pkNames ps, by simp [hst], by simp, ?_⟩
        simp only [hst, decide_true]
        rw [endGo_true]
        simp
      · simp only [hst, decide_false]
        rcases ih _ hs.2 hn.2 (not_mem_snoc ha hn.1) with ⟨h1, h2⟩ | ⟨pre, post, h1, h2, h3⟩
        · left; exact ⟨by simp [h1]; exact fun h => hst h.symm, by rw [h2]; simp⟩
        · right
          exact ⟨p.name :: pre, post, by simp [h1], by simp [h2]; exact fun h => hst h.symm,
            by rw [h3]; simp⟩
    · simp only [hk, ↓reduceIte]
      by_cases hpo : p.kind = .po
      · simp only [hpo, ne_eq, not_true_eq_false, ↓reduceIte]
        exact ih _ hs.2 hn.2 (fun q hq => ha q (by simp [hq]))
      · simp only [ne_eq, hpo, not_false_eq_true, ↓reduceIte]
        left
        rw [pkNames_nil_after hk hpo hs.1]
        simp

end SV
