/-
  Lemmas/C20Chars.lean — the character level of `read_sig` (Model/ReadSigText.lean): on the texts the helpers are meant
  for — tokens without commas, colons, equal signs and white space, any white space after the commas — the split and
  the regular expression give back exactly the tokens.
-/
import Sigverif.Model.ReadSigText
namespace SV

def SimpleTok (t : List Char) : Prop :=
  t ≠ [] ∧ ∀ c ∈ t, c ≠ ',' ∧ c ≠ ':' ∧ c ≠ '=' ∧ isWs c = false

theorem spanLen_append_all (p : Char → Bool) (a b : List Char) (ha : ∀ c ∈ a, p c = true) :
    spanLen p (a ++ b) = a.length + spanLen p b := by
  induction a with
  | nil => simp
  | cons c cs ih =>
    have hc := ha c (by simp)
    simp only [List.cons_append, spanLen, hc, if_true, List.length_cons]
    rw [ih (fun d hd => ha d (List.mem_cons_of_mem _ hd))]; omega

theorem spanLen_stop (p : Char → Bool) (c : Char) (cs : List Char) (h : p c = false) : spanLen p (c :: cs) = 0 := by
  simp [spanLen, h]

theorem findSome?_cons_some {α β : Type} (f : α → Option β) (x : α) (xs : List α) (y : β) (h : f x = some y) :
    (x :: xs).findSome? f = some y := by
  simp [List.findSome?, h]

/-- a greedy quantifier settles on its first alternative, everything it can take, when the rest of the pattern matches
    there; `b` cannot continue the run -/
theorem findSome?_greedy {β : Type} (p : Char → Bool) (lo : Nat) (a b : List Char) (f : List Char × List Char → Option β)
    (y : β) (ha : ∀ c ∈ a, p c = true) (hb : spanLen p b = 0) (hlo : lo ≤ a.length) (h : f (a, b) = some y) :
    (greedy p lo (a ++ b)).findSome? f = some y := by
  have hs : spanLen p (a ++ b) = a.length := by rw [spanLen_append_all p a b ha, hb]; rfl
  have : a.length + 1 - lo = (a.length - lo) + 1 := by omega
  unfold greedy
  simp only [hs, this, List.range_succ_eq_map, List.map_cons, Nat.sub_zero, List.take_left, List.drop_left]
  exact findSome?_cons_some _ _ _ _ h

theorem tailDefault_eq (d : List Char) (hd : d ≠ []) : tailDefault ('=' :: d) = some (some d) := by
  cases d with
  | nil => exact absurd rfl hd
  | cons _ _ => rfl

theorem afterAnn_default (d : List Char) (hd : d ≠ []) : afterAnn ('=' :: d) = some (some d) :=
  findSome?_greedy isWs 0 [] ('=' :: d) _ _ (fun _ h => nomatch h) (spanLen_stop isWs '=' d (by decide)) (Nat.zero_le _)
    (tailDefault_eq d hd)

theorem afterAnn_nil : afterAnn [] = some none := rfl

theorem afterAnn_tok (c : Char) (cs : List Char) (hw : isWs c = false) (he : c ≠ '=') : afterAnn (c :: cs) = none := by
  unfold afterAnn greedy
  have h0 : spanLen isWs (c :: cs) = 0 := spanLen_stop isWs c cs hw
  simp only [h0, Nat.zero_add, Nat.sub_zero, List.range_one, List.map_cons, List.map_nil, List.take_zero, List.drop_zero,
    List.findSome?]
  cases hcs : tailDefault (c :: cs) with
  | none => rfl
  | some v =>
    exfalso
    unfold tailDefault at hcs
    split at hcs
    · rename_i heq; simp only [List.cons.injEq] at heq; exact he heq.1
    · rename_i heq; cases heq
    · cases hcs

def dfltText : Option (List Char) → List Char
  | none => []
  | some d => '=' :: d

def annText : Option (List Char) → List Char
  | none => []
  | some a => ':' :: a

theorem afterAnn_dfltText (d : Option (List Char)) (hd : ∀ t ∈ d, SimpleTok t) : afterAnn (dfltText d) = some d := by
  cases d with
  | none => exact afterAnn_nil
  | some t => exact afterAnn_default t (hd t rfl).1

theorem findSome?_range_map {β γ : Type} (g : Nat → β) (f : β → Option γ) (n k : Nat) (y : γ) (hk : k < n)
    (hbefore : ∀ j < k, f (g j) = none) (hat : f (g k) = some y) :
    ((List.range n).map g).findSome? f = some y := by
  induction n generalizing g k with
  | zero => omega
  | succ n ih =>
    rw [List.range_succ_eq_map, List.map_cons, List.map_map]
    cases k with
    | zero => exact findSome?_cons_some _ _ _ _ hat
    | succ k' =>
      have h0 : f (g 0) = none := hbefore 0 (by omega)
      simp only [List.findSome?, h0]
      exact ih (g ∘ Nat.succ) k' (by omega) (fun j hj => hbefore (j + 1) (by omega)) hat

theorem annAndDefault_ann (a : List Char) (d : Option (List Char)) (ha : SimpleTok a) (hd : ∀ t ∈ d, SimpleTok t) :
    annAndDefault (':' :: a ++ dfltText d) = some (some a, d) := by
  unfold annAndDefault
  have key : (lazyDot (a ++ dfltText d)).findSome?
      (fun (x : List Char × List Char) => (afterAnn x.2).map (fun dd => (some x.1, dd))) = some (some a, d) := by
    unfold lazyDot
    have hpos : 0 < a.length := List.length_pos_iff.2 ha.1
    have hlen : a.length - 1 < (a ++ dfltText d).length := by
      rw [List.length_append]
      omega
    refine findSome?_range_map _ _ _ (a.length - 1) _ hlen ?_ ?_
    · intro j hj
      have hj' : j + 1 < a.length := by omega
      -- the remainder starts with a character of the token
      have hdrop : (a ++ dfltText d).drop (j + 1) = a.drop (j + 1) ++ dfltText d := by
        rw [List.drop_append_of_le_length (by omega)]
      simp only [hdrop]
      cases hda : a.drop (j + 1) with
      | nil =>
        have := List.drop_eq_nil_iff.1 hda
        omega
      | cons c cs =>
        have hc : c ∈ a := List.mem_of_mem_drop (by rw [hda]; simp)
        obtain ⟨_, _, h3, h4⟩ := ha.2 c hc
        simp [afterAnn_tok c (cs ++ dfltText d) h4 h3]
    · have e1 : a.length - 1 + 1 = a.length := by omega
      simp only [e1, List.take_left', List.drop_left', afterAnn_dfltText d hd, Option.map_some]
  simp only [List.cons_append, key]

theorem annAndDefault_noann (d : Option (List Char)) (hd : ∀ t ∈ d, SimpleTok t) :
    annAndDefault (dfltText d) = some (none, d) := by
  unfold annAndDefault
  cases d with
  | none => simp [dfltText, afterAnn_nil]
  | some t =>
    have := afterAnn_default t (hd t rfl).1
    simp [dfltText, this]

theorem annAndDefault_texts (a d : Option (List Char)) (ha : ∀ t ∈ a, SimpleTok t) (hd : ∀ t ∈ d, SimpleTok t) :
    annAndDefault (annText a ++ dfltText d) = some (a, d) := by
  cases a with
  | none => simpa [annText] using annAndDefault_noann d hd
  | some t => simpa [annText] using annAndDefault_ann t d (ha t rfl) hd

theorem matchParam_simple (ws arg : List Char) (a d : Option (List Char)) (hws : ∀ c ∈ ws, isWs c = true)
    (harg : SimpleTok arg) (ha : ∀ t ∈ a, SimpleTok t) (hd : ∀ t ∈ d, SimpleTok t) :
    matchParam (ws ++ arg ++ annText a ++ dfltText d) = some (arg, a, d) := by
  -- what follows the argument token starts with `:` or `=` or is empty
  have hstop : ∀ p : Char → Bool, p ':' = false → p '=' = false → spanLen p (annText a ++ dfltText d) = 0 := by
    intro p h1 h2
    cases a with
    | some t => exact spanLen_stop p ':' _ h1
    | none =>
      cases d with
      | some t => exact spanLen_stop p '=' _ h2
      | none => rfl
  have harg0 : spanLen isWs (arg ++ (annText a ++ dfltText d)) = 0 := by
    obtain ⟨c0, cs0, rfl⟩ := List.exists_cons_of_ne_nil harg.1
    exact spanLen_stop isWs c0 _ (harg.2 c0 List.mem_cons_self).2.2.2
  unfold matchParam
  rw [List.append_assoc, List.append_assoc]
  -- the three quantifiers in turn: the white space, the argument token, no white space
  refine findSome?_greedy isWs 0 ws _ _ _ hws harg0 (Nat.zero_le _) ?_
  refine findSome?_greedy _ 1 arg _ _ _ (fun c hc => by simp [(harg.2 c hc).2.1, (harg.2 c hc).2.2.1])
    (hstop _ (by decide) (by decide)) (List.length_pos_iff.2 harg.1) ?_
  refine findSome?_greedy isWs 0 [] (annText a ++ dfltText d) _ _ (fun _ h => nomatch h) (hstop isWs (by decide) (by decide)) (Nat.zero_le _) ?_
  simp only [annAndDefault_texts a d ha hd, Option.map_some]

theorem splitComma_cons (c : Char) (cs : List Char) :
    splitComma (c :: cs) = (match splitComma cs with
      | [] => [[c]]
      | w :: ws => if c = ',' then [] :: w :: ws else (c :: w) :: ws) := rfl

theorem splitComma_ne_nil (s : List Char) : splitComma s ≠ [] := by
  induction s with
  | nil => simp [splitComma]
  | cons c cs ih =>
    unfold splitComma
    cases h : splitComma cs with
    | nil => exact absurd h ih
    | cons w ws => by_cases hc : c = ',' <;> simp [hc]

theorem splitComma_nocomma (p : List Char) (h : ∀ c ∈ p, c ≠ ',') : splitComma p = [p] := by
  induction p with
  | nil => rfl
  | cons c cs ih =>
    have hc := h c (by simp)
    unfold splitComma
    rw [ih (fun d hd => h d (List.mem_cons_of_mem _ hd))]
    simp [hc]

theorem splitComma_append (p rest : List Char) (h : ∀ c ∈ p, c ≠ ',') :
    splitComma (p ++ ',' :: rest) = p :: splitComma rest := by
  induction p with
  | nil =>
    simp only [List.nil_append]
    rw [splitComma_cons]
    cases hr : splitComma rest with
    | nil => exact absurd hr (splitComma_ne_nil rest)
    | cons w ws => simp
  | cons c cs ih =>
    have hc := h c (by simp)
    rw [List.cons_append, splitComma_cons, ih (fun d hd => h d (List.mem_cons_of_mem _ hd))]
    simp [hc]

/-- `','.join(parts)` (any separator white space belongs to the parts) -/
def joinComma : List (List Char) → List Char
  | [] => []
  | [p] => p
  | p :: q :: ps => p ++ ',' :: joinComma (q :: ps)

theorem splitComma_join (parts : List (List Char)) (hne : parts ≠ []) (h : ∀ p ∈ parts, ∀ c ∈ p, c ≠ ',') :
    splitComma (joinComma parts) = parts := by
  induction parts with
  | nil => exact absurd rfl hne
  | cons p ps ih =>
    cases ps with
    | nil => exact splitComma_nocomma p (h p (by simp))
    | cons q qs =>
      simp only [joinComma]
      rw [splitComma_append p _ (h p (by simp)), ih (by simp) (fun r hr => h r (List.mem_cons_of_mem _ hr))]

/-- one comma-separated part of a signature text -/
structure Part where
  ws : List Char
  arg : List Char
  ann : Option (List Char)
  dflt : Option (List Char)

def Part.text (p : Part) : List Char := p.ws ++ p.arg ++ annText p.ann ++ dfltText p.dflt

def Part.Simple (p : Part) : Prop :=
  (∀ c ∈ p.ws, isWs c = true) ∧ SimpleTok p.arg ∧ (∀ t ∈ p.ann, SimpleTok t) ∧ (∀ t ∈ p.dflt, SimpleTok t)

theorem Part.text_nocomma (p : Part) (h : p.Simple) : ∀ c ∈ p.text, c ≠ ',' := by
  intro c hc
  obtain ⟨h1, h2, h3, h4⟩ := h
  simp only [Part.text, List.mem_append] at hc
  rcases hc with ((hc | hc) | hc) | hc
  · intro e; subst e; have := h1 _ hc; simp [isWs] at this
  · exact (h2.2 c hc).1
  · cases ha : p.ann with
    | none => rw [ha] at hc; simp [annText] at hc
    | some t =>
      rw [ha] at hc
      simp only [annText, List.mem_cons] at hc
      rcases hc with rfl | hc
      · decide
      · exact ((h3 t ha).2 c hc).1
  · cases hd : p.dflt with
    | none => rw [hd] at hc; simp [dfltText] at hc
    | some t =>
      rw [hd] at hc
      simp only [dfltText, List.mem_cons] at hc
      rcases hc with rfl | hc
      · decide
      · exact ((h4 t hd).2 c hc).1

theorem Part.text_ne_nil (p : Part) (h : p.Simple) : p.text.isEmpty = false := by
  obtain ⟨_, h2, _, _⟩ := h
  cases ha : p.arg with
  | nil => exact absurd ha h2.1
  | cons c cs => cases hw : p.ws <;> simp [Part.text, ha, hw]

theorem splitParams_simple (parts : List Part) (hne : parts ≠ []) (h : ∀ p ∈ parts, p.Simple) :
    splitParams (joinComma (parts.map Part.text)) = parts.map (fun p => some (p.arg, p.ann, p.dflt)) := by
  unfold splitParams
  rw [splitComma_join (parts.map Part.text) (by simpa using hne)
    (by intro t ht; simp only [List.mem_map] at ht; obtain ⟨p, hp, rfl⟩ := ht; exact p.text_nocomma (h p hp))]
  have hfil : (parts.map Part.text).filter (fun w => !w.isEmpty) = parts.map Part.text := by
    rw [List.filter_eq_self]
    intro t ht
    simp only [List.mem_map] at ht
    obtain ⟨p, hp, rfl⟩ := ht
    simp [p.text_ne_nil (h p hp)]
  rw [hfil, List.map_map]
  apply List.map_congr_left
  intro p hp
  obtain ⟨h1, h2, h3, h4⟩ := h p hp
  exact matchParam_simple p.ws p.arg p.ann p.dflt h1 h2 h3 h4

end SV
