/-
  Lemmas/C01RJ.lean — the role invariant `RJ` of the merger state along a run of `ZStep`.
  Every iteration that lets a parameter into `pos` or `pok` puts it at the role index `mlen st`, which is where the
  heads of both remaining lists sit; the others leave the two buckets alone and add at most one keyword-only
  parameter, whose role index is at or above the capacity `cap9 l r` of the result.
-/
import Sigverif.Lemmas.C01Roles
import Sigverif.Lemmas.MergeCount
namespace SV

/-- `RI` for a merger state in phases P and Q; `A`, `B`: what is left of the positional parameters of `l`, `r`.
    `kk`: a keyword-only entry whose role is positional-or-keyword is there because one side had run out of
    positional parameters and has no `*args`: its role index is at or above the number of positions both sides answer for. -/
structure RJ (ρ : Roles) (l r : Sorted) (A B : List Param) (st : MState) : Prop where
  j1 : IdxOK ρ 0 (st.pos ++ st.pok)
  fl : ∀ p, (p ∈ l.pos ∨ p ∈ l.pok) → p.required = true →
    Fate ρ st.pos st.pok st.kwo l.pok p ∨ p ∈ A
  fr : ∀ q, (q ∈ r.pos ∨ q ∈ r.pok) → q.required = true →
    Fate ρ st.pos st.pok st.kwo r.pok q ∨ q ∈ B
  kk : ∀ c ∈ st.kwo, c.name ∈ names l.kwo ∨ c.name ∈ names r.kwo ∨
    (ρ.κ c.name = .pk ∧ (l.va.isSome && r.va.isSome) = false ∧ cap9 l r ≤ ρ.ι c.name)

variable {ρ : Roles} {IsIn : Nat → Prop} {K : Prop} {l r : Sorted} {A B : List Param} {st st1 : MState}

theorem Fate_mono {pos pok kwo own pos' pok' kwo' : List Param} {p : Param}
    (h : Fate ρ pos pok kwo own p)
    (h1 : ∀ c ∈ pos, c ∈ pos')
    (h2 : ∀ x, hasReq pok x → hasReq pok' x ∨ ∃ c ∈ pos', c.required = true ∧ c.name = x)
    (h3 : ∀ x, hasReq kwo x → hasReq kwo' x) : Fate ρ pos' pok' kwo' own p := by
  rcases h with ⟨c, hc, hr, hi⟩ | ⟨h | h, ho⟩
  · exact Or.inl ⟨c, h1 c hc, hr, hi⟩
  · rcases h2 _ h with h | ⟨c, hc, hr, hn⟩
    · exact Or.inr ⟨Or.inl h, ho⟩
    · exact Or.inl ⟨c, hc, hr, by rw [hn]⟩
  · exact Or.inr ⟨Or.inr (h3 _ h), ho⟩

theorem Fate.append {pos pok kwo own : List Param} {p : Param} (cs ck ek : List Param)
    (h : Fate ρ pos pok kwo own p) : Fate ρ (pos ++ cs) (pok ++ ck) (kwo ++ ek) own p :=
  Fate_mono h (fun _ hc => List.mem_append_left _ hc)
    (fun _ hx => Or.inl ((hasReq_append ..).2 (Or.inl hx)))
    (fun _ hx => (hasReq_append ..).2 (Or.inl hx))

theorem Fate.flush {pos pok kwo own : List Param} {p : Param} (cs : List Param)
    (h : Fate ρ pos pok kwo own p) :
    Fate ρ (pos ++ pok.map (·.withKind .po) ++ cs) [] kwo own p := by
  refine Fate_mono h (fun c hc => ?_) ?_ (fun _ hx => hx)
  · exact List.mem_append_left _ (List.mem_append_left _ hc)
  · rintro y ⟨c, hc, hn, hr⟩
    refine Or.inr ⟨c.withKind .po, ?_, hr, hn⟩
    exact List.mem_append_left _ (List.mem_append_right _ (List.mem_map.2 ⟨c, hc, rfl⟩))

theorem ZPos.role {c : Nat} {a : Param} {R : List Param} (hl : RI ρ IsIn l)
    (P : ZPos (l.pos ++ l.pok) R c (a :: A) B) : ρ.ι a.name = c :=
  (IdxOK_getElem ρ hl.idx c a P.head).trans (Nat.zero_add c)

theorem ZPos.idx {c : Nat} {a : Param} (hl : RI ρ IsIn l) (P : ZPos (l.pos ++ l.pok) (r.pos ++ r.pok) c (a :: A) B)
    (hc : Kept l r c st) (hB : B ≠ [] ∨ r.va.isSome = true) : ρ.ι a.name = mlen st :=
  (P.role hl).trans (hc.eq (P.answered hB)).symm

theorem RJ.advance {a c : Param} (h : RJ ρ l r (a :: A) B st)
    (hP : names (st1.pos ++ st1.pok) = names (st.pos ++ st.pok ++ [c]))
    (hci : ρ.ι c.name = mlen st)
    (h3 : st1.kwo = st.kwo)
    (mono : ∀ {own p}, Fate ρ st.pos st.pok st.kwo own p → Fate ρ st1.pos st1.pok st1.kwo own p)
    (hfa : a.required = true → Fate ρ st1.pos st1.pok st1.kwo l.pok a)
    (hfb : ∀ b ∈ B.head?, b.required = true → Fate ρ st1.pos st1.pok st1.kwo r.pok b) :
    RJ ρ l r A B.tail st1 := by
  refine ⟨?_, ?_, ?_, h3 ▸ h.kk⟩
  · refine (IdxOK_congr ρ 0 hP).2 ((IdxOK_append ..).2 ⟨h.j1, ?_, trivial⟩)
    simpa [mlen] using hci
  · intro p hp hr
    rcases h.fl p hp hr with hf | hf
    · exact Or.inl (mono hf)
    · rcases List.mem_cons.1 hf with rfl | hf
      · exact Or.inl (hfa hr)
      · exact Or.inr hf
  · intro q hq hr
    rcases h.fr q hq hr with hf | hf
    · exact Or.inl (mono hf)
    · cases B with
      | nil => cases hf
      | cons b B' =>
        rcases List.mem_cons.1 hf with rfl | hf
        · exact Or.inl (hfb q rfl hr)
        · exact Or.inr hf

theorem RJ.stay {x : Param} {cs : List Param} (h : RJ ρ l r (x :: A) [] st)
    (hva : r.va.isSome = false) (hix : cap9 l r ≤ ρ.ι x.name)
    (h1 : st1.pos = st.pos) (h2 : st1.pok = st.pok) (h3 : st1.kwo = st.kwo ++ cs)
    (hcs : ∀ c ∈ cs, c.name = x.name ∧ x ∈ l.pok ∧ (x.name ∈ names r.kwo ∨ ρ.κ x.name = .pk))
    (hreq : x.required = true → hasReq cs x.name) : RJ ρ l r A [] st1 := by
  have mono : ∀ {own p}, Fate ρ st.pos st.pok st.kwo own p →
      Fate ρ st1.pos st1.pok st1.kwo own p :=
    fun hf => by simpa [h1, h2, h3] using hf.append [] [] cs
  refine ⟨by rw [h1, h2]; exact h.j1, ?_, ?_, ?_⟩
  · intro p hp hr
    rcases h.fl p hp hr with hf | hf
    · exact Or.inl (mono hf)
    · rcases List.mem_cons.1 hf with rfl | hf
      · obtain ⟨c, hc, -, -⟩ := hreq hr
        exact Or.inl (Or.inr ⟨Or.inr (h3 ▸ (hasReq_append ..).2 (Or.inr (hreq hr))),
          (hcs c hc).2.1⟩)
      · exact Or.inr hf
  · intro p hp hr
    rcases h.fr p hp hr with hf | hf
    · exact Or.inl (mono hf)
    · cases hf
  · intro c hc
    rcases List.mem_append.1 (h3 ▸ hc) with hc | hc
    · exact h.kk c hc
    · obtain ⟨hcn, -, hk⟩ := hcs c hc
      rw [hcn]
      exact hk.elim (fun hk => .inr (.inl hk)) fun hk => .inr (.inr ⟨hk, by rw [hva, Bool.and_false], hix⟩)

section P
variable {a b x : Param}

theorem rj_p_pair (hu : Upd st1 (st.pos ++ [concile a b]) st.pok st.kwo st.lUn st.rUn)
    (hp : st.pok = []) (ia : ρ.ι a.name = mlen st) (ib : ρ.ι b.name = mlen st)
    (h : RJ ρ l r (a :: A) (b :: B) st) : RJ ρ l r A B st1 := by
  obtain ⟨h1, h2, h3, -, -⟩ := hu
  have hin : concile a b ∈ st1.pos := by rw [h1]; simp
  refine h.advance (c := concile a b) (by simp [h1, h2, hp]) ia h3
    (fun hf => by simpa [h1, h2, h3] using hf.append [concile a b] [] []) ?_ ?_
  · exact fun hr => Or.inl ⟨_, hin, by simp [hr], rfl⟩
  · intro b' hb hr
    cases Option.mem_some_iff.1 hb
    exact Or.inl ⟨_, hin, by simp [hr], ia.trans ib.symm⟩

theorem rj_p_lva (ix : ρ.ι x.name = mlen st)
    (hu : Upd st1 (st.pos ++ [x]) st.pok st.kwo st.lUn st.rUn) (hp : st.pok = [])
    (h : RJ ρ l r (x :: A) [] st) : RJ ρ l r A [] st1 := by
  obtain ⟨h1, h2, h3, h4, h5⟩ := hu
  refine h.advance (c := x) (by simp [h1, h2, hp]) ix h3
    (fun hf => by simpa [h1, h2, h3] using hf.append [x] [] []) ?_ (fun _ hb => nomatch hb)
  exact fun hr => Or.inl ⟨x, by rw [h1]; simp, hr, rfl⟩

theorem rj_ldrop (hva : r.va.isSome = false) (hix : cap9 l r ≤ ρ.ι x.name) (hd : x.dflt.isSome = true)
    (hu : Upd st1 st.pos st.pok st.kwo st.lUn st.rUn)
    (h : RJ ρ l r (x :: A) [] st) : RJ ρ l r A [] st1 := by
  obtain ⟨h1, h2, h3, h4, h5⟩ := hu
  refine h.stay (cs := []) hva hix h1 h2 (by rw [h3, List.append_nil]) (fun _ hc => nomatch hc)
    (fun hr => ?_)
  rw [(required_iff x).1 hr] at hd
  cases hd

end P

theorem RJ.flip (h : RJ ρ l r A B st) : RJ ρ r l B A st.flip := by
  refine ⟨h.j1, h.fr, h.fl, fun c hc => ?_⟩
  rw [cap9_comm, Bool.and_comm]
  exact (h.kk c hc).elim (fun h => .inr (.inl h)) fun h => h.elim .inl fun h => .inr (.inr h)

section Q
variable {a b x : Param}

theorem rj_q_match (hn : a.name = b.name)
    (hu : Upd st1 st.pos (st.pok ++ [concile a b]) st.kwo st.lUn st.rUn)
    (ha : a ∈ l.pok) (hb : b ∈ r.pok) (ia : ρ.ι a.name = mlen st)
    (h : RJ ρ l r (a :: A) (b :: B) st) : RJ ρ l r A B st1 := by
  obtain ⟨h1, h2, h3, h4, h5⟩ := hu
  refine h.advance (c := concile a b) (by simp [h1, h2]) ia h3
    (fun hf => by simpa [h1, h2, h3] using hf.append [] [concile a b] []) ?_ ?_
  · exact fun hr => Or.inr ⟨Or.inl (by rw [h2]; simp [hr]), ha⟩
  · intro b' hb' hr
    cases Option.mem_some_iff.1 hb'
    exact Or.inr ⟨Or.inl (by rw [h2]; simp [hr, hn]), hb⟩

theorem rj_q_mis
    (hu : Upd st1 (st.pos ++ st.pok.map (·.withKind .po) ++ [(concile a b).withKind .po]) []
      st.kwo st.lUn st.rUn) (ia : ρ.ι a.name = mlen st) (ib : ρ.ι b.name = mlen st)
    (h : RJ ρ l r (a :: A) (b :: B) st) : RJ ρ l r A B st1 := by
  obtain ⟨h1, h2, h3, h4, h5⟩ := hu
  have hin : (concile a b).withKind .po ∈ st1.pos := by rw [h1]; simp
  refine h.advance (c := (concile a b).withKind .po) (by simp [h1, h2]) ia h3
    (fun hf => by simpa [h1, h2, h3] using hf.flush [(concile a b).withKind .po]) ?_ ?_
  · exact fun hr => Or.inl ⟨_, hin, by simp [hr], rfl⟩
  · intro b' hb' hr
    cases Option.mem_some_iff.1 hb'
    exact Or.inl ⟨_, hin, by simp [hr], ia.trans ib.symm⟩

end Q

theorem RI.kwo_pk {IsIn : Nat → Prop} {s : Sorted} (hs : RI ρ IsIn s) :
    ∀ q ∈ s.kwo, ρ.κ q.name = .pk → s.va.isSome = false := by
  intro q hq hk
  rcases hs.kkwo q hq with h' | h'
  · rw [hk] at h'; cases h'
  · exact h'.2.1

theorem Limbo9_of_RI {s t : Sorted} (hs : RI ρ IsIn s) (ht : RI ρ IsIn t) : Limbo9 s t := by
  intro x hx hn
  obtain ⟨q, hq, hqn⟩ := mem_names.1 hn
  exact ht.kwo_pk q hq (hqn ▸ hs.kpok x hx)

theorem RJ.zone {c : Nat} {x : Param} {ys ys' : List Param} (k : K) (hl : RI ρ IsIn l) (hr : RI ρ IsIn r)
    (h : ZOne K l r x st ys ys' st1) (hs : ZSub l r st)
    (hfresh : x.kind = .pk → x.name ∉ names st.kwo) (P : ZPos (l.pos ++ l.pok) (r.pos ++ r.pok) c (x :: A) ys)
    (hc : Kept l r c st)
    (J : RJ ρ l r (x :: A) ys st) : RJ ρ l r A ys' st1 := by
  have pre : x.kind = .pk → x ∈ l.pok ∧ ρ.κ x.name = .pk := fun hx =>
    have hm := hl.bk.mem_pok P.mem hx
    ⟨hm, hl.kpok x hm⟩
  have ix := P.idx hl hc
  have hg : ys = [] → r.va.isSome = false → cap9 l r ≤ ρ.ι x.name := by
    rintro rfl hva; exact P.role hl ▸ P.unanswered hva
  induction h with
  | pull y cf hx hy hp =>
    exact rj_p_pair ⟨rfl, rfl, rfl, rfl, rfl⟩ hp (ix (.inl (List.cons_ne_nil _ _)))
      (P.flip.idx hr hc.flip (.inl (List.cons_ne_nil _ _))) J
  | keepP hx hva hp => exact rj_p_lva (ix (.inr hva)) ⟨rfl, rfl, rfl, rfl, rfl⟩ hp J
  | goneP hx hva hd => exact rj_ldrop hva (hg rfl hva) hd ⟨rfl, rfl, rfl, rfl, rfl⟩ J
  | limbo q hx hq =>
    obtain ⟨hxm, hkx⟩ := pre (hx k)
    obtain ⟨hq1, hq2⟩ := pget_some hq
    have hqk := hs.run q hq1
    have hva : r.va.isSome = false := hr.kwo_pk q hqk (hq2 ▸ hkx)
    refine J.stay (cs := [(concile x q).withKind .ko]) hva (hg rfl hva) rfl rfl
      (pset_of_not_mem (hfresh (hx k))) (fun c hc => ?_) (fun hr => ?_)
    · cases List.mem_singleton.1 hc
      exact ⟨rfl, hxm, Or.inl (hq2 ▸ mem_names_of_mem hqk)⟩
    · exact ⟨_, List.mem_singleton_self _, rfl, by simp [hr]⟩
  | keepQ hx hq hva hvk =>
    obtain ⟨hxm, -⟩ := pre (hx k)
    refine J.advance (c := x) (by simp) (ix (.inr hva)) rfl
      (fun hf => by simpa using hf.append [] [x] []) ?_ (fun _ hb => nomatch hb)
    exact fun hr => Or.inr ⟨Or.inl (by simp [hr]), hxm⟩
  | own hx hq hva hvk =>
    obtain ⟨hxm, hkx⟩ := pre (hx k)
    refine J.stay (cs := [x.withKind .ko]) hva (hg rfl hva) rfl rfl (pset_of_not_mem (hfresh (hx k)))
      (fun c hc => ?_) (fun hr => ⟨_, List.mem_singleton_self _, rfl, hr⟩)
    cases List.mem_singleton.1 hc
    exact ⟨rfl, hxm, Or.inr hkx⟩
  | flushQ hx hq hva hvk =>
    refine J.advance (c := x.withKind .po) (by simp) (ix (.inr hva)) rfl
      (fun hf => by simpa using hf.flush [x.withKind .po]) ?_ (fun _ hb => nomatch hb)
    exact fun hr => Or.inl ⟨x.withKind .po, by simp, hr, rfl⟩
  | goneQ hx hq hva hvk hd => exact rj_ldrop hva (hg rfl hva) hd ⟨rfl, rfl, rfl, rfl, rfl⟩ J

theorem RJ.zstep {c : Nat} {xs ys xs' ys' : List Param} (k : K) (hl : RI ρ IsIn l) (hr : RI ρ IsIn r)
    (h : ZStep K l r xs ys st xs' ys' st1) (P : ZPos (l.pos ++ l.pok) (r.pos ++ r.pok) c xs ys) (hs : ZSub l r st)
    (hN : NInv (pkOf xs) (pkOf ys) st) (hk : Kept l r c st)
    (J : RJ ρ l r xs ys st) : RJ ρ l r xs' ys' st1 := by
  have both : ∀ {a b : Param} {xs ys : List Param}, ZPos (l.pos ++ l.pok) (r.pos ++ r.pok) c (a :: xs) (b :: ys) →
      ρ.ι a.name = mlen st ∧ ρ.ι b.name = mlen st := fun P =>
    ⟨P.idx hl hk (.inl (List.cons_ne_nil _ _)), P.flip.idx hr hk.flip (.inl (List.cons_ne_nil _ _))⟩
  induction h with
  | pair a c xs ys st ha hc hp => exact rj_p_pair ⟨rfl, rfl, rfl, rfl, rfl⟩ hp (both P).1 (both P).2 J
  | same a c xs ys st ha hc hn =>
    exact rj_q_match (st := st) hn ⟨rfl, rfl, rfl, rfl, rfl⟩
      (hl.bk.mem_pok P.mem (ha k)) (hr.bk.mem_pok P.flip.mem (hc k)) (both P).1 J
  | diff a c xs ys st ha hc hn =>
    exact rj_q_mis (a := a) (b := c) ⟨rfl, rfl, rfl, rfl, rfl⟩ (both P).1 (both P).2 J
  | left x xs ys ys' st st' h => exact J.zone k hl hr h hs hN.fresh_pk P hk
  | right x xs xs' ys st st' h =>
    exact (RJ.zone k hr hl h hs.flip hN.flip.fresh_pk P.flip hk.flip J.flip).flip

end SV
