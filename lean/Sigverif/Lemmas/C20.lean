/-
  Lemmas/C20.lean — the two loops of `bind_callsig` compute what `bindPos` / `bindKws` of the call semantics compute:
  `bcsPos` on a signature given by its buckets, `bcsKw` on a parameter list with unique names; `sort_callsigs` is a
  partition of the call signatures it is given.
-/
import Sigverif.Props.Defs
import Sigverif.Model.Support
import Sigverif.Lemmas.Core.Sort
import Sigverif.Lemmas.BindCall
namespace SV

theorem WF.nodup {s : List Param} (h : WF s) : (s.map (·.name)).Nodup :=
  List.nodup_iff_pairwise_ne.2 (List.pairwise_map.2 (((validOk_iff s).1 h.1).imp (fun h => h.2.2)))


theorem hasVk_eq_find (s : List Param) : (s.find? (fun p => p.kind = .vk)).isSome = hasVk s := by
  rw [Bool.eq_iff_iff]; simp [hasVk]

theorem Kind.rank_inj {k k' : Kind} : k.rank = k'.rank ↔ k = k' := by
  refine ⟨fun h => ?_, congrArg _⟩
  cases k <;> cases k' <;> first | rfl | exact absurd h (by decide)

theorem Kind.rank_le_four (k : Kind) : k.rank ≤ 4 := by
  cases k <;> decide

theorem bcsPos_positional (l rest : List Param) (hl : ∀ p ∈ l, isPositional p = true) (args : List Nat)
    (acc : List (Nat × Nat)) :
    bcsPos (l ++ rest) args acc =
      if args.drop l.length = [] then some (acc ++ posNamed l args, none)
      else bcsPos rest (args.drop l.length) (acc ++ posNamed l args) := by
  induction l generalizing args acc with
  | nil => cases args <;> simp [bcsPos, posNamed]
  | cons p l ih =>
    cases args with
    | nil => simp [bcsPos, posNamed]
    | cons a as =>
      rw [List.cons_append, bcsPos, if_pos (show (p.kind = .po || p.kind = .pk) = true from hl p (List.mem_cons_self ..)),
        ih (fun q hq => hl q (List.mem_cons_of_mem _ hq)), posNamed_cons]
      simp

theorem bcsPos_all {S : Sorted} (bk : BucketKinds S) (args : List Nat) (acc : List (Nat × Nat)) :
    bcsPos S.all args acc =
      if args.drop (S.pos ++ S.pok).length = [] then some (acc ++ posNamed (S.pos ++ S.pok) args, none)
      else S.va.map fun v =>
        (acc ++ posNamed (S.pos ++ S.pok) args, some (v.name, args.drop (S.pos ++ S.pok).length)) := by
  have hpp : ∀ p ∈ S.pos ++ S.pok, isPositional p = true := fun p hp =>
    (List.mem_filter.1 (show p ∈ positionals S.all from positionals_all bk ▸ hp)).2
  rw [Sorted.all, List.append_assoc (S.pos ++ S.pok), List.append_assoc (S.pos ++ S.pok), bcsPos_positional _ _ hpp]
  split
  · rfl
  · next h =>
    obtain ⟨a, as, e⟩ := List.exists_cons_of_ne_nil h
    rw [e]
    cases hva : S.va with
    | some v => simp [bcsPos, bk.va v hva]
    | none =>
      cases hk : S.kwo with
      | cons q _ => simp [bcsPos, bk.kwo q (hk ▸ List.mem_cons_self ..)]
      | nil =>
        cases hvk : S.vk with
        | none => simp [bcsPos]
        | some k => simp [bcsPos, bk.vk k hvk]

/-- names are unique, so whether `k` is a keyword name is read off the one parameter that bears it -/
theorem contains_kwNames {s : List Param} (hn : (s.map (·.name)).Nodup) (k : Nat) :
    (kwNames s).contains k = match s.find? (fun p => p.name = k) with
      | some p => p.kind = .pk || p.kind = .ko
      | none => false := by
  cases hf : s.find? (fun p => p.name = k) with
  | none =>
    refine Bool.eq_false_iff.2 (fun h => ?_)
    obtain ⟨p, hp, _, hpk⟩ := mem_kwNames.1 (List.contains_iff_mem.1 h)
    simpa [hpk] using List.find?_eq_none.1 hf p hp
  | some p =>
    have hps : p ∈ s := List.mem_of_find?_eq_some hf
    have hpk : p.name = k := by simpa using List.find?_some hf
    show (kwNames s).contains k = (decide (p.kind = .pk) || decide (p.kind = .ko))
    cases hk : (decide (p.kind = .pk) || decide (p.kind = .ko))
    · refine Bool.eq_false_iff.2 (fun h => ?_)
      obtain ⟨q, hq, hqk, hqn⟩ := mem_kwNames.1 (List.contains_iff_mem.1 h)
      cases eq_of_nodup_names hn hq hps (hqn.trans hpk.symm)
      rcases hqk with h | h <;> simp [h] at hk
    · exact List.contains_iff_mem.2 (mem_kwNames.2 ⟨p, hps, by simpa using hk, hpk⟩)

theorem bcsKw_eq (s : List Param) (hn : (s.map (·.name)).Nodup)
    (va : Option (Nat × List Nat)) (hva : ∀ x, va = some x → ∃ q ∈ s, q.kind = .vp ∧ q.name = x.1)
    (kwargs : List (Nat × Nat))
    (hvd : hasVk s = true → ∀ kv ∈ kwargs, ∀ p ∈ s, p.kind = .po → p.name ≠ kv.1)
    (assigned extra : List (Nat × Nat)) :
    bcsKw s (s.find? (fun p => p.kind = .vk)) kwargs assigned va extra
      = bindKws s (hasVk s) kwargs assigned extra := by
  induction kwargs generalizing assigned extra with
  | nil => simp [bcsKw, bindKws]
  | cons kv rest ih =>
    obtain ⟨k, v⟩ := kv
    have ih' := fun a e => ih (fun h kv hkv => hvd h kv (List.mem_cons_of_mem _ hkv)) a e
    unfold bcsKw bindKws
    simp only [contains_kwNames hn k, hasVk_eq_find, ih']
    cases hf : s.find? (fun p => p.name = k) with
    | none => simp
    | some p =>
      have hps : p ∈ s := List.mem_of_find?_eq_some hf
      have hpk : p.name = k := by simpa using List.find?_some hf
      simp only []
      by_cases hpo : p.kind = .po
      · -- CPython would put the keyword into `**kwargs`: the excluded case
        have hnvk : hasVk s = false :=
          Bool.eq_false_iff.2 (fun h => hvd h (k, v) List.mem_cons_self p hps hpo hpk)
        simp [hpo, hnvk]
      · rw [if_neg (by simpa using hpo)]
        by_cases hkk : (p.kind = .pk || p.kind = .ko) = true
        · -- `k` is not the name of a star parameter, which would be `p` itself
          have star : ∀ q ∈ s, q.name = k → q.kind ≠ .vp ∧ q.kind ≠ .vk := by
            intro q hq hqk
            cases eq_of_nodup_names hn hq hps (hqk.trans hpk.symm)
            constructor <;> intro h <;> simp [h] at hkk
          have h1 : ¬ va.map (·.1) = some k := by
            intro h
            obtain ⟨x, hx, hxk⟩ := Option.map_eq_some_iff.1 h
            obtain ⟨q, hq, hqk, hqn⟩ := hva x hx
            exact (star q hq (hqn.trans hxk)).1 hqk
          have h2 : ¬ (s.find? (fun p => p.kind = .vk)).map (·.name) = some k := by
            intro h
            obtain ⟨q, hq, hqn⟩ := Option.map_eq_some_iff.1 h
            exact (star q (List.mem_of_find?_eq_some hq) hqn).2 (by simpa using List.find?_some hq)
          simp [hkk, h1, h2]
        · simp [hkk]

theorem foldl_partition {α β : Type} (g : α → Option β) (f : List β × List α → α → List β × List α)
    (hs : ∀ acc c b, g c = some b → f acc c = (acc.1 ++ [b], acc.2))
    (hn : ∀ acc c, g c = none → f acc c = (acc.1, acc.2 ++ [c]))
    (cs : List α) (acc : List β × List α) :
    cs.foldl f acc = (acc.1 ++ cs.filterMap g, acc.2 ++ cs.filter (fun c => (g c).isNone)) := by
  induction cs generalizing acc with
  | nil => simp
  | cons c cs ih =>
    rw [List.foldl_cons, ih]
    cases h : g c with
    | none => simp [hn acc c h, h]
    | some b => simp [hs acc c b h, h]

theorem sortCallsigs_eq (s : List Param) (cs : List (List Nat × List (Nat × Nat))) :
    sortCallsigs s cs =
      (cs.filterMap (fun c => (bindCallsig s c.1 c.2).map (fun b => (c.1, c.2, b))),
       cs.filter (fun c => (bindCallsig s c.1 c.2).isNone)) := by
  unfold sortCallsigs
  refine (foldl_partition (fun c => (bindCallsig s c.1 c.2).map (fun b => (c.1, c.2, b))) _ ?_ ?_
    cs ([], [])).trans ?_
  · intro acc c b h
    cases h' : bindCallsig s c.1 c.2 <;> simp [h'] at h ⊢
    exact h
  · intro acc c h
    cases h' : bindCallsig s c.1 c.2 <;> simp [h'] at h ⊢
  · simp

theorem filterMap_filter_length {α β : Type} (f : α → Option β) (l : List α) :
    (l.filterMap f).length + (l.filter (fun a => (f a).isNone)).length = l.length := by
  induction l with
  | nil => rfl
  | cons a l ih =>
    cases h : f a <;> simp [h] <;> omega

theorem mem_sublists {l K : List Nat} : K ∈ sublists l ↔ K.Sublist l := by
  induction l generalizing K with
  | nil => simp [sublists]
  | cons x xs ih =>
    simp only [sublists, List.mem_append, List.mem_map, ih]
    constructor
    · rintro (h | ⟨K', h, rfl⟩)
      · exact h.cons _
      · exact h.cons_cons _
    · intro h
      cases h with
      | cons _ h => exact Or.inl h
      | cons_cons _ h => exact Or.inr ⟨_, h, rfl⟩

theorem filter_isNamed_po (s : List Param) :
    (s.filter isNamed).filter (fun p => p.kind = .po) = s.filter (fun p => p.kind = .po) := by
  rw [List.filter_filter]
  congr 1
  funext p
  cases h : p.kind <;> simp [isNamed, h]

end SV
