/-
  Lemmas/ResultWF.lean — every result of merge / embed / forwards is a well-formed signature in
  the sense of `WF` (valid order, unique names, defaults form a suffix, at most one `*` and one
  `**` parameter), for any number of inputs.
-/
import Sigverif.Lemmas.Core.Accepts
import Sigverif.Lemmas.C02Fold
import Sigverif.Lemmas.LawsKinds
import Sigverif.Lemmas.C04Partial
namespace SV

theorem applyParams_wf {sig : USig} {s : Sorted} {R : USig} (bk : BucketKinds s)
    (h : applyParams sig s = .ok R) : WF R.params := by
  obtain ⟨hv, rfl⟩ := applyParams_ok sig s R h
  exact (SWF.of_validate bk hv).wf

theorem mergeFold_kinds (acc r : Sorted) (ss : List USig) (hacc : BucketKinds acc)
    (h : mergeFold acc ss = .ok r) : BucketKinds r :=
  mergeFold_inv (fun _ _ s _ hl hm => mergeStep_bk _ _ _ hl (sortParams_bk s) hm) hacc h

theorem merge_result_wf (ss : List USig) (R : USig) (h : merge ss = .ok R) : WF R.params := by
  obtain ⟨s, _, r, -, hfold, h⟩ := merge_inv h
  exact applyParams_wf (mergeFold_kinds _ _ _ (sortParams_bk s) hfold) h

theorem embedFold_kinds (uva uvk : Bool) (acc r : Sorted) (n : Nat) (ss : List USig) (hacc : BucketKinds acc)
    (h : embedFold uva uvk acc n ss = .ok r) : BucketKinds r :=
  embedFold_inv (fun _ _ s _ _ hl hm => embedStep_kinds hl (sortParams_bk s) hm) hacc h

theorem embed_result_wf (uva uvk : Bool) (ss : List USig) (R : USig) (h : embed uva uvk ss = .ok R) :
    WF R.params := by
  obtain ⟨s, _, r, -, hfold, h⟩ := embed_inv h
  exact applyParams_wf (embedFold_kinds uva uvk _ _ _ _ (sortParams_bk s) hfold) h

/-- `forwards` is an `embed` of the outer signature with *some* well-formed signature (the masked
    inner one, with defaults everywhere when `partial=True`), whatever the flags -/
theorem forwards_ok_embed (o i R : USig) (n : Nat) (nms : List Nat) (ha hk uva uvk pt : Bool)
    (hi : WF i.params) (h : forwards o i n nms ha hk uva uvk pt = .ok R) :
    ∃ M, WF M.params ∧ embed uva uvk [o, M] = .ok R := by
  obtain ⟨i', M, hi', -, -, -, hM, hE⟩ := forwards_ok pt hi h
  exact ⟨M, mask_wf i' M n nms _ hi' hM, hE⟩

theorem forwards_result_wf (o i R : USig) (n : Nat) (nms : List Nat) (ha hk uva uvk pt : Bool)
    (hi : WF i.params) (h : forwards o i n nms ha hk uva uvk pt = .ok R) : WF R.params := by
  obtain ⟨M, -, hE⟩ := forwards_ok_embed o i R n nms ha hk uva uvk pt hi h
  exact embed_result_wf uva uvk _ R hE

end SV
