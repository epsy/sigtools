/-
  Lemmas/ParamRelMask.lean — `_mask` (plain and partial mode) and `forwards` on related inputs.
  `_mask` locates a positional-or-keyword parameter by *equality of parameters* (`list.index`), which
  no relation between parameters respects; but the parameter looked for is always the FIRST one of
  its name among those still positional-or-keyword (a name consumed positionally is rejected before
  the lookup: `KCons`), so both runs find the same index.  No hypothesis on the input signature is needed.
-/
import Sigverif.Lemmas.ParamRel
import Sigverif.Lemmas.C03Mask
namespace SV

def KCons (st : KState) : Prop := ∀ name, name ∉ st.consumed → pget st.byName name = pget st.pok name

theorem maskName_KCons (vk : Option Param) (st : KState) (name : Nat) (pv : Option (Nat × Nat))
    (hinj : KCons st) : OkAll KCons (maskName vk st name pv) := by
  -- a step that leaves `pok` and `byName` alone only consumes one more name
  have keep : ∀ kwo src, KCons { st with kwo := kwo, src := src, consumed := st.consumed ++ [name] } :=
    fun _ _ x hx => hinj x fun hm => hx (List.mem_append_left _ hm)
  fun_cases maskName vk st name pv
  · exact .error
  · exact .error
  · exact .ok fun _ _ => rfl
  · exact .ok (keep _ _)
  · exact .ok (keep _ _)
  · exact .error
  · exact .ok (keep _ _)
  · exact .ok (keep _ _)
  · exact .ok (keep _ _)

theorem pget_drop_of_not_mem (l : List Param) (k : Nat) (name : Nat) (h : name ∉ names (l.take k)) :
    pget (l.drop k) name = pget l name := by
  induction l generalizing k with
  | nil => simp
  | cons q t ih =>
    cases k with
    | zero => rfl
    | succ k =>
      simp only [List.take_succ_cons, names, List.map_cons, List.mem_cons, not_or] at h
      simp only [List.drop_succ_cons]
      rw [ih k h.2]
      simp only [pget, List.find?_cons]
      have : ¬ q.name = name := fun e => h.1 e.symm
      simp only [this, decide_false]

theorem initState_KCons (s : Sorted) (n : Nat) (h : HideFlags) (hk : h.kwargs = false) :
    OkAll (fun x => KCons (initState s h x.1 x.2.2)) (prelude s n h) := by
  have hinit : ∀ c pok, (initState s h c pok).pok = pok := fun c pok => by
    simp only [initState, hk, Bool.false_eq_true, if_false]
  rw [prelude_eq]
  refine .ite (.ok ?_) (.ite .error (.ok ?_))
  · intro name hname
    rw [hinit]
    simp only [initState, List.mem_append, not_or] at hname
    exact pget_eq_none.2 hname.2
  · intro name hname
    rw [hinit]
    refine (pget_drop_of_not_mem _ _ _ fun hm => hname ?_).symm
    simp only [initState, List.take_append, names_append, List.mem_append]
    exact .inr hm

section
variable {R : Param → Param → Prop} {G G' : Option Nat × UAnn → Option Nat × UAnn → Prop}

theorem indexOf_rel (hR : ParamRel0 R) {ps ps' : List Param} (h : LRel R ps ps') {n : Nat} {bp bp' : Param}
    (hb : pget ps n = some bp) (hb' : pget ps' n = some bp') : indexOf? ps' bp' = indexOf? ps bp := by
  induction h with
  | nil => cases hb
  | @cons a a' _ _ x _ ih =>
    have e := (pget_some hb).2
    have e' := (pget_some hb').2
    simp only [pget, List.find?_cons] at hb hb' ih
    simp only [indexOf?]
    by_cases hq : a.name = n
    · rw [hR.name x] at hb'
      simp only [hq, decide_true, Option.some.injEq] at hb hb'
      subst hb hb'
      simp only [if_true]
    · rw [hR.name x] at hb'
      simp only [hq, decide_false] at hb hb'
      rw [if_neg fun k => hq (by rw [← hR.name x, k, e']), if_neg fun k => hq (by rw [k, e]), ih hb hb']

theorem srcVa_rel (hR : ParamRel0 R) {va va' : Option Param} (h : Option.Rel R va va') (s : Srcs) :
    srcVa va s = srcVa va' s := by
  cases h with
  | none => rfl
  | some h => simp only [srcVa, hR.name h]

theorem starNamed_rel (hR : ParamRel0 R) {va va' vk vk' : Option Param} (h : Option.Rel R va va')
    (k : Option.Rel R vk vk') (n : Nat) : starNamed va' vk' n = starNamed va vk n := by
  cases h with
  | none => cases k with
    | none => rfl
    | some k => simp only [starNamed, hR.name k]
  | some h => cases k with
    | none => simp only [starNamed, hR.name h]
    | some k => simp only [starNamed, hR.name h, hR.name k]

structure KRel (R : Param → Param → Prop) (st st' : KState) : Prop where
  pok : LRel R st.pok st'.pok
  va : Option.Rel R st.va st'.va
  kwo : LRel R st.kwo st'.kwo
  src : st.src = st'.src
  consumed : st.consumed = st'.consumed
  byName : LRel R st.byName st'.byName

/-- partial mode creates a keyword-only parameter `name=value` -/
def FreshR (R : Param → Param → Prop) : Prop :=
  ∀ n v, R { name := n, kind := .ko, dflt := some v } { name := n, kind := .ko, dflt := some v }

theorem maskName_rel (hR : ParamRel0 R) {vk vk' : Option Param} (hvk : Option.Rel R vk vk') {st st' : KState}
    (hst : KRel R st st') (hc : KCons st) (hc' : KCons st') (name : Nat) (pv : Option (Nat × Nat))
    (hfresh : pv ≠ none → FreshR R) :
    ERel (KRel R) (maskName vk st name pv) (maskName vk' st' name pv) := by
  obtain ⟨pok, va, kwo, src, consumed, byName⟩ := st
  obtain ⟨pok', va', kwo', src', consumed', byName'⟩ := st'
  obtain ⟨hpok, hva, hkwo, hsrc, hcons, hby⟩ := hst
  dsimp only at hpok hva hkwo hsrc hcons hby
  subst hsrc hcons
  by_cases hn : consumed.contains name = true
  · unfold maskName; rw [if_pos hn, if_pos hn]; exact .error _
  have hn' : name ∉ consumed := fun hm => hn (by simpa using hm)
  unfold maskName
  rw [if_neg hn, if_neg hn]
  refine orel_match (ρ := ERel (KRel R)) (pget_rel hR hby name) (fun bp bp' e e' hb => ?_)
    (orel_match (ρ := ERel (KRel R)) (pget_rel hR hkwo name) (fun q q' _ _ hq => ?_) ?_)
  · -- a positional-or-keyword parameter: both runs find it at the same index
    dsimp only
    rw [indexOf_rel hR hpok ((hc name hn').symm.trans e) ((hc' name hn').symm.trans e')]
    cases indexOf? pok bp with
    | none => exact .error _
    | some i =>
      have hconv := pupdate_rel hR hkwo ((hpok.drop (i + 1)).map (hR.withKind .ko))
      rcases pv with _ | ⟨v, o⟩
      · exact .ok ⟨hpok.take i, .none, hconv, srcVa_rel hR hva _, rfl, hpok.take i⟩
      · exact .ok ⟨hpok.take i, .none, pset_rel hR hconv (hR.withDflt _ (hR.withKind _ (hpok.getD hb i))),
          srcVa_rel hR hva _, rfl, hpok.take i⟩
  · rcases pv with _ | ⟨v, o⟩
    · exact .ok ⟨hpok, hva, ppop_rel hR hkwo _, rfl, rfl, hby⟩
    · exact .ok ⟨hpok, hva, pset_rel hR hkwo (hR.withDflt _ (hR.withKind _ hq)), rfl, rfl, hby⟩
  · rw [orel_isNone hvk]
    refine .ite_same (.error _) ?_
    rcases pv with _ | ⟨v, o⟩
    · exact .ok ⟨hpok, hva, hkwo, rfl, rfl, hby⟩
    · rw [starNamed_rel hR hva hvk]
      exact .ite_same (.ok ⟨hpok, hva, hkwo, rfl, rfl, hby⟩)
        (.ok ⟨hpok, hva, pset_rel hR hkwo (hfresh (Option.some_ne_none _) _ _), rfl, rfl, hby⟩)

theorem maskNames_rel (hR : ParamRel0 R) {vk vk' : Option Param} (hvk : Option.Rel R vk vk') {st st' : KState}
    (hst : KRel R st st') (nms : List (Nat × Option (Nat × Nat))) (hc : nms ≠ [] → KCons st)
    (hc' : nms ≠ [] → KCons st') (hfresh : (∃ x ∈ nms, x.2 ≠ none) → FreshR R) :
    ERel (KRel R) (maskNames vk st nms) (maskNames vk' st' nms) := by
  induction nms generalizing st st' with
  | nil => exact .ok hst
  | cons x t ih =>
    obtain ⟨n, pv⟩ := x
    have hc := hc (List.cons_ne_nil _ _)
    have hc' := hc' (List.cons_ne_nil _ _)
    rw [maskNames, maskNames]
    exact (maskName_rel hR hvk hst hc hc' n pv fun h => hfresh ⟨_, List.mem_cons_self, h⟩).bind_eq
      fun st1 st1' e e' k => ih k (fun _ => maskName_KCons vk st n pv hc st1 e)
        (fun _ => maskName_KCons vk' st' n pv hc' st1' e')
        (fun ⟨y, hy, h⟩ => hfresh ⟨y, List.mem_cons_of_mem _ hy, h⟩)

def PreRel (R : Param → Param → Prop) (x y : List Nat × List Param × List Param) : Prop :=
  y.1 = x.1 ∧ LRel R x.2.1 y.2.1 ∧ LRel R x.2.2 y.2.2

theorem prelude_rel (hR : ParamRel0 R) {s s' : Sorted} (hs : SRel R s s') (n : Nat) (h : HideFlags) :
    ERel (PreRel R) (prelude s n h) (prelude s' n h) := by
  rw [prelude_eq, prelude_eq, names_rel hR hs.pos, names_rel hR hs.pok, hs.pos.length, hs.pok.length]
  refine .ite_same (.ok ⟨rfl, .nil, .nil⟩) (.ite ?_ (.error _)
    (.ok ⟨names_rel hR ((hs.pos.append hs.pok).take n), hs.pos.drop n, hs.pok.drop _⟩))
  have := hs.va
  generalize s.va = a, s'.va = a' at this
  cases this <;> simp only [reduceCtorEq]

theorem initState_rel (hR : ParamRel0 R) {s s' : Sorted} (hs : SRel R s s') (h : HideFlags) (c : List Nat)
    {pok pok' : List Param} (hpok : LRel R pok pok') : KRel R (initState s h c pok) (initState s' h c pok') := by
  unfold initState
  simp only [hs.src, names_rel hR hpok, names_rel hR hs.kwo, ← srcVa_rel hR hs.va]
  exact ⟨lrel_ite _ .nil hpok, orel_ite _ .none hs.va, lrel_ite _ .nil hs.kwo, rfl, rfl, hs.pok⟩

theorem maskCore_rel (hR : ParamRel0 R) {sig sig' : USig} (hsig : SigRel R G sig sig') (n : Nat) (h : HideFlags)
    (named : List (Nat × Nat)) (pobj : Option Nat) (hfresh : pobj ≠ none → FreshR R) :
    ERel (SigRel R G) (maskCore sig n h named pobj) (maskCore sig' n h named pobj) := by
  have hs := sortParams_rel hR hsig
  have kc : ∀ s : Sorted, ∀ x, prelude s n h = .ok x →
      loopNames (if h.kwargs then [] else named) pobj ≠ [] → KCons (initState s h x.1 x.2.2) := by
    intro s x e hne
    cases hk : h.kwargs with
    | true => rw [hk] at hne; exact absurd rfl hne
    | false => exact initState_KCons s n h hk x e
  rw [maskCore_phases, maskCore_phases]
  refine (prelude_rel hR hs n h).bind_eq fun (c, pos, pok) (c', pos', pok') e e' k => ?_
  obtain ⟨rfl, kpos, kpok⟩ := k
  refine (maskNames_rel hR hs.vk (initState_rel hR hs h _ kpok) _ (kc _ _ e) (kc _ _ e')
    fun hx => hfresh (loopNames_some hx)).bind fun st st' k => ?_
  refine applyParams_rel hR hsig ⟨kpos, k.pok, k.va, k.kwo, ?_, ?_, ?_⟩
  · show Option.Rel R (finalVk _ h) (finalVk _ h)
    unfold finalVk; split; exact .none; exact hs.vk
  · show finalSrc _ h st' = finalSrc _ h st
    unfold finalSrc; rw [← k.src, ← srcVa_rel hR hs.vk]
  · show (match pobj with | some o => _ | none => _) = (match pobj with | some o => _ | none => _)
    rw [hs.depths]

theorem partialParams_rel (hR : ParamRel0 R) {ps ps' : List Param} (h : LRel R ps ps') :
    LRel R (partialParams ps) (partialParams ps') := by
  induction h with
  | nil => exact .nil
  | cons x _ ih =>
    refine .cons ?_ ih
    dsimp only
    rw [hR.kind x]
    split
    · exact x
    · exact hR.withDflt _ x

theorem forwardsInner_rel (hR : ParamRel0 R) {i i' : USig} (hi : SigRel R G i i') (part : Bool) :
    ERel (SigRel R G) (forwardsInner i part) (forwardsInner i' part) := by
  unfold forwardsInner validate
  rw [validateGo_rel hR (partialParams_rel hR hi.params)]
  exact .ite_same (.bind_same fun _ => .ok ⟨partialParams_rel hR hi.params, hi.src, hi.depths, hi.ret⟩) (.ok hi)

theorem forwards_rel (hR : ParamRel R) {outer outer' inner inner' : USig} (ho : SigRel R G outer outer')
    (hi : SigRel R G' inner inner') (n : Nat) (nms : List Nat) (ha hk uva uvk part : Bool) :
    ERel (SigRel R G) (forwards outer inner n nms ha hk uva uvk part)
      (forwards outer' inner' n nms ha hk uva uvk part) := by
  rw [forwards_eq, forwards_eq]
  exact (forwardsInner_rel hR.1 hi part).bind fun _ _ ki =>
    (maskCore_rel hR.1 ki n _ _ none fun h => absurd rfl h).bind fun _ _ km =>
      embed_rel hR uva uvk ho (.cons ⟨km.params, km.src, km.depths, trivial⟩ .nil)

end
end SV
