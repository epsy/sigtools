/-
  Lemmas/LawsDflt.lean — a merge step of any two operands never puts a required positional parameter after an
  optional one; `IDf` is the invariant along the run (`WStep`).
-/
import Sigverif.Lemmas.MergeStep
import Sigverif.Lemmas.Core.Validate
namespace SV

def flags (ps : List Param) : List Bool := ps.map (·.dflt.isSome)

def Fl (b : Bk) : List Bool := flags (b.pos ++ b.pok)

def mono (f : List Bool) : Prop := f.Pairwise (fun a b => a = true → b = true)

theorem mono_flags_iff {ps : List Param} : mono (flags ps) ↔ ps.Pairwise DF :=
  List.pairwise_map

theorem mono.head {F X : List Bool} {a : Bool} (h : mono (F ++ a :: X)) : ∀ f ∈ F, f = true → a = true :=
  fun f hf => (List.pairwise_append.1 h).2.2 f hf a List.mem_cons_self

theorem mono.drop {F X : List Bool} {a : Bool} (h : mono (F ++ a :: X)) : mono (F ++ X) :=
  h.sublist ((List.Sublist.refl F).append (List.sublist_cons_self a X))

theorem mono.mid {F X : List Bool} {a e : Bool} (h : mono (F ++ a :: X)) (h1 : ∀ f ∈ F, f = true → e = true)
    (h2 : e = true → a = true) : mono (F ++ e :: X) := by
  unfold mono at *
  rw [List.pairwise_append, List.pairwise_cons] at *
  obtain ⟨hF, ⟨haX, hX⟩, hFX⟩ := h
  refine ⟨hF, ⟨fun x hx he => haX x hx (h2 he), hX⟩, fun f hf y hy => ?_⟩
  rcases List.mem_cons.1 hy with rfl | hy
  · exact h1 f hf
  · exact hFX f hf y (List.mem_cons_of_mem _ hy)

theorem Fl_put {K : Prop} {e : Param} {b b' : Bk} (h : Put K e b b') :
    Fl b' = Fl b ++ [e.dflt.isSome] ∨ Fl b' = Fl b := by
  induction h with
  | pos hp => left; simp [Fl, flags, hp]
  | pok => left; simp [Fl, flags]
  | kwo => right; rfl
  | flush => left; simp [Fl, flags, Function.comp_def]

/-- the head `a` of a chain leaves it and `e` joins the buckets -/
theorem Put.mono {K : Prop} {e : Param} {b b' : Bk} (ha : Put K e b b') {a : Bool} {X : List Bool}
    (h : mono (Fl b ++ a :: X)) (h1 : ∀ f ∈ Fl b, f = true → e.dflt.isSome = true)
    (h2 : e.dflt.isSome = true → a = true) : mono (Fl b' ++ X) := by
  rcases Fl_put ha with hf | hf <;> rw [hf]
  · rw [List.append_assoc]; exact h.mid h1 h2
  · exact h.drop

/-- the result so far followed by what either chain has still to hand over has its defaults in order -/
def IDf (xs ys : List Param) (b : Bk) : Prop := mono (Fl b ++ flags xs) ∧ mono (Fl b ++ flags ys)

theorem mono.left {F X : List Bool} (h : mono (F ++ X)) : mono F := (List.pairwise_append.1 h).1

theorem mono.nil_right {F X : List Bool} (h : mono (F ++ X)) : mono (F ++ flags []) :=
  (List.append_nil F).symm ▸ h.left

theorem IDf_both {K : Prop} {lp rp e : Param} {xs ys : List Param} {b b' : Bk} (ha : Put K e b b')
    (hd : e.dflt.isSome = (lp.dflt.isSome && rp.dflt.isSome)) (hi : IDf (lp :: xs) (rp :: ys) b) :
    IDf xs ys b' := by
  have h1 : ∀ f ∈ Fl b, f = true → e.dflt.isSome = true := fun f hf ht => by
    have a1 : lp.dflt.isSome = true := hi.1.head f hf ht
    have a2 : rp.dflt.isSome = true := hi.2.head f hf ht
    rw [hd, a1, a2]; rfl
  have h2 : e.dflt.isSome = true → lp.dflt.isSome = true ∧ rp.dflt.isSome = true := fun he => by
    rwa [hd, Bool.and_eq_true] at he
  exact ⟨ha.mono hi.1 h1 fun he => (h2 he).1, ha.mono hi.2 h1 fun he => (h2 he).2⟩

theorem IDf_step {K : Prop} {l r : Sorted} (xs ys : List Param) (st : MState) (xs' ys' : List Param)
    (st' : MState) (hs : MStep K l r xs ys st xs' ys' st') (hi : IDf xs ys st.bk) : IDf xs' ys' st'.bk := by
  induction hs with
  | both lp rp e xs ys st b' _ hm _ _ ha =>
    exact IDf_both ha ((congrArg Option.isSome hm.dflt).trans (concile_dflt_isSome lp rp)) hi
  | bothR lp rp e xs ys st b' _ _ hm _ ha =>
    exact IDf_both ha ((congrArg Option.isSome hm.dflt).trans
      ((concile_dflt_isSome rp lp).trans (Bool.and_comm _ _))) hi
  | left lp e xs st b' _ hm _ _ ha =>
    have := ha.mono hi.1 (hm.dflt ▸ hi.1.head) (hm.dflt ▸ id)
    exact ⟨this, this.nil_right⟩
  | leftDrop lp xs st hd | leftLimbo lp q e xs st hq => exact ⟨hi.1.drop, hi.2⟩
  | right rp e ys st b' _ hm _ _ ha =>
    have := ha.mono hi.2 (hm.dflt ▸ hi.2.head) (hm.dflt ▸ id)
    exact ⟨this.nil_right, this⟩
  | rightDrop rp ys st hd | rightLimbo rp q e ys st hq => exact ⟨hi.1, hi.2.drop⟩

theorem IDf_wstep {K : Prop} {l r : Sorted} (xs ys : List Param) (c : WState) (xs' ys' : List Param)
    (c' : WState) (s : WStep K l r xs ys c xs' ys' c') (hi : IDf xs ys c.st.bk) : IDf xs' ys' c'.st.bk := by
  induction s with
  | pq s => exact IDf_step _ _ _ _ _ _ s hi
  | _ => exact hi

theorem mergeStep_df {l r m : Sorted} (hl : (l.pos ++ l.pok).Pairwise DF) (hr : (r.pos ++ r.pok).Pairwise DF)
    (h : mergeStep l r = .ok m) : (m.pos ++ m.pok).Pairwise DF := by
  obtain ⟨st, run, rfl⟩ := mergeStep_runs (K := False) False.elim h
  exact mono_flags_iff.1 (Runs.inv (fun xs ys (c : WState) => IDf xs ys c.st.bk) IDf_wstep run
    ⟨mono_flags_iff.2 hl, mono_flags_iff.2 hr⟩).1.left

end SV
