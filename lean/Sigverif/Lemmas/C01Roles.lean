/-
  Lemmas/C01Roles.lean — role assignments (kind and positional index of every name) and the
  invariant `RI` of the intermediate records of `merge` on role-consistent inputs.
-/
import Sigverif.Lemmas.C01Step
namespace SV

structure Roles where
  κ : Nat → Kind
  ι : Nat → Nat

variable (ρ : Roles)

def IdxOK (off : Nat) : List Param → Prop
  | [] => True
  | p :: t => ρ.ι p.name = off ∧ IdxOK (off + 1) t

@[simp] theorem IdxOK_nil (off : Nat) : IdxOK ρ off [] ↔ True := Iff.rfl
@[simp] theorem IdxOK_cons (off : Nat) (p : Param) (t : List Param) :
    IdxOK ρ off (p :: t) ↔ ρ.ι p.name = off ∧ IdxOK ρ (off + 1) t := Iff.rfl

theorem IdxOK_append (off : Nat) (a b : List Param) :
    IdxOK ρ off (a ++ b) ↔ IdxOK ρ off a ∧ IdxOK ρ (off + a.length) b := by
  induction a generalizing off with
  | nil => simp
  | cons p t ih =>
    simp only [List.cons_append, IdxOK_cons, ih, List.length_cons]
    have : off + 1 + t.length = off + (t.length + 1) := by omega
    rw [this]
    constructor
    · rintro ⟨h1, h2, h3⟩; exact ⟨⟨h1, h2⟩, h3⟩
    · rintro ⟨⟨h1, h2⟩, h3⟩; exact ⟨h1, h2, h3⟩

theorem IdxOK_congr (off : Nat) {ps qs : List Param} (h : names ps = names qs) :
    IdxOK ρ off ps ↔ IdxOK ρ off qs := by
  induction ps generalizing qs off with
  | nil =>
    cases qs with
    | nil => rfl
    | cons q t => cases h
  | cons p t ih =>
    cases qs with
    | nil => cases h
    | cons q u =>
      rw [names_cons, names_cons] at h
      obtain ⟨hn, ht⟩ := List.cons.inj h
      rw [IdxOK_cons, IdxOK_cons, hn, ih (off + 1) ht]

theorem IdxOK_getElem {off : Nat} {ps : List Param} (h : IdxOK ρ off ps) :
    ∀ i p, ps[i]? = some p → ρ.ι p.name = off + i := by
  induction ps generalizing off with
  | nil => simp
  | cons a t ih =>
    intro i p hp
    cases i with
    | zero => simp at hp; subst hp; exact h.1
    | succ i =>
      simp at hp
      have := ih h.2 i p hp
      omega

theorem IdxOK_at {ps : List Param} (h : IdxOK ρ 0 ps) {p : Param} (hp : p ∈ ps) : ps[ρ.ι p.name]? = some p := by
  obtain ⟨i, hi⟩ := List.getElem?_of_mem hp
  rwa [IdxOK_getElem ρ h i p hi, Nat.zero_add]

theorem IdxOK_of_getElem {off : Nat} {ps : List Param}
    (h : ∀ i p, ps[i]? = some p → ρ.ι p.name = off + i) : IdxOK ρ off ps := by
  induction ps generalizing off with
  | nil => trivial
  | cons a t ih =>
    refine ⟨by simpa using h 0 a (by simp), ih ?_⟩
    intro i p hp
    have := h (i + 1) p (by simpa using hp)
    omega

theorem IdxOK_lb {off : Nat} {ps : List Param} (h : IdxOK ρ off ps) :
    ∀ p ∈ ps, off ≤ ρ.ι p.name := by
  intro p hp
  obtain ⟨i, hi⟩ := List.getElem?_of_mem hp
  have := IdxOK_getElem ρ h i p hi
  omega

theorem IdxOK_ub {off : Nat} {ps : List Param} (h : IdxOK ρ off ps) :
    ∀ p ∈ ps, ρ.ι p.name < off + ps.length := by
  intro p hp
  obtain ⟨i, hi⟩ := List.getElem?_of_mem hp
  have := IdxOK_getElem ρ h i p hi
  have := (List.getElem?_eq_some_iff.1 hi).1
  omega

theorem IdxOK_mem_take {off : Nat} {ps : List Param} (h : IdxOK ρ off ps) {n : Nat} {p : Param}
    (hp : p ∈ ps.take n) : ρ.ι p.name < off + n := by
  rw [← List.take_append_drop n ps, IdxOK_append] at h
  have := IdxOK_ub ρ h.1 p hp
  have := List.length_take_le n ps
  omega

structure RI (IsIn : Nat → Prop) (M : Sorted) : Prop where
  bk : BucketKinds M
  kw : KwInv M
  isin : ∀ p, p ∈ M.pos ∨ p ∈ M.pok ∨ p ∈ M.kwo → IsIn p.name
  idx : IdxOK ρ 0 (M.pos ++ M.pok)
  kpos : ∀ p ∈ M.pos, ρ.κ p.name = .po ∨ ρ.κ p.name = .pk
  kpok : ∀ p ∈ M.pok, ρ.κ p.name = .pk
  kkwo : ∀ p ∈ M.kwo, ρ.κ p.name = .ko ∨
    (ρ.κ p.name = .pk ∧ M.va.isSome = false ∧ M.pos.length + M.pok.length ≤ ρ.ι p.name)

/-- what became of a required positional parameter `p` of one operand -/
def Fate (pos pok kwo own : List Param) (p : Param) : Prop :=
  (∃ c ∈ pos, c.required = true ∧ ρ.ι c.name = ρ.ι p.name) ∨
  ((hasReq pok p.name ∨ hasReq kwo p.name) ∧ p ∈ own)

section
variable {ρ : Roles} {IsIn : Nat → Prop} {M : Sorted}

theorem IdxOK.nodup {off : Nat} {ps : List Param} (h : IdxOK ρ off ps) : (names ps).Nodup := by
  induction ps generalizing off with
  | nil => exact List.nodup_nil
  | cons p t ih =>
    refine List.nodup_cons.2 ⟨fun hm => ?_, ih h.2⟩
    obtain ⟨q, hq, hqn⟩ := mem_names.1 hm
    have := IdxOK_lb ρ h.2 q hq
    rw [hqn, h.1] at this
    omega

/-- the role kinds of the star parameters (the part of the role invariant `RI` does not speak of) -/
structure SK (ρ : Roles) (M : Sorted) : Prop where
  va : ∀ p, M.va = some p → ρ.κ p.name = .vp
  vk : ∀ p, M.vk = some p → ρ.κ p.name = .vk

theorem RI.pp_role (h : RI ρ IsIn M) {p : Param} (hp : p ∈ M.pos ∨ p ∈ M.pok) :
    (ρ.κ p.name = .po ∨ ρ.κ p.name = .pk) ∧ ρ.ι p.name < M.pos.length + M.pok.length := by
  have hi := IdxOK_ub ρ h.idx p (List.mem_append.2 hp)
  rw [List.length_append, Nat.zero_add] at hi
  exact ⟨hp.elim (h.kpos p) fun hp => .inr (h.kpok p hp), hi⟩

theorem RI.kwo_beyond (h : RI ρ IsIn M) {c : Param} (hc : c ∈ M.kwo) (hκ : ρ.κ c.name = .po ∨ ρ.κ c.name = .pk)
    {n : Nat} (hn : n ≤ M.pos.length + M.pok.length ∨ M.va.isSome = true) : n ≤ ρ.ι c.name := by
  rcases h.kkwo c hc with h' | ⟨-, h2, h3⟩
  · rw [h'] at hκ; rcases hκ with h | h <;> cases h
  · exact hn.elim (Nat.le_trans · h3) fun h => nomatch h2.symm.trans h

theorem RI.kwo_disj (h : RI ρ IsIn M) {q c : Param} (hq : q ∈ M.pos ∨ q ∈ M.pok) (hc : c ∈ M.kwo) :
    q.name ≠ c.name := by
  intro e
  obtain ⟨hk, hi⟩ := h.pp_role hq
  rw [e] at hk hi
  exact Nat.lt_irrefl _ (Nat.lt_of_lt_of_le hi (h.kwo_beyond hc hk (.inl (Nat.le_refl _))))

theorem RI.named_kind (h : RI ρ IsIn M) {p : Param} (hp : (p ∈ M.pos ∨ p ∈ M.pok) ∨ p ∈ M.kwo) :
    ρ.κ p.name = .po ∨ ρ.κ p.name = .pk ∨ ρ.κ p.name = .ko := by
  rcases hp with hp | hp
  · exact (h.pp_role hp).1.elim .inl fun h => .inr (.inl h)
  · exact (h.kkwo p hp).elim (fun h => .inr (.inr h)) fun h => .inr (.inl h.1)

/-- under the role invariant no name occurs twice: positional parameters by their role indices, keyword-only ones
    against them by role kind or index, the star parameters by role kind -/
theorem RI.nodup_all (h : RI ρ IsIn M) (hs : SK ρ M) : (names M.all).Nodup := by
  have star : ∀ {v p : Param} {k : Kind}, ρ.κ v.name = k → (k = .vp ∨ k = .vk) →
      ((p ∈ M.pos ∨ p ∈ M.pok) ∨ p ∈ M.kwo) → p.name ≠ v.name := by
    intro v p k hv hk hp e
    have := h.named_kind hp
    rw [e, hv] at this
    rcases hk with rfl | rfl <;> rcases this with h | h | h <;> cases h
  have hvv : ∀ v w, M.va = some v → M.vk = some w → v.name ≠ w.name := by
    intro v w hv hw e
    have := hs.va v hv
    rw [e, hs.vk w hw] at this
    cases this
  have one : ∀ o : Option Param, o.toList.Pairwise (fun p q => p.name ≠ q.name) := by
    intro o; cases o <;> simp
  rw [nodup_names_iff]
  unfold Sorted.all
  rw [List.pairwise_append, List.pairwise_append, List.pairwise_append]
  simp only [List.mem_append, Option.mem_toList]
  refine ⟨⟨⟨nodup_names_iff.1 (IdxOK.nodup h.idx), one _, ?_⟩, nodup_names_iff.1 h.kw.nodup_kwo, ?_⟩, one _, ?_⟩
  · exact fun p hp v hv => star (hs.va v hv) (.inl rfl) (.inl hp)
  · rintro p (hp | hp) c hc
    · exact h.kwo_disj hp hc
    · exact (star (hs.va p hp) (.inl rfl) (.inr hc)).symm
  · rintro p ((hp | hp) | hp) w hw
    · exact star (hs.vk w hw) (.inr rfl) (.inl hp)
    · exact hvv p w hp hw
    · exact star (hs.vk w hw) (.inr rfl) (.inr hp)

end

end SV
