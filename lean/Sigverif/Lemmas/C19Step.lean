/-
  Lemmas/C19Step.lean — one iteration of the loop of `_mask` in partial mode (keyword bindings
  name=value): what a step `KStep … (some (v, o))` (Lemmas/C03Mask) does to the buckets
  (`BindStep`) and to the sources.
-/
import Sigverif.Lemmas.C03Hide
import Sigverif.Lemmas.SrcDict
namespace SV

theorem maskName_star {vk : Option Param} {st : KState} {x : Nat} (v o : Nat) (hc : x ∉ st.consumed)
    (hb : x ∉ names st.byName) (hk : x ∉ names st.kwo) (hvk : vk.isSome = true)
    (hs : starNamed st.va vk x = true) :
    maskName vk st x (some (v, o)) = .ok { st with consumed := st.consumed ++ [x] } := by
  unfold maskName
  rw [if_neg (mt List.contains_iff_mem.1 hc), pget_eq_none.2 hb]
  simp only [pget_eq_none.2 hk]
  cases vk with
  | none => cases hvk
  | some w => simp only [Option.isNone_some, Bool.false_eq_true, if_false, hs, if_true]

/-- What a binding `x = v` has done to the buckets of the state, as far as the property theorems
    need it (the names used up are `KStep.consumed`). -/
structure BindStep (vk : Option Param) (st st' : KState) (x v : Nat) : Prop where
  sub : ∀ y, (y ∈ names st'.pok ∨ y ∈ names st'.kwo) → (y ∈ names st.pok ∨ y ∈ names st.kwo ∨ y = x)
  va : st'.va = none ∨ st'.va = st.va
  pok : st'.pok <+: st.pok
  gone : x ∉ names st'.pok
  pokva : st'.pok = st.pok ∨ st'.va = none
  keep : ∀ p ∈ st.kwo, p.name ≠ x → p ∈ st'.kwo
  bound : starNamed st.va vk x = false → ∃ p ∈ st'.kwo, p.name = x ∧ p.kind = .ko ∧ p.dflt = some v

theorem KStep.binds {pos : List Param} {vk : Option Param} {st st' : KState} {x v o : Nat}
    (inv : Inv pos vk st) (hk : KStep vk st x (some (v, o)) st') : BindStep vk st st' x v := by
  obtain ⟨-, p2, p3, -⟩ := inv.swf.parts
  simp only [sOf] at p2 p3
  cases hk with
  | hitPok before conv bp hpok hx =>
    subst hx
    have hb : bp.name ∉ names before := by
      rw [hpok, names_append, names_cons] at p2
      exact fun h => (List.nodup_append.1 p2).2.2 _ h _ (List.mem_cons_self) rfl
    refine ⟨?_, Or.inl rfl, ?_, hb, Or.inr rfl, ?_, ?_⟩
    · intro y hy
      simp only [bnd, hpok, names_append, names_cons, names_map_withKind, names_nil, boundParam_name,
        List.mem_append, List.mem_cons, List.not_mem_nil, or_false] at hy ⊢
      rcases hy with h | (h | h) | h
      · exact Or.inl (Or.inl h)
      · exact Or.inr (Or.inl h)
      · exact Or.inl (Or.inr (Or.inr h))
      · exact Or.inr (Or.inr h)
    · rw [hpok]; exact List.prefix_append _ _
    · exact fun p hp _ => List.mem_append_left _ (List.mem_append_left _ hp)
    · exact fun _ => ⟨boundParam bp v, List.mem_append_right _ (List.mem_singleton.2 rfl), rfl, rfl, rfl⟩
  | hitKwo param hp hmem hname =>
    subst hname
    have hnm : (boundParam param v).name ∈ names st.kwo := mem_names_of_mem hmem (p := param)
    refine ⟨?_, Or.inr rfl, List.prefix_refl _, hp, Or.inl rfl, ?_, ?_⟩
    · intro y hy
      simp only at hy
      rw [names_pset_of_mem hnm] at hy
      exact hy.imp_right Or.inl
    · intro p hp' hne
      exact (mem_pset_iff p3).2 (Or.inl ⟨hp', hne⟩)
    · exact fun _ => ⟨boundParam param v, (mem_pset_iff p3).2 (Or.inr rfl), rfl, rfl, rfl⟩
  | toVk hp hkw hv =>
    rcases absorbed_cases st.va vk x (some (v, o)) with ⟨e, hs⟩ | ⟨_, _, ⟨⟩, -, e⟩
    · simp only [e, Option.map_none, Option.toList_none, List.append_nil]
      refine ⟨?_, Or.inr rfl, List.prefix_refl _, hp, Or.inl rfl, fun p hp' _ => hp', ?_⟩
      · intro y hy; exact hy.imp_right Or.inl
      · intro h; rw [hs v o rfl] at h; cases h
    · simp only [e, Option.map_some, Option.toList_some]
      refine ⟨?_, Or.inr rfl, List.prefix_refl _, hp, Or.inl rfl, ?_, ?_⟩
      · intro y hy
        simp only [names_append, names_cons, names_nil, newParam, List.mem_append,
          List.mem_singleton] at hy
        rcases hy with h | h | h
        · exact Or.inl h
        · exact Or.inr (Or.inl h)
        · exact Or.inr (Or.inr h)
      · exact fun p hp' _ => List.mem_append_left _ hp'
      · exact fun _ => ⟨newParam x v, List.mem_append_right _ (List.mem_singleton.2 rfl), rfl, rfl, rfl⟩

theorem KStep.binds_src {vk : Option Param} {st st' : KState} {x v o : Nat}
    (hk : KStep vk st x (some (v, o)) st') :
    (∀ y, y ≠ x → (∀ a, st.va = some a → a.name ≠ y) → dget st'.src y = dget st.src y) ∧
    (x ∉ names st.pok → x ∉ names st.kwo → starNamed st.va vk x = false → dget st'.src x = some [o]) := by
  cases hk with
  | hitPok before conv bp hpok hx =>
    constructor
    · intro y _ hva
      simp only [Option.isSome_some, if_true, srcVa]
      cases h : st.va with
      | none => rfl
      | some a => rw [dget_dpop, if_neg (Ne.symm (hva a h))]
    · intro h; exfalso; apply h; rw [hpok, ← hx]; simp
  | hitKwo param hp hmem hname =>
    exact ⟨fun _ _ _ => rfl, fun _ h => absurd (hname ▸ mem_names_of_mem hmem) h⟩
  | toVk hp hkw hv =>
    rcases absorbed_cases st.va vk x (some (v, o)) with ⟨e, hs⟩ | ⟨_, _, ⟨⟩, -, e⟩
    · rw [e]
      exact ⟨fun _ _ _ => rfl, fun _ _ h => by rw [hs v o rfl] at h; cases h⟩
    · rw [e]
      exact ⟨fun y hy _ => by rw [dget_dset, if_neg hy], fun _ _ _ => by rw [dget_dset, if_pos rfl]⟩

end SV
