/-
  Lemmas/C12Prep.lean — `prepStep` / `prepLoop` / `prepare` in closed form.
  One iteration is the pure update `stepRes`, guarded by `useStep`, the only part that can fail;
  over distinct names the loop returns `loopRes` when `LoopSpec` and raises ValueError when not.
-/
import Sigverif.Lemmas.Core.Validate
import Sigverif.Model.Modifiers
import Sigverif.Lemmas.Core.Sort
namespace SV

/-! `P`: the names to be made positional-only, `W`: those to be made keyword-only.  `keepMap`, `kwMap`, `kwPosFrom`:
    what a list of parameters adds to `params`, to `kwoparams` and to `kwopos` (the positions of those moved);
    `stepCond`: when an iteration of the loop of `_prepare` does not raise. -/

def isKwo (P W : List Nat) (p : Param) : Bool :=
  p.kind = .pk && !P.contains p.name && W.contains p.name
def isPpk (P : List Nat) (p : Param) : Bool := p.kind = .pk && P.contains p.name
def isKept (P W : List Nat) (p : Param) : Bool :=
  p.kind = .pk && !P.contains p.name && !W.contains p.name

def keepMap (P W : List Nat) (ps : List Param) : List Param :=
  (ps.filter (fun p => !isKwo P W p)).map (fun p => if isPpk P p then p.withKind .po else p)
def kwMap (P W : List Nat) (ps : List Param) : List Param :=
  (ps.filter (isKwo P W)).map (·.withKind .ko)
def kwPosFrom (P W : List Nat) : Nat → List Param → List (Nat × Param)
  | _, [] => []
  | i, p :: ps => if isKwo P W p then (i, p) :: kwPosFrom P W (i + 1) ps else kwPosFrom P W (i + 1) ps

def stepRes (P W : List Nat) (st : PrepState) (i : Nat) (p : Param) : PrepState :=
  { params := st.params ++ (if p.kind = .vk then st.kwoparams else []) ++ keepMap P W [p],
    kwoparams := st.kwoparams ++ kwMap P W [p],
    kwopos := st.kwopos ++ kwPosFrom P W i [p],
    foundPok := st.foundPok || isKept P W p,
    foundKws := st.foundKws || decide (p.kind = .vk),
    toUse := if isKept P W p then st.toUse else st.toUse.filter (· ≠ p.name) }

theorem keepMap_singleton (P W : List Nat) (p : Param) :
    keepMap P W [p] = if isKwo P W p then [] else [if isPpk P p then p.withKind .po else p] := by
  unfold keepMap
  cases h : isKwo P W p <;> simp [h]

theorem kwMap_singleton (P W : List Nat) (p : Param) :
    kwMap P W [p] = if isKwo P W p then [p.withKind .ko] else [] := by
  unfold kwMap
  cases h : isKwo P W p <;> simp [h]

theorem kwPosFrom_singleton (P W : List Nat) (i : Nat) (p : Param) :
    kwPosFrom P W i [p] = if isKwo P W p then [(i, p)] else [] := rfl

theorem stepRes_ppk {P W : List Nat} {p : Param} (st : PrepState) (i : Nat) (hk : p.kind = .pk)
    (hP : P.contains p.name = true) :
    stepRes P W st i p =
      { st with params := st.params ++ [p.withKind .po], toUse := st.toUse.filter (· ≠ p.name) } := by
  have h1 : isPpk P p = true := by simp only [isPpk, hk, hP]; rfl
  have h2 : isKwo P W p = false := by simp only [isKwo, hk, hP]; rfl
  have h3 : isKept P W p = false := by simp only [isKept, hk, hP]; rfl
  simp [stepRes, keepMap_singleton, kwMap_singleton, kwPosFrom_singleton, h1, h2, h3, hk]

theorem stepRes_kwo {P W : List Nat} {p : Param} (st : PrepState) (i : Nat) (hk : p.kind = .pk)
    (hP : P.contains p.name = false) (hW : W.contains p.name = true) :
    stepRes P W st i p =
      { st with kwoparams := st.kwoparams ++ [p.withKind .ko], kwopos := st.kwopos ++ [(i, p)],
                toUse := st.toUse.filter (· ≠ p.name) } := by
  have h2 : isKwo P W p = true := by simp only [isKwo, hk, hP, hW]; rfl
  have h3 : isKept P W p = false := by simp only [isKept, hk, hP, hW]; rfl
  simp [stepRes, keepMap_singleton, kwMap_singleton, kwPosFrom_singleton, h2, h3, hk]

theorem stepRes_kept {P W : List Nat} {p : Param} (st : PrepState) (i : Nat) (hk : p.kind = .pk)
    (hP : P.contains p.name = false) (hW : W.contains p.name = false) :
    stepRes P W st i p = { st with foundPok := true, params := st.params ++ [p] } := by
  have h1 : isPpk P p = false := by simp only [isPpk, hk, hP]; rfl
  have h2 : isKwo P W p = false := by simp only [isKwo, hk, hP, hW]; rfl
  have h3 : isKept P W p = true := by simp only [isKept, hk, hP, hW]; rfl
  simp [stepRes, keepMap_singleton, kwMap_singleton, kwPosFrom_singleton, h1, h2, h3, hk]

theorem stepRes_not_pk {P W : List Nat} {p : Param} (st : PrepState) (i : Nat) (hk : ¬ p.kind = .pk) :
    stepRes P W st i p =
      { (if p.kind = .vk then { st with foundKws := true, params := st.params ++ st.kwoparams } else st) with
        params := (if p.kind = .vk then st.params ++ st.kwoparams else st.params) ++ [p],
        toUse := st.toUse.filter (· ≠ p.name) } := by
  have h1 : isPpk P p = false := by simp [isPpk, hk]
  have h2 : isKwo P W p = false := by simp [isKwo, hk]
  have h3 : isKept P W p = false := by simp [isKept, hk]
  by_cases hv : p.kind = .vk <;>
    simp [stepRes, keepMap_singleton, kwMap_singleton, kwPosFrom_singleton, h1, h2, h3, hv]

theorem mem_stepRes_toUse {P W : List Nat} {st : PrepState} {i : Nat} {p : Param} {x : Nat} :
    x ∈ (stepRes P W st i p).toUse ↔ x ∈ st.toUse ∧ (p.name = x → isKept P W p = true) := by
  simp only [stepRes]
  by_cases hk : isKept P W p = true
  · simp [hk]
  · simp [hk, eq_comm (a := x)]

/-- what one iteration does with the set of names still to be used; nothing else in it can fail -/
def useStep (P W : List Nat) (found : Bool) (tu : List Nat) (p : Param) : Except Err (List Nat) :=
  if p.kind = .pk then
    if P.contains p.name then (if found then .error .valueError else setRemove tu p.name)
    else if W.contains p.name then setRemove tu p.name
    else .ok tu
  else if tu.contains p.name then
    if p.kind = .po && P.contains p.name then setRemove tu p.name
    else if p.kind = .ko && W.contains p.name then setRemove tu p.name
    else .error .valueError
  else .ok tu

theorem bind_pure_eq_map {α β : Type} (x : Except Err α) (f : α → β) :
    (x >>= fun a => pure (f a)) = x.map f := by cases x <;> rfl

theorem prepStep_eq (P W : List Nat) (st : PrepState) (i : Nat) (p : Param) :
    prepStep P W st i p =
      (useStep P W st.foundPok st.toUse p).map (fun tu => { stepRes P W st i p with toUse := tu }) := by
  unfold prepStep useStep
  by_cases hk : p.kind = .pk
  · rw [if_pos hk, if_pos hk]
    cases hP : P.contains p.name
    · cases hW : W.contains p.name
      · rw [stepRes_kept st i hk hP hW]
        rfl
      · rw [stepRes_kwo st i hk hP hW]
        exact bind_pure_eq_map _ _
    · rw [stepRes_ppk st i hk hP]
      cases st.foundPok
      · exact bind_pure_eq_map _ _
      · rfl
  · rw [if_neg hk, if_neg hk, stepRes_not_pk st i hk]
    by_cases hv : p.kind = .vk <;> simp only [hv, ↓reduceIte] <;> exact bind_pure_eq_map _ _

def stepCond (P W : List Nat) (found : Bool) (tu : List Nat) (p : Param) : Prop :=
  (isPpk P p = true → found = false) ∧
  (p.kind = .pk → (p.name ∈ P ∨ p.name ∈ W) → p.name ∈ tu) ∧
  (p.kind ≠ .pk → p.name ∈ tu → (p.kind = .po ∧ p.name ∈ P) ∨ (p.kind = .ko ∧ p.name ∈ W))

/-- `KeyError` comes from removing a selected name that is no longer to be used, and only
    after the `ValueError` for a positional-only selection behind a kept parameter -/
def stepErr (P W : List Nat) (found : Bool) (tu : List Nat) (p : Param) : Err :=
  if p.kind = .pk ∧ (p.name ∈ P ∨ p.name ∈ W) ∧ p.name ∉ tu ∧ ¬ (p.name ∈ P ∧ found = true) then .keyError
  else .valueError

theorem useStep_eq (P W : List Nat) (found : Bool) (tu : List Nat) (p : Param) :
    (stepCond P W found tu p ∧
      useStep P W found tu p = .ok (if isKept P W p then tu else tu.filter (· ≠ p.name))) ∨
    (¬ stepCond P W found tu p ∧ useStep P W found tu p = .error (stepErr P W found tu p)) := by
  unfold useStep stepCond stepErr setRemove
  by_cases hk : p.kind = .pk
  · by_cases hP : p.name ∈ P
    · by_cases hu : p.name ∈ tu <;> cases found <;> simp [hk, hP, hu, isPpk, isKept]
    · by_cases hW : p.name ∈ W
      · by_cases hu : p.name ∈ tu <;> simp [hk, hP, hW, hu, isPpk, isKept]
      · simp [hk, hP, hW, isPpk, isKept]
  · by_cases hu : p.name ∈ tu
    · by_cases h1 : p.kind = .po ∧ p.name ∈ P
      · simp [hu, h1, isPpk, isKept]
      · by_cases h2 : p.kind = .ko ∧ p.name ∈ W
        · simp [hu, h2, isPpk, isKept]
        · simp [hk, hu, h1, h2, isPpk, isKept]
    · have hf : tu.filter (fun x => !decide (x = p.name)) = tu :=
        List.filter_eq_self.2 fun a ha => by simpa using fun (h : a = p.name) => hu (h ▸ ha)
      simp [hk, hu, isPpk, isKept, hf]

theorem prepStep_cases (P W : List Nat) (st : PrepState) (i : Nat) (p : Param) :
    (stepCond P W st.foundPok st.toUse p ∧ prepStep P W st i p = .ok (stepRes P W st i p)) ∨
    (¬ stepCond P W st.foundPok st.toUse p ∧
      prepStep P W st i p = .error (stepErr P W st.foundPok st.toUse p)) := by
  rw [prepStep_eq]
  rcases useStep_eq P W st.foundPok st.toUse p with ⟨hc, he⟩ | ⟨hc, he⟩
  · exact .inl ⟨hc, by rw [he]; rfl⟩
  · exact .inr ⟨hc, by rw [he]; rfl⟩

def loopRes (P W : List Nat) : PrepState → Nat → List Param → PrepState
  | st, _, [] => st
  | st, i, p :: ps => loopRes P W (stepRes P W st i p) (i + 1) ps

theorem kwMap_append (P W : List Nat) (a b : List Param) :
    kwMap P W (a ++ b) = kwMap P W a ++ kwMap P W b := by simp [kwMap]
theorem keepMap_append (P W : List Nat) (a b : List Param) :
    keepMap P W (a ++ b) = keepMap P W a ++ keepMap P W b := by simp [keepMap]
theorem kwMap_cons (P W : List Nat) (p : Param) (ps : List Param) :
    kwMap P W (p :: ps) = kwMap P W [p] ++ kwMap P W ps := by
  rw [← kwMap_append]; rfl
theorem keepMap_cons (P W : List Nat) (p : Param) (ps : List Param) :
    keepMap P W (p :: ps) = keepMap P W [p] ++ keepMap P W ps := by
  rw [← keepMap_append]; rfl
theorem kwPosFrom_cons (P W : List Nat) (i : Nat) (p : Param) (ps : List Param) :
    kwPosFrom P W i (p :: ps) = kwPosFrom P W i [p] ++ kwPosFrom P W (i + 1) ps := by
  simp only [kwPosFrom]; split <;> simp
theorem kwPosFrom_append (P W : List Nat) (i : Nat) (a b : List Param) :
    kwPosFrom P W i (a ++ b) = kwPosFrom P W i a ++ kwPosFrom P W (i + a.length) b := by
  induction a generalizing i with
  | nil => simp [kwPosFrom]
  | cons p a ih =>
    simp only [List.cons_append, kwPosFrom, ih, List.length_cons]
    have : i + 1 + a.length = i + (a.length + 1) := by omega
    split <;> simp [this]

variable {P W : List Nat}

theorem loopRes_append (st : PrepState) (i : Nat) (a b : List Param) :
    loopRes P W st i (a ++ b) = loopRes P W (loopRes P W st i a) (i + a.length) b := by
  induction a generalizing st i with
  | nil => simp [loopRes]
  | cons p a ih =>
    simp only [List.cons_append, loopRes, ih, List.length_cons]
    have : i + 1 + a.length = i + (a.length + 1) := by omega
    rw [this]

theorem loopRes_kwoparams (st : PrepState) (i : Nat) (ps : List Param) :
    (loopRes P W st i ps).kwoparams = st.kwoparams ++ kwMap P W ps := by
  induction ps generalizing st i with
  | nil => simp [loopRes, kwMap]
  | cons p ps ih => rw [loopRes, ih, kwMap_cons]; simp [stepRes]

theorem loopRes_kwopos (st : PrepState) (i : Nat) (ps : List Param) :
    (loopRes P W st i ps).kwopos = st.kwopos ++ kwPosFrom P W i ps := by
  induction ps generalizing st i with
  | nil => simp [loopRes, kwPosFrom]
  | cons p ps ih => rw [loopRes, ih, kwPosFrom_cons]; simp [stepRes]

theorem loopRes_foundPok (st : PrepState) (i : Nat) (ps : List Param) :
    (loopRes P W st i ps).foundPok = (st.foundPok || ps.any (isKept P W)) := by
  induction ps generalizing st i with
  | nil => simp [loopRes]
  | cons p ps ih => rw [loopRes, ih]; simp [stepRes, Bool.or_assoc]

theorem loopRes_foundKws (st : PrepState) (i : Nat) (ps : List Param) :
    (loopRes P W st i ps).foundKws = (st.foundKws || hasVk ps) := by
  induction ps generalizing st i with
  | nil => simp [loopRes, hasVk]
  | cons p ps ih => rw [loopRes, ih]; simp [stepRes, hasVk, Bool.or_assoc]

theorem loopRes_params_novk (st : PrepState) (i : Nat) (ps : List Param)
    (h : ∀ p ∈ ps, p.kind ≠ .vk) :
    (loopRes P W st i ps).params = st.params ++ keepMap P W ps := by
  induction ps generalizing st i with
  | nil => simp [loopRes, keepMap]
  | cons p ps ih =>
    rw [loopRes, ih _ _ (fun q hq => h q (by simp [hq])), keepMap_cons]
    have := h p (by simp)
    simp [stepRes, this]

theorem loopRes_toUse (st : PrepState) (i : Nat) (ps : List Param) (x : Nat) :
    x ∈ (loopRes P W st i ps).toUse ↔
      x ∈ st.toUse ∧ ∀ p ∈ ps, p.name = x → isKept P W p = true := by
  induction ps generalizing st i with
  | nil => simp [loopRes]
  | cons p ps ih =>
    rw [loopRes, ih, mem_stepRes_toUse, List.forall_mem_cons, and_assoc]

/-- what the loop needs in order not to raise, said of the list at once (`prepLoop_cases`) -/
def LoopSpec (P W : List Nat) (st : PrepState) (ps : List Param) : Prop :=
  (st.foundPok = true → ∀ q ∈ ps, isPpk P q = false) ∧
  ps.Pairwise (fun p q => isKept P W p = true → isPpk P q = false) ∧
  (∀ p ∈ ps, p.kind ≠ .pk → p.name ∈ st.toUse →
    (p.kind = .po ∧ p.name ∈ P) ∨ (p.kind = .ko ∧ p.name ∈ W))

theorem loopSpec_cons (st : PrepState) (i : Nat) (p : Param) (ps : List Param)
    (hn : ∀ q ∈ ps, p.name ≠ q.name)
    (hu : p.kind = .pk → (p.name ∈ P ∨ p.name ∈ W) → p.name ∈ st.toUse) :
    LoopSpec P W st (p :: ps) ↔
      stepCond P W st.foundPok st.toUse p ∧ LoopSpec P W (stepRes P W st i p) ps := by
  -- the names are distinct, so what happens to `p`'s name does not concern the parameters after it
  have key : ∀ q ∈ ps, (q.name ∈ (stepRes P W st i p).toUse ↔ q.name ∈ st.toUse) :=
    fun q hq => mem_stepRes_toUse.trans (and_iff_left fun h => absurd h (hn q hq))
  have hf : (stepRes P W st i p).foundPok = (st.foundPok || isKept P W p) := rfl
  simp only [LoopSpec, stepCond, List.forall_mem_cons, List.pairwise_cons, hf, Bool.or_eq_true]
  constructor
  · rintro ⟨c1, ⟨c2, c2'⟩, c4, c4'⟩
    refine ⟨⟨fun hpp => ?_, hu, c4⟩, fun hf q hq => hf.elim (fun h => (c1 h).2 q hq) (c2 q hq), c2',
      fun q hq h1 h2 => c4' q hq h1 ((key q hq).1 h2)⟩
    cases hf : st.foundPok
    · rfl
    · exact absurd hpp (by simp [(c1 hf).1])
  · rintro ⟨⟨a1, -, a3⟩, b1, b2, b4⟩
    refine ⟨fun hf => ⟨?_, fun q hq => b1 (.inl hf) q hq⟩, ⟨fun q hq hk => b1 (.inr hk) q hq, b2⟩,
      a3, fun q hq h1 h2 => b4 q hq h1 ((key q hq).2 h2)⟩
    cases hpp : isPpk P p
    · rfl
    · exact absurd (a1 hpp) (by simp [hf])

/-- the loop over distinct names, as long as every selected name still ahead is still to be used (`hu`; so it is at
    the start, and distinctness keeps it so) -/
theorem prepLoop_cases (st : PrepState) (i : Nat) (ps : List Param) (hn : NamesDistinct ps)
    (hu : ∀ p ∈ ps, p.kind = .pk → (p.name ∈ P ∨ p.name ∈ W) → p.name ∈ st.toUse) :
    (LoopSpec P W st ps ∧ prepLoop P W st i ps = .ok (loopRes P W st i ps)) ∨
    (¬ LoopSpec P W st ps ∧ prepLoop P W st i ps = .error .valueError) := by
  induction ps generalizing st i with
  | nil => exact .inl ⟨⟨by simp, .nil, by simp⟩, rfl⟩
  | cons p ps ih =>
    simp only [NamesDistinct, List.pairwise_cons] at hn
    have hup := hu p (List.mem_cons_self ..)
    rw [loopSpec_cons st i p ps hn.1 hup]
    simp only [prepLoop, loopRes, bind, Except.bind]
    rcases prepStep_cases P W st i p with ⟨hc, he⟩ | ⟨hc, he⟩
    · rw [he]
      simp only [hc, true_and]
      exact ih _ _ hn.2 fun q hq h1 h2 => mem_stepRes_toUse.2
        ⟨hu q (List.mem_cons_of_mem _ hq) h1 h2, fun h => absurd h (hn.1 q hq)⟩
    · rw [he]
      -- a `KeyError` would need a selected name that is no longer to be used
      exact .inr ⟨fun h => hc h.1, congrArg _ (if_neg fun hk => hk.2.2.1 (hup hk.1 hk.2.1))⟩

theorem mem_dedup (l : List Nat) (x : Nat) : x ∈ dedup l ↔ x ∈ l := by
  unfold dedup
  suffices h : ∀ acc : List Nat, x ∈ l.foldl (fun acc x => if acc.contains x then acc else acc ++ [x]) acc ↔
      x ∈ acc ∨ x ∈ l by simpa using h []
  induction l with
  | nil => simp
  | cons a l ih =>
    intro acc
    rw [List.foldl_cons, ih]
    by_cases h : acc.contains a = true
    · have ha : a ∈ acc := List.contains_iff_mem.1 h
      rw [if_pos h, List.mem_cons]
      constructor
      · rintro (h | h)
        · exact .inl h
        · exact .inr (.inr h)
      · rintro (h | rfl | h)
        · exact .inl h
        · exact .inl ha
        · exact .inr h
    · rw [if_neg h, List.mem_append, List.mem_singleton, List.mem_cons, or_assoc]

def st0 (P W : List Nat) : PrepState := { toUse := dedup (P ++ W) }

def finalParams (st : PrepState) : List Param :=
  if st.foundKws then st.params else st.params ++ st.kwoparams

theorem prepare_eq (F : List Param) (P W : List Nat) :
    prepare F P W =
      if P.any (fun x => W.contains x) then .error .valueError else
      match prepLoop P W (st0 P W) 0 F with
      | .error e => .error e
      | .ok st =>
        if !st.toUse.isEmpty then .error .valueError else
        match validate (finalParams st) with
        | .error e => .error e
        | .ok _ => .ok (finalParams st, st.kwopos) := by
  unfold prepare st0 finalParams
  simp only [bind, Except.bind, pure, Except.pure]
  cases P.any (fun x => W.contains x)
  · simp only [Bool.false_eq_true, ↓reduceIte]
    cases prepLoop P W { toUse := dedup (P ++ W) } 0 F with
    | error e => rfl
    | ok st =>
      simp only
      cases !st.toUse.isEmpty
      · simp only [Bool.false_eq_true, ↓reduceIte]
        cases validate (if st.foundKws = true then st.params else st.params ++ st.kwoparams) <;> rfl
      · rfl
  · rfl

/-- the advertised signature per the property text: exactly the parameters named in `W` made
    keyword-only (moved after *args, before **kwargs, relative order kept), those in `P` made
    positional-only, defaults and annotations untouched -/
def pokSpec (F : List Param) (P W : List Nat) : List Param :=
  (F.filter (fun p => (p.kind = .po || p.kind = .pk) && !W.contains p.name)).map
      (fun p => if P.contains p.name then p.withKind .po else p)
  ++ F.filter (fun p => p.kind = .vp)
  ++ F.filter (fun p => p.kind = .ko)
  ++ (F.filter (fun p => p.kind = .pk && W.contains p.name)).map (·.withKind .ko)
  ++ F.filter (fun p => p.kind = .vk)

theorem kwMap_of_not_pk (l : List Param) (h : ∀ p ∈ l, p.kind ≠ .pk) : kwMap P W l = [] := by
  simp only [kwMap, List.map_eq_nil_iff, List.filter_eq_nil_iff]
  intro p hp; simp [isKwo, h p hp]

theorem keepMap_of_not_pk (l : List Param) (h : ∀ p ∈ l, p.kind ≠ .pk) : keepMap P W l = l := by
  simp only [keepMap]
  rw [List.filter_eq_self.2 (by intro p hp; simp [isKwo, h p hp])]
  conv => rhs; rw [← List.map_id l]
  apply List.map_congr_left
  intro p hp; simp [isPpk, h p hp]

theorem withKind_self (p : Param) (k : Kind) (h : p.kind = k) : p.withKind k = p := by
  cases p; simp_all [Param.withKind]

theorem isKwo_eq (hd : ∀ x ∈ P, x ∉ W) (p : Param) :
    isKwo P W p = (decide (p.kind = .pk) && W.contains p.name) := by
  by_cases hw : p.name ∈ W
  · have : p.name ∉ P := fun h => hd _ h hw
    simp [isKwo, hw, this]
  · simp [isKwo, hw]

theorem map_eq_self {α : Type} {f : α → α} {l : List α} (h : ∀ a ∈ l, f a = a) : l.map f = l :=
  (List.map_congr_left h).trans (List.map_id' l)

def markPo (P : List Nat) (p : Param) : Param := if P.contains p.name then p.withKind .po else p

theorem markPo_name (P : List Nat) (p : Param) : (markPo P p).name = p.name := by
  unfold markPo; split <;> rfl
theorem markPo_dflt (P : List Nat) (p : Param) : (markPo P p).dflt = p.dflt := by
  unfold markPo; split <;> rfl

theorem map_markPo_pos {l : List Param} (h : ∀ p ∈ l, p.kind = .po) : l.map (markPo P) = l :=
  map_eq_self fun p hp => by
    unfold markPo
    split
    · exact withKind_self p .po (h p hp)
    · rfl

theorem pokSpec_all {S : Sorted} (bk : BucketKinds S) (P W : List Nat) :
    pokSpec S.all P W =
      ((S.pos ++ S.pok).filter (fun p => !W.contains p.name)).map (markPo P) ++ S.va.toList ++ S.kwo ++
        (S.pok.filter (fun p => W.contains p.name)).map (·.withKind .ko) ++ S.vk.toList := by
  unfold pokSpec
  rw [filter_vp_all bk, filter_ko_all bk, filter_vk_all bk, ← positionals_all bk, ← filter_pk_all bk,
    positionals, List.filter_filter, List.filter_filter]
  simp only [isPositional, Bool.and_comm]
  rfl

theorem keepMap_pok (hd : ∀ x ∈ P, x ∉ W) {l : List Param} (h : ∀ p ∈ l, p.kind = .pk) :
    keepMap P W l = (l.filter (fun p => !W.contains p.name)).map (markPo P) := by
  unfold keepMap
  rw [List.filter_congr (q := fun p => !W.contains p.name) fun p hp => by rw [isKwo_eq hd, h p hp]; rfl]
  exact List.map_congr_left fun p hp => by simp only [isPpk, markPo, h p (List.mem_filter.1 hp).1]; rfl

theorem kwMap_pok (hd : ∀ x ∈ P, x ∉ W) {l : List Param} (h : ∀ p ∈ l, p.kind = .pk) :
    kwMap P W l = (l.filter (fun p => W.contains p.name)).map (·.withKind .ko) := by
  unfold kwMap
  rw [List.filter_congr (q := fun p => W.contains p.name) fun p hp => by rw [isKwo_eq hd, h p hp]; rfl]

theorem finalParams_loopRes (body : List Param) (o : Option Param) (hbody : ∀ p ∈ body, p.kind ≠ .vk)
    (ho : ∀ v, o = some v → v.kind = .vk) :
    finalParams (loopRes P W (st0 P W) 0 (body ++ o.toList)) = keepMap P W body ++ kwMap P W body ++ o.toList := by
  have hvk : hasVk body = false := by
    simp only [hasVk, List.any_eq_false]; intro p hp; simpa using hbody p hp
  rw [loopRes_append]
  cases o with
  | none =>
    simp only [Option.toList_none, loopRes, finalParams, loopRes_foundKws, loopRes_params_novk _ _ _ hbody,
      loopRes_kwoparams, hvk]
    simp [st0]
  | some v =>
    have hv := ho v rfl
    simp only [Option.toList_some, loopRes, finalParams, stepRes, loopRes_foundKws, loopRes_params_novk _ _ _ hbody,
      loopRes_kwoparams, hv, keepMap_of_not_pk [v] (by simp [hv])]
    simp [st0]

/-- over a bucketed signature the positional-or-keyword bucket is the only one the loop changes -/
theorem finalParams_loopRes_all {S : Sorted} (bk : BucketKinds S) (hd : ∀ x ∈ P, x ∉ W)
    (hpo : ∀ p ∈ S.pos, p.name ∉ W) :
    finalParams (loopRes P W (st0 P W) 0 S.all) = pokSpec S.all P W := by
  have hva := optToList_kind bk.va
  have npos : ∀ p ∈ S.pos, p.kind ≠ .pk := fun p h => by rw [bk.pos p h]; decide
  have nva : ∀ p ∈ S.va.toList, p.kind ≠ .pk := fun p h => by rw [hva p h]; decide
  have nkwo : ∀ p ∈ S.kwo, p.kind ≠ .pk := fun p h => by rw [bk.kwo p h]; decide
  rw [pokSpec_all bk, Sorted.all, finalParams_loopRes _ _ ?_ bk.vk]
  · rw [keepMap_append, keepMap_append, keepMap_append, keepMap_pok hd bk.pok, keepMap_of_not_pk _ npos,
      keepMap_of_not_pk _ nva, keepMap_of_not_pk _ nkwo,
      kwMap_append, kwMap_append, kwMap_append, kwMap_pok hd bk.pok, kwMap_of_not_pk _ npos,
      kwMap_of_not_pk _ nva, kwMap_of_not_pk _ nkwo,
      List.filter_append, List.map_append, List.filter_eq_self (l := S.pos) |>.2 fun p h => by simpa using hpo p h,
      map_markPo_pos bk.pos, List.nil_append, List.append_nil, List.append_nil]
  · simp only [List.mem_append]
    rintro p (((h | h) | h) | h)
    · rw [bk.pos p h]; decide
    · rw [bk.pok p h]; decide
    · rw [hva p h]; decide
    · rw [bk.kwo p h]; decide

/-- when `_prepare` accepts the names `P` to be made positional-only and `W` to be made keyword-only (`admissible_iff`):
    the two are disjoint; a name of `P` is a positional parameter of `F`, a name of `W` a positional-or-keyword or
    keyword-only one; and after a positional-or-keyword parameter that is left as it is, none is made positional-only -/
def admissible (F : List Param) (P W : List Nat) : Prop :=
  (∀ x ∈ P, x ∉ W) ∧
  (∀ x ∈ P, ∃ p ∈ F, p.name = x ∧ (p.kind = .po ∨ p.kind = .pk)) ∧
  (∀ x ∈ W, ∃ p ∈ F, p.name = x ∧ (p.kind = .pk ∨ p.kind = .ko)) ∧
  (∀ (i j : Nat) (p q : Param), i < j → F[i]? = some p → F[j]? = some q →
      p.kind = .pk → p.name ∉ P → p.name ∉ W → q.kind = .pk → q.name ∉ P)

theorem admissible_iff_pairwise (F : List Param) (P W : List Nat) :
    admissible F P W ↔
      (∀ x ∈ P, x ∉ W) ∧
      (∀ x ∈ P, ∃ p ∈ F, p.name = x ∧ (p.kind = .po ∨ p.kind = .pk)) ∧
      (∀ x ∈ W, ∃ p ∈ F, p.name = x ∧ (p.kind = .pk ∨ p.kind = .ko)) ∧
      F.Pairwise (fun p q => isKept P W p = true → isPpk P q = false) := by
  refine and_congr_right fun _ => and_congr_right fun _ => and_congr_right fun _ => ?_
  simp only [List.pairwise_iff_getElem, isKept, isPpk, Bool.and_eq_true, decide_eq_true_eq,
    Bool.not_eq_true', List.contains_eq_mem, decide_eq_false_iff_not, Bool.and_eq_false_imp, and_imp]
  constructor
  · intro h i j hi hj hij hk hP hW hqk
    exact h i j _ _ hij (List.getElem?_eq_getElem hi) (List.getElem?_eq_getElem hj) hk hP hW hqk
  · intro h i j p q hij hp hq
    obtain ⟨hi, rfl⟩ := List.getElem?_eq_some_iff.1 hp
    obtain ⟨hj, rfl⟩ := List.getElem?_eq_some_iff.1 hq
    exact h i j hi hj hij

theorem NamesDistinct.eq_of_name {F : List Param} (hn : NamesDistinct F) {p q : Param}
    (hp : p ∈ F) (hq : q ∈ F) (h : p.name = q.name) : p = q :=
  eq_of_nodup_names (nodup_names_iff.2 hn) hp hq h

theorem NamesDistinct.exists_named_iff {F : List Param} (hn : NamesDistinct F) (X : List Nat) (K : Param → Prop) :
    (∀ x ∈ X, ∃ p ∈ F, p.name = x ∧ K p) ↔ (∀ x ∈ X, ∃ p ∈ F, p.name = x) ∧ ∀ p ∈ F, p.name ∈ X → K p := by
  constructor
  · refine fun h => ⟨fun x hx => ?_, fun p hp hx => ?_⟩
    · obtain ⟨p, hp, hpx, -⟩ := h x hx
      exact ⟨p, hp, hpx⟩
    · obtain ⟨q, hq, hqx, hk⟩ := h _ hx
      cases hn.eq_of_name hq hp hqx
      exact hk
  · rintro ⟨h1, h2⟩ x hx
    obtain ⟨p, hp, rfl⟩ := h1 x hx
    exact ⟨p, hp, rfl, h2 p hp hx⟩

theorem admissible_iff (F : List Param) (hn : NamesDistinct F) (hd : ∀ x ∈ P, x ∉ W) :
    (LoopSpec P W (st0 P W) F ∧ (loopRes P W (st0 P W) 0 F).toUse = []) ↔ admissible F P W := by
  have hempty : (loopRes P W (st0 P W) 0 F).toUse = [] ↔ ∀ x, (x ∈ P ∨ x ∈ W) → ∃ p ∈ F, p.name = x := by
    rw [List.eq_nil_iff_forall_not_mem]
    constructor
    · intro h x hx
      apply Classical.byContradiction
      intro hne
      apply h x
      rw [loopRes_toUse]
      refine ⟨by simpa [st0, mem_dedup] using hx, fun p hp hpn => absurd ⟨p, hp, hpn⟩ hne⟩
    · intro h x hmem
      rw [loopRes_toUse] at hmem
      obtain ⟨hx, hall⟩ := hmem
      have hx : x ∈ P ∨ x ∈ W := by simpa [st0, mem_dedup] using hx
      obtain ⟨p, hp, hpn⟩ := h x hx
      have := hall p hp hpn
      subst hpn
      rcases hx with hx | hx <;> simp [isKept, hx] at this
  rw [hempty, admissible_iff_pairwise, hn.exists_named_iff, hn.exists_named_iff]
  simp only [LoopSpec, st0, mem_dedup, List.mem_append]
  -- a selected parameter that is not positional-or-keyword is positional-only if in `P`, keyword-only if in `W`
  constructor
  · rintro ⟨⟨-, h2, h4⟩, h5⟩
    refine ⟨hd, ⟨fun x hx => h5 x (.inl hx), fun p hp hx => ?_⟩, ⟨fun x hx => h5 x (.inr hx), fun p hp hx => ?_⟩, h2⟩
    · by_cases hk : p.kind = .pk
      · exact .inr hk
      · exact (h4 p hp hk (.inl hx)).elim (fun h => .inl h.1) fun h => absurd h.2 (hd _ hx)
    · by_cases hk : p.kind = .pk
      · exact .inl hk
      · exact (h4 p hp hk (.inr hx)).elim (fun h => absurd hx (hd _ h.2)) fun h => .inr h.1
  · rintro ⟨-, ⟨e2, c2⟩, ⟨e3, c3⟩, c4⟩
    refine ⟨⟨by simp, c4, fun p hp hk hx => ?_⟩, fun x hx => hx.elim (e2 x) (e3 x)⟩
    exact hx.imp (fun hx => ⟨(c2 p hp hx).resolve_right hk, hx⟩) fun hx => ⟨(c3 p hp hx).resolve_left hk, hx⟩

end SV
