/-
  Lemmas/C05FlatSim.lean — the invariant `FInv`: the namespace of the main function tracks exactly
  the taint flags of `truthS`.  It holds after `process_parameters`, and every statement of the main
  body other than a block, a nested function or a `nonlocal` rebinding keeps it while the records
  appended are the ground-truth calls (`simS`).
-/
import Sigverif.Lemmas.C05Flat
import Sigverif.Lemmas.SrcDict
namespace SV
namespace Flat
variable {kids : List NS} {rev : List (Tree × Nat)}

mutual
  def assignedS : Stmt → List Nat
    | .fwd _ _ _ _ _ target => target.toList
    | .unrelated x => [x]
    | .block body => assignedSL body
    | _ => []
  def assignedSL : StmtList → List Nat
    | .nil => []
    | .cons s rest => assignedS s ++ assignedSL rest
end

mutual
  /-- root names of the callee expressions of the forwarding calls -/
  def rootsS : Stmt → List Nat
    | .fwd callee _ _ _ _ _ => (calleeRoot callee).toList
    | .block body => rootsSL body
    | _ => []
  def rootsSL : StmtList → List Nat
    | .nil => []
    | .cons s rest => rootsS s ++ rootsSL rest
end

mutual
  def flatS : Stmt → Bool
    | .nested _ => false
    | .nonlocalRebind _ => false
    | .block body => flatSL body
    | _ => true
  def flatSL : StmtList → Bool
    | .nil => true
    | .cons s rest => flatS s && flatSL rest
end

/-- the namespace of the main function agrees with the taint flags of the ground truth -/
structure FInv (p : Prog) (roots : List Nat) (tA tK : Bool) (n : List (Nat × Entry)) (i : List Nat) : Prop where
  vaP : tA = false → dget n p.va = some { m := .arg p.va (some .va), tainted := false } ∧ i.contains p.va = true
  vaT : tA = true → ∃ e, dget n p.va = some e ∧ ((e.tainted = true ∧ e.m = .arg p.va (some .va)) ∨ e.m = .unknown)
  vkP : tK = false → dget n p.vk = some { m := .arg p.vk (some .vk), tainted := false }
  vkT : tK = true → ∃ e, dget n p.vk = some e ∧ ((e.tainted = true ∧ e.m = .arg p.vk (some .vk)) ∨ e.m = .unknown)
  par : ∀ x ∈ p.params, ∃ e, dget n x = some e ∧ e.m = .arg x none
  glob : ∀ r ∈ roots, r ∉ p.params → dget n r = none
  /-- no namespace entry is an Attribute marker (entries are written by `visit_Name` / `process_parameters` only) -/
  flatm : ∀ x e, dget n x = some e → ∀ v a, e.m ≠ .attr v a
  immOnly : ∀ x, i.contains x = true → x = p.va

/-- the static conditions on a program: star names apart from everything, assigned names apart
    from callee roots and parameters -/
structure Clean (p : Prog) (roots assigned : List Nat) : Prop where
  ne : p.va ≠ p.vk
  vaPar : p.va ∉ p.params
  vkPar : p.vk ∉ p.params
  vaRoot : p.va ∉ roots
  vkRoot : p.vk ∉ roots
  asg : ∀ x ∈ assigned, x ≠ p.va ∧ x ≠ p.vk ∧ x ∉ p.params ∧ x ∉ roots

theorem starFound_pristine {n : List (Nat × Entry)} {x : Nat} {m : RM}
    (h : dget n x = some { m := m, tainted := false }) : starFound n x = m := by
  simp [starFound, h]

theorem starFound_tainted {n : List (Nat × Entry)} {x : Nat} {e : Entry} {mm : RM}
    (h : dget n x = some e) (ht : (e.tainted = true ∧ e.m = mm) ∨ e.m = .unknown) : starFound n x = .unknown := by
  simp only [starFound, h]
  rcases ht with ⟨ht, _⟩ | ht
  · simp [ht]
  · split
    · rfl
    · exact ht

section
variable {p : Prog} {roots : List Nat} {tA tK : Bool} {n : List (Nat × Entry)} {i : List Nat}

theorem FInv.update {tA' tK' : Bool}
    (h : FInv p roots tA tK n i) (x : Nat) (e : Entry) (i' : List Nat)
    (hm : ∀ v a, e.m ≠ .attr v a) (hi : ∀ y, i'.contains y = true → i.contains y = true)
    (hvaT : x = p.va → tA' = true ∧ ((e.tainted = true ∧ e.m = .arg p.va (some .va)) ∨ e.m = .unknown))
    (hvaO : x ≠ p.va → tA' = tA ∧ (i.contains p.va = true → i'.contains p.va = true))
    (hvkT : x = p.vk → tK' = true ∧ ((e.tainted = true ∧ e.m = .arg p.vk (some .vk)) ∨ e.m = .unknown))
    (hvkO : x ≠ p.vk → tK' = tK)
    (hpar : x ∈ p.params → e.m = .arg x none) (hroot : x ∈ roots → x ∈ p.params) :
    FInv p roots tA' tK' (dset n x e) i' := by
  have dne : ∀ y, y ≠ x → dget (dset n x e) y = dget n y := by
    intro y hy; rw [dget_dset]; simp [hy]
  have deq : dget (dset n x e) x = some e := by rw [dget_dset]; simp
  refine ⟨?_, ?_, ?_, ?_, ?_, ?_, ?_, fun y hy => h.immOnly y (hi y hy)⟩
  · intro ht
    by_cases hx : x = p.va
    · rw [(hvaT hx).1] at ht; cases ht
    · obtain ⟨a, b⟩ := h.vaP ((hvaO hx).1 ▸ ht)
      exact ⟨by rw [dne _ (Ne.symm hx)]; exact a, (hvaO hx).2 b⟩
  · intro ht
    by_cases hx : x = p.va
    · exact ⟨e, hx ▸ deq, (hvaT hx).2⟩
    · obtain ⟨e', a, b⟩ := h.vaT ((hvaO hx).1 ▸ ht)
      exact ⟨e', by rw [dne _ (Ne.symm hx)]; exact a, b⟩
  · intro ht
    by_cases hx : x = p.vk
    · rw [(hvkT hx).1] at ht; cases ht
    · rw [dne _ (Ne.symm hx)]; exact h.vkP (hvkO hx ▸ ht)
  · intro ht
    by_cases hx : x = p.vk
    · exact ⟨e, hx ▸ deq, (hvkT hx).2⟩
    · obtain ⟨e', a, b⟩ := h.vkT (hvkO hx ▸ ht)
      exact ⟨e', by rw [dne _ (Ne.symm hx)]; exact a, b⟩
  · intro y hy
    by_cases hyx : y = x
    · exact ⟨e, hyx ▸ deq, hyx ▸ hpar (hyx ▸ hy)⟩
    · obtain ⟨e', a, b⟩ := h.par y hy
      exact ⟨e', by rw [dne _ hyx]; exact a, b⟩
  · intro r hr hrp
    have : r ≠ x := fun e => hrp (e ▸ hroot (e ▸ hr))
    rw [dne _ this]; exact h.glob r hr hrp
  · intro y e' hy v a
    rw [dget_dset] at hy
    split at hy
    · cases hy; exact hm v a
    · exact h.flatm y e' hy v a

theorem contains_filter_ne {i : List Nat} {x y : Nat} (h : (i.filter (· ≠ x)).contains y = true) :
    i.contains y = true := by
  simp only [List.contains_iff_mem, List.mem_filter] at h ⊢
  exact h.1

theorem FInv.assign_other (h : FInv p roots tA tK n i) (x : Nat) (hva : x ≠ p.va) (hvk : x ≠ p.vk) (hpar : x ∉ p.params)
    (hroot : x ∉ roots) (e : Entry) (hem : e.m = .unknown) :
    FInv p roots tA tK (dset n x e) (i.filter (· ≠ x)) :=
  h.update x e _ (by simp [hem]) (fun _ => contains_filter_ne) (fun e => absurd e hva)
    (fun _ => ⟨rfl, fun b => by simpa [Ne.symm hva] using b⟩) (fun e => absurd e hvk) (fun _ => rfl)
    (fun hp => absurd hp hpar) (fun hr => absurd hr hroot)

/-- the invariant for equal flags: `truthS` writes a flag as `tA || …` where a proof knows what that comes to -/
theorem FInv.flags_eq {p : Prog} {roots : List Nat} {tA tK tA' tK' : Bool} {n : List (Nat × Entry)} {i : List Nat}
    (h : FInv p roots tA tK n i) (ha : tA' = tA) (hk : tK' = tK) : FInv p roots tA' tK' n i := by
  subst ha hk; exact h

theorem FInv.kill {A : List Nat} (h : FInv p roots tA tK n i) (c : Clean p roots A) (s : Star) :
    FInv p roots (tA || decide (s = .A)) (tK || decide (s = .K)) (dset n (p.star s) { m := .unknown })
      (i.filter (· ≠ p.star s)) := by
  cases s
  · exact h.update p.va _ _ (by simp) (fun _ => contains_filter_ne) (fun _ => ⟨by simp, .inr rfl⟩)
      (fun ne => absurd rfl ne) (fun e => absurd e c.ne) (fun _ => by simp) (fun hp => absurd hp c.vaPar)
      (fun hr => absurd hr c.vaRoot)
  · exact h.update p.vk _ _ (by simp) (fun _ => contains_filter_ne) (fun e => absurd e.symm c.ne)
      (fun _ => ⟨by simp, fun b => by simpa [Prog.star, c.ne] using b⟩) (fun _ => ⟨by simp, .inr rfl⟩)
      (fun ne => absurd rfl ne) (fun hp => absurd hp c.vkPar) (fun hr => absurd hr c.vkRoot)

set_option linter.unusedVariables false in
theorem dget_taintEntry (n : List (Nat × Entry)) (x : Nat) (e : Entry) (y : Nat) (he : dget n x = some e) :
    dget (dset n x { e with tainted := true }) y =
      if y = x then some { e with tainted := true } else dget n y := by
  rw [dget_dset]

/-- a parameter used as callee through an attribute: `cb.method(*args)` -/
theorem FInv.taint_other (h : FInv p roots tA tK n i) (x : Nat) (e : Entry) (he : dget n x = some e)
    (hva : x ≠ p.va) (hvk : x ≠ p.vk) :
    FInv p roots tA tK (dset n x { e with tainted := true }) i :=
  h.update x _ i (h.flatm x e he) (fun _ hy => hy) (fun e => absurd e hva) (fun _ => ⟨rfl, id⟩)
    (fun e => absurd e hvk) (fun _ => rfl)
    (fun hp => by obtain ⟨e', a, b⟩ := h.par x hp; rw [he] at a; cases a; exact b)
    (fun hr => Classical.byContradiction fun hp => by rw [h.glob x hr hp] at he; cases he)

/-- the tag `process_parameters` gives the marker of star `s` -/
def _root_.SV.Star.tag : Star → StarTag
  | .A => .va
  | .K => .vk

theorem FInv.star_entry (h : FInv p roots tA tK n i) (s : Star) :
    ∃ e, dget n (p.star s) = some e ∧ (e.m = .arg (p.star s) (some s.tag) ∨
      (e.m = .unknown ∧ (tA || decide (s = .A)) = tA ∧ (tK || decide (s = .K)) = tK)) := by
  cases s
  · cases tA with
    | false => exact ⟨_, (h.vaP rfl).1, .inl rfl⟩
    | true =>
      obtain ⟨e, he, ht⟩ := h.vaT rfl
      exact ⟨e, he, ht.elim (fun x => .inl x.2) (fun x => .inr ⟨x, rfl, by simp⟩)⟩
  · cases tK with
    | false => exact ⟨_, h.vkP rfl, .inl rfl⟩
    | true =>
      obtain ⟨e, he, ht⟩ := h.vkT rfl
      exact ⟨e, he, ht.elim (fun x => .inl x.2) (fun x => .inr ⟨x, by simp, rfl⟩)⟩

/-- tainting star `s` through its own entry (`args.count(..)`, `kwargs.pop(..)`) -/
theorem FInv.taint {A : List Nat} (h : FInv p roots tA tK n i) (c : Clean p roots A) (s : Star) (e : Entry) (he : dget n (p.star s) = some e)
    (hem : e.m = .arg (p.star s) (some s.tag)) :
    FInv p roots (tA || decide (s = .A)) (tK || decide (s = .K)) (dset n (p.star s) { e with tainted := true }) i := by
  cases s
  · exact h.update p.va _ i (h.flatm _ e he) (fun _ hy => hy) (fun _ => ⟨by simp, .inl ⟨rfl, hem⟩⟩)
      (fun ne => absurd rfl ne) (fun e => absurd e c.ne) (fun _ => by simp) (fun hp => absurd hp c.vaPar)
      (fun hr => absurd hr c.vaRoot)
  · exact h.update p.vk _ i (h.flatm _ e he) (fun _ hy => hy) (fun e => absurd e.symm c.ne)
      (fun _ => ⟨by simp, id⟩) (fun _ => ⟨by simp, .inl ⟨rfl, hem⟩⟩) (fun ne => absurd rfl ne)
      (fun hp => absurd hp c.vkPar) (fun hr => absurd hr c.vkRoot)

/-- loading the star object itself: `visit_Name` leaves an immutable name alone and forgets the
    entry of any other.  Only a pristine `*args` is immutable: `**kwargs` is forgotten at once,
    `*args` only when its flag is up already -/
theorem FInv.load_star {A : List Nat} (h : FInv p roots tA tK n i) (c : Clean p roots A) (s : Star) :
    ∃ n' i', (∀ cs, visitName (Flat.mk kids rev n i cs) (p.star s) .load = Flat.mk kids rev n' i' cs) ∧
      FInv p roots tA (tK || decide (s = .K)) n' i' := by
  cases s with
  | A =>
    by_cases hi : i.contains (p.star .A) = true
    · exact ⟨n, i, fun cs => by rw [visitName_mk, hi]; rfl, h.flags_eq rfl (by simp)⟩
    · have htA : tA = true := by
        cases tA with
        | true => rfl
        | false => exact absurd (h.vaP rfl).2 hi
      exact ⟨_, _, fun cs => by rw [visitName_mk, Bool.eq_false_iff.2 hi]; rfl,
        (h.kill c .A).flags_eq (by simp [htA]) rfl⟩
  | K =>
    have hi : i.contains (p.star .K) = false := by
      cases hc : i.contains (p.star .K) with
      | false => rfl
      | true => exact absurd (h.immOnly p.vk hc) (Ne.symm c.ne)
    exact ⟨_, _, fun cs => by rw [visitName_mk, hi]; rfl, (h.kill c .K).flags_eq (by simp) rfl⟩

theorem instance_attr (v : RM) (a : Nat) : (RM.attr v a).instance = v.instance := rfl

theorem calleeMarker_root (params : List Nat) (t : Tree) (ht : isCalleeTree t = true) :
    ∃ r, calleeRoot t = some r ∧
      (calleeMarker params t).instance = if params.contains r then .arg r none else .nm r := by
  induction t, ht using calleeTree_induction with
  | name id => exact ⟨id, rfl, by simp only [calleeMarker]; split <;> rfl⟩
  | attr v a hv ih => exact ih

theorem calleeMarker_instance (params : List Nat) (t : Tree) (ht : isCalleeTree t = true) (x : Nat)
    (tg : Option StarTag) (h : (calleeMarker params t).instance = .arg x tg) : calleeRoot t = some x := by
  obtain ⟨r, hr, e⟩ := calleeMarker_root params t ht
  rw [e] at h
  split at h
  · cases h; exact hr
  · cases h

theorem markerIn_eq_calleeMarker (h : FInv p roots tA tK n i) (t : Tree) (ht : isCalleeTree t = true)
    (hr : ∀ r, calleeRoot t = some r → r ∈ roots) : markerIn n t = calleeMarker p.params t := by
  induction t, ht using calleeTree_induction with
  | name id =>
    simp only [markerIn, calleeMarker]
    by_cases hp : id ∈ p.params
    · obtain ⟨e, he, hm⟩ := h.par id hp
      simp [he, hm, hp]
    · have := h.glob id (hr id rfl) hp
      simp [this, hp]
  | attr v a hv ih => simp only [markerIn, calleeMarker, ih hr]

theorem FInv.taintCallee_other {A : List Nat} (h : FInv p roots tA tK n i) (c : Clean p roots A) (t : Tree) (ht : isCalleeTree t = true)
    (hr : ∀ r, calleeRoot t = some r → r ∈ roots) :
    FInv p roots tA tK (taintCallee n (markerIn n t)) i ∧
      dget (taintCallee n (markerIn n t)) p.va = dget n p.va ∧
      dget (taintCallee n (markerIn n t)) p.vk = dget n p.vk := by
  obtain ⟨r, hroot, hinst⟩ := calleeMarker_root p.params t ht
  have hrr := hr r hroot
  have hrva : r ≠ p.va := fun e => c.vaRoot (e ▸ hrr)
  have hrvk : r ≠ p.vk := fun e => c.vkRoot (e ▸ hrr)
  rw [markerIn_eq_calleeMarker h t ht hr]
  unfold taintCallee
  cases hm : calleeMarker p.params t with
  | attr v a =>
    rw [hm] at hinst
    simp only [hinst]
    by_cases hp : r ∈ p.params
    · obtain ⟨e, he, -⟩ := h.par r hp
      simp only [List.contains_iff_mem, hp, if_true, he]
      refine ⟨h.taint_other r e he hrva hrvk, ?_, ?_⟩
      · rw [dget_dset]; simp [Ne.symm hrva]
      · rw [dget_dset]; simp [Ne.symm hrvk]
    · rw [if_neg (by simpa using hp)]
      exact ⟨h, rfl, rfl⟩
  | _ => exact ⟨h, rfl, rfl⟩

theorem visit_other_one (t : Tree) (st : VState) : visit false (.other (.cons t .nil)) st = visit false t st := by
  simp [visit, visitList]

theorem visit_other_two (t u : Tree) (st : VState) :
    visit false (.other (.cons t (.cons u .nil))) st = visit false u (visit false t st) := by
  simp [visit, visitList]

theorem starFound_va (h : FInv p roots tA tK n i) :
    starFound n p.va = if tA then .unknown else .arg p.va (some .va) := by
  cases tA with
  | false => exact starFound_pristine (h.vaP rfl).1
  | true =>
    obtain ⟨e, he, ht⟩ := h.vaT rfl
    exact starFound_tainted he ht

theorem starFound_vk (h : FInv p roots tA tK n i) :
    starFound n p.vk = if tK then .unknown else .arg p.vk (some .vk) := by
  cases tK with
  | false => exact starFound_pristine (h.vkP rfl)
  | true =>
    obtain ⟨e, he, ht⟩ := h.vkT rfl
    exact starFound_tainted he ht
end

theorem hasHide_star (u t : Bool) (x : Nat) (tg : StarTag) :
    hasHide (if u then some (if t then RM.unknown else .arg x (some tg)) else none) true tg =
      (u && !t, u && t) := by
  cases u <;> cases t <;> simp [hasHide]

theorem starMarker_eq (u t : Bool) (x : Nat) (tg : StarTag) :
    (if u then some (if t then RM.unknown else .arg x (some tg)) else none) =
      if u && !t then some (.arg x (some tg)) else if u && t then some .unknown else none := by
  cases u <;> cases t <;> rfl

theorem sim_call (p : Prog) (roots A : List Nat) (c : Clean p roots A) {ns : Nat}
    (hmain : ∀ x ∈ roots ++ [p.va, p.vk], MainName kids ns x) (force : Bool)
    (callee : Tree) (npos : Nat) (kws : List Nat) (uva uvk : Bool)
    (hc : isCalleeTree callee = true) (hroot : ∀ r, calleeRoot callee = some r → r ∈ roots)
    (tA tK : Bool) (n : List (Nat × Entry)) (i : List Nat) (cs : List CallRec) (h : FInv p roots tA tK n i)
    (hnow : (!force && ((mkAt ns kids rev n i cs).ns ns).parent.isSome) = false) :
    ∃ n' r, visit force (callTree p.va p.vk callee npos kws uva uvk) (mkAt ns kids rev n i cs) =
        mkAt ns kids rev n' i (cs ++ [r]) ∧ FInv p roots tA tK n' i ∧
      forwarding [r] = (mkFwd callee npos kws uva uvk tA tK).map (FwdCall.toRec p) := by
  have hm := markerIn_eq_calleeMarker h callee hc hroot
  have hinst : ∀ x t, (markerIn n callee).instance = .arg x t → MainName kids ns x := by
    intro x t hx
    rw [hm] at hx
    exact hmain x (List.mem_append_left _ (hroot x (calleeMarker_instance p.params callee hc x t hx)))
  rw [visit_callTree_at force p.va p.vk (hmain _ (by simp)) (hmain _ (by simp)) callee hc
    (fun r hr => hmain r (List.mem_append_left _ (hroot r hr))) npos kws uva uvk n i cs hnow hinst]
  obtain ⟨h2, eva, evk⟩ := h.taintCallee_other c callee hc hroot
  refine ⟨_, _, rfl, h2, ?_⟩
  have sva := starFound_va h2
  have svk := starFound_vk h2
  rw [hm] at sva svk
  simp only [hm, sva, svk, hasHide_star]
  rw [starMarker_eq uva, starMarker_eq uvk]
  unfold mkFwd forwarding
  by_cases huse : (uva && !tA || uvk && !tK) = true <;> simp [huse, FwdCall.toRec]

/-- the shape every statement-level simulation result has: the statement leaves a canonical state,
    with the child namespaces and queue entries it adds, and appends the ground-truth calls -/
def NSimRes (kids : List NS) (rev : List (Tree × Nat)) (p : Prog) (roots : List Nat) (t : Tree)
    (n : List (Nat × Entry)) (i : List Nat) (cs : List CallRec)
    (calls : List FwdCall) (tA' tK' : Bool) (newKids : List NS) (newRev : List (Tree × Nat)) : Prop :=
  ∃ n' i' recs, visit false t (mk kids rev n i cs) = mk (kids ++ newKids) (rev ++ newRev) n' i' (cs ++ recs) ∧
    FInv p roots tA' tK' n' i' ∧ forwarding recs = calls.map (FwdCall.toRec p)

theorem sim_fwd (p : Prog) (roots A : List Nat) (c : Clean p roots A)
    (callee : Tree) (npos : Nat) (kws : List Nat) (uva uvk : Bool) (target : Option Nat)
    (hc : isCalleeTree callee = true) (hroot : ∀ r, calleeRoot callee = some r → r ∈ roots)
    (htgt : ∀ x, target = some x → x ∈ A)
    (tA tK : Bool) (n : List (Nat × Entry)) (i : List Nat) (cs : List CallRec) (h : FInv p roots tA tK n i) :
    NSimRes kids rev p roots (renderS p.va p.vk (.fwd callee npos kws uva uvk target)) n i cs
      (mkFwd callee npos kws uva uvk tA tK) tA tK [] [] := by
  have step1 : ∃ n1 i1, FInv p roots tA tK n1 i1 ∧
      visit false (renderS p.va p.vk (.fwd callee npos kws uva uvk target)) (mk kids rev n i cs) =
        visit false (callTree p.va p.vk callee npos kws uva uvk) (mk kids rev n1 i1 cs) := by
    cases target with
    | none =>
      exact ⟨n, i, h, by simp only [renderS, stmtOf, visit_other_one]⟩
    | some x =>
      obtain ⟨x1, x2, x3, x4⟩ := c.asg x (htgt x rfl)
      refine ⟨dset n x { m := .unknown }, i.filter (· ≠ x), h.assign_other x x1 x2 x3 x4 _ rfl, ?_⟩
      simp only [renderS, stmtOf, visit_other_two, visit_name_write x .store (by decide)]
  obtain ⟨n1, i1, h1, e1⟩ := step1
  obtain ⟨n', r, e, h', hr⟩ := sim_call (kids := kids) (rev := rev) p roots A c (fun x _ => mainName_zero kids x) false
    callee npos kws uva uvk hc hroot tA tK n1 i1 cs h1 rfl
  exact ⟨n', i1, [r], by rw [List.append_nil, List.append_nil]; exact e1.trans e, h', hr⟩

theorem sim_mutate (p : Prog) (roots A : List Nat) (c : Clean p roots A) (s : Star) (m : Nat)
    (tA tK : Bool) (n : List (Nat × Entry)) (i : List Nat) (cs : List CallRec) (h : FInv p roots tA tK n i) :
    NSimRes kids rev p roots (renderS p.va p.vk (.mutate s m)) n i cs [] (tA || decide (s = .A)) (tK || decide (s = .K))
      [] [] := by
  have hshape : renderS p.va p.vk (.mutate s m) =
      .other (.cons (callTree p.va p.vk (.attr (.name (p.star s) .load) m) 0 [] false false) .nil) := by
    cases s <;> rfl
  unfold NSimRes
  rw [List.append_nil, List.append_nil, hshape, visit_other_one, visit_callTree _ _ _ rfl]
  refine ⟨_, _, _, rfl, ?_, by simp [forwarding, hasHide]⟩
  obtain ⟨e, he, hm | ⟨hm, hf⟩⟩ := h.star_entry s
  · simp only [markerIn, taintCallee, instance_attr, he, hm, RM.instance]
    have := h.taint c s e he hm
    rwa [hm] at this
  · simp only [markerIn, taintCallee, instance_attr, he, hm, RM.instance]
    exact h.flags_eq hf.1 hf.2

theorem taintStep_of_ne_attr {w : RM} (hw : ∀ v a, w ≠ .attr v a) (st : VState) : taintStep w st = st := by
  unfold taintStep
  split
  · exact absurd rfl (hw _ _)
  · rfl

theorem markerIn_name_ne_attr {n : List (Nat × Entry)} {x : Nat}
    (hflat : ∀ e, dget n x = some e → ∀ v a, e.m ≠ .attr v a) (v : RM) (a : Nat) :
    markerIn n (.name x .load) ≠ .attr v a := by
  simp only [markerIn]
  cases hd : dget n x with
  | none => simp
  | some e => exact hflat e hd v a

theorem visit_handOver (hn x : Nat) (n : List (Nat × Entry)) (i : List Nat) (cs : List CallRec)
    (hflat : ∀ e, dget n hn = some e → ∀ v a, e.m ≠ .attr v a) (n1 : List (Nat × Entry)) (i1 : List Nat)
    (hv : visitName (mk kids rev n i cs) x .load = mk kids rev n1 i1 cs) :
    ∃ r : CallRec, r.useVa = false ∧ r.useVk = false ∧
      visit false (.call (.name hn .load) (.plain (.name x .load) .nil) .nil) (mk kids rev n i cs) = mk kids rev n1 i1 (cs ++ [r]) := by
  refine ⟨{ wrapped := markerIn n (.name hn .load), args := [starFound n x], kwargs := [], varargs := none,
            varkwargs := none, useVa := false, useVk := false, hideA := false, hideK := false }, rfl, rfl, ?_⟩
  have hres : resolveCore (.name hn .load) true (mk kids rev n i cs) =
      ((markerIn n (.name hn .load), (resolveCore (.name hn .load) true (mk kids rev n i cs)).1.2), mk kids rev n i cs) :=
    Prod.ext (Prod.ext (resolveCore_marker_at (c := 0) n i cs _ rfl (fun r _ => mainName_zero kids r)) rfl)
      (resolveCore_callee _ rfl _ _)
  have hsf : untaint (resolveCore (.name x .load) false (mk kids rev n i cs)).1 = starFound n x :=
    untaint_resolveCore_name (c := 0) (mainName_zero kids x) n i cs false
  rw [visit_call_now _ _ _ _ _ rfl, hres]
  simp only [isNameNode, if_true, taintStep_of_ne_attr (markerIn_name_ne_attr hflat), resolveArgs, resolveKws, starStep, dstarStep,
    ArgList.starCount, KwList.dstarCount, hsf, resolveCore_callee (.name x .load) rfl, visit, hv]
  simp [hasHide, mk]

theorem taintCallee_name (n : List (Nat × Entry)) (x : Nat) (hflat : ∀ e, dget n x = some e → ∀ v a, e.m ≠ .attr v a) :
    taintCallee n (markerIn n (.name x .load)) = n := by
  unfold taintCallee
  split
  · next h => exact absurd h (markerIn_name_ne_attr hflat _ _)
  · rfl

theorem visitList_cons (t : Tree) (ts : TreeList) (st : VState) :
    visitList (.cons t ts) st = visitList ts (visit false t st) := by
  simp [visitList]

theorem forwarding_append (a b : List CallRec) : forwarding (a ++ b) = forwarding a ++ forwarding b := by
  simp [forwarding]

theorem simS (p : Prog) (roots A : List Nat) (c : Clean p roots A) (s : Stmt) (hfl : flatS s = true)
    (hb : ∀ body, s ≠ .block body) (hok : okS [p.va, p.vk] s = true) (hA : ∀ x ∈ assignedS s, x ∈ A)
    (hR : ∀ r ∈ rootsS s, r ∈ roots) (tA tK : Bool) (n : List (Nat × Entry)) (i : List Nat) (cs : List CallRec)
    (h : FInv p roots tA tK n i) :
    NSimRes kids rev p roots (renderS p.va p.vk s) n i cs (truthS s (tA, tK)).1 (truthS s (tA, tK)).2.1 (truthS s (tA, tK)).2.2
      [] [] := by
  cases s with
  | fwd callee npos kws uva uvk target =>
    simp only [okS, Bool.and_eq_true] at hok
    have hc := hok.1.1
    simp only [truthS]
    exact sim_fwd p roots A c callee npos kws uva uvk target hc
      (fun r hr => hR r (Option.mem_toList.2 hr)) (fun x hx => hA x (Option.mem_toList.2 hx)) tA tK n i cs h
  | rebind st =>
    refine ⟨_, _, [], ?_, h.kill c st, by simp [truthS, forwarding]⟩
    simp only [renderS, stmtOf, visit_other_two, visit_name_write _ .store (by decide), visit_const, List.append_nil]
    -- `renderS` writes the star's name as a `match` on `st`, `FInv.kill` as `p.star st`
    rfl
  | delete st =>
    refine ⟨_, _, [], ?_, h.kill c st, by simp [truthS, forwarding]⟩
    simp only [renderS, visit_other_one, visit_name_write _ .del (by decide), List.append_nil]
    rfl
  | mutate st m => exact sim_mutate p roots A c st m tA tK n i cs h
  | handOver st hn =>
    obtain ⟨n', i', hvn, h'⟩ := h.load_star (kids := kids) (rev := rev) c st
    obtain ⟨r, r1, r2, hv⟩ := visit_handOver hn (p.star st) n i cs (fun e he => h.flatm hn e he) n' i' (hvn cs)
    refine ⟨n', i', [r], ?_, h'.flags_eq (by simp [truthS, taintsNow]) (by simp [truthS, taintsNow]),
      by simp [truthS, forwarding, r1, r2]⟩
    have hshape : renderS p.va p.vk (.handOver st hn) =
        .other (.cons (.call (.name hn .load) (.plain (.name (p.star st) .load) .nil) .nil) .nil) := by
      cases st <;> rfl
    rw [List.append_nil, List.append_nil, hshape, visit_other_one]
    exact hv
  | decoy hn k =>
    have hct : isCalleeTree (.name hn .load) = true := rfl
    have hshape : renderS p.va p.vk (.decoy hn k) =
        .other (.cons (callTree p.va p.vk (.name hn .load) k [] false false) .nil) := by
      simp [renderS, stmtOf, callTree, kwConsts]
    have ht : truthS (.decoy hn k) (tA, tK) = ([], (tA, tK)) := by simp [truthS, taintsNow]
    rw [ht]
    unfold NSimRes
    rw [List.append_nil, List.append_nil, hshape, visit_other_one, visit_callTree _ _ _ hct, taintCallee_name n hn (fun e he => h.flatm hn e he)]
    exact ⟨_, _, _, rfl, h, by simp [forwarding, hasHide]⟩
  | unrelated x =>
    obtain ⟨x1, x2, x3, x4⟩ := c.asg x (hA x (by simp [assignedS]))
    have ht : truthS (.unrelated x) (tA, tK) = ([], (tA, tK)) := by simp [truthS, taintsNow]
    rw [ht]
    refine ⟨dset n x { m := .unknown }, i.filter (· ≠ x), [], ?_,
      h.assign_other x x1 x2 x3 x4 _ rfl, by simp [forwarding]⟩
    simp only [renderS, stmtOf, visit_other_two, visit_name_write x .store (by decide), visit_const, List.append_nil]
  | block body => exact absurd rfl (hb body)
  | nested _ => simp [flatS] at hfl
  | nonlocalRebind _ => simp [flatS] at hfl

/-- a visitor state with a single namespace and explicit `has*` flags (the state before
    `process_parameters` has finished) -/
def mkG (names : List (Nat × Entry)) (imm : List Nat) (a b : Bool) : VState :=
  { nss := [{ parent := none, names := names, nonlocals := [], imm := imm }], cur := 0, calls := [],
    revisit := [], hasVa := a, hasVk := b }

theorem assign_mkG (n : List (Nat × Entry)) (i : List Nat) (a b : Bool) (x : Nat) (e : Entry) :
    (mkG n i a b).assign x e = mkG (dset n x e) (i.filter (· ≠ x)) a b := by
  simp [VState.assign, mkG, VState.ns, VState.setNs, dget]

theorem setImm_mkG (n : List (Nat × Entry)) (i : List Nat) (a b : Bool) (x : Nat) :
    (mkG n i a b).setImm x = mkG n (if i.contains x then i else x :: i) a b := by
  simp [VState.setImm, mkG, VState.ns, VState.setNs, dget]

/-- the namespace entries `process_parameters` creates for the ordinary parameters -/
def paramEntries (ps : List Nat) (n : List (Nat × Entry)) : List (Nat × Entry) :=
  ps.foldl (fun n x => dset n x { m := .arg x none }) n

theorem foldl_assign_mkG (ps : List Nat) (n : List (Nat × Entry)) (i : List Nat) (a b : Bool) :
    ps.foldl (fun st x => st.assign x { m := .arg x none }) (mkG n i a b) =
      mkG (paramEntries ps n) (ps.foldl (fun i x => i.filter (· ≠ x)) i) a b := by
  induction ps generalizing n i with
  | nil => rfl
  | cons x t ih =>
    simp only [List.foldl_cons, assign_mkG, paramEntries]
    exact ih _ _

theorem filter_nil_fold (ps : List Nat) : ps.foldl (fun (i : List Nat) x => i.filter (· ≠ x)) [] = [] := by
  induction ps with
  | nil => rfl
  | cons x t ih => simpa using ih

theorem dget_paramEntries (ps : List Nat) (n : List (Nat × Entry)) (x : Nat) :
    dget (paramEntries ps n) x = if x ∈ ps then some { m := .arg x none } else dget n x := by
  unfold paramEntries
  induction ps generalizing n with
  | nil => simp
  | cons y t ih =>
    simp only [List.foldl_cons]
    rw [ih]
    by_cases hx : x ∈ t
    · simp [hx]
    · simp only [hx, if_false, List.mem_cons, or_false]
      rw [dget_dset]
      by_cases hxy : x = y
      · subst hxy; simp
      · simp [hxy]

theorem processParams_main (p : Prog) :
    processParams { nss := [{ parent := none }] } [] p.params [] (some p.va) (some p.vk) true =
      mk [] [] (dset (dset (paramEntries p.params []) p.va { m := .arg p.va (some .va) }) p.vk { m := .arg p.vk (some .vk) })
        (([p.va] : List Nat).filter (· ≠ p.vk)) [] := by
  have h0 : ({ nss := [{ parent := none }] } : VState) = mkG [] [] false false := rfl
  unfold processParams
  simp only [List.nil_append, List.append_nil, if_true]
  rw [h0, foldl_assign_mkG, filter_nil_fold]
  simp only [assign_mkG, setImm_mkG]
  simp [mkG, mk]

theorem initial_inv (p : Prog) (roots A : List Nat) (c : Clean p roots A) :
    FInv p roots false false
      (dset (dset (paramEntries p.params []) p.va { m := .arg p.va (some .va) }) p.vk { m := .arg p.vk (some .vk) })
      (([p.va] : List Nat).filter (· ≠ p.vk)) := by
  have hne := c.ne
  refine ⟨?_, (by intro ht; cases ht), ?_, (by intro ht; cases ht), ?_, ?_, ?_, ?_⟩
  · intro _
    refine ⟨?_, by simp [hne]⟩
    rw [dget_dset]; simp only [hne, if_false]
    rw [dget_dset]; simp
  · intro _; rw [dget_dset]; simp
  · intro x hx
    have x1 : x ≠ p.va := fun e => c.vaPar (e ▸ hx)
    have x2 : x ≠ p.vk := fun e => c.vkPar (e ▸ hx)
    refine ⟨{ m := .arg x none }, ?_, rfl⟩
    rw [dget_dset]; simp only [x2, if_false]
    rw [dget_dset]; simp only [x1, if_false]
    rw [dget_paramEntries]; simp [hx]
  · intro r hr hrp
    have r1 : r ≠ p.va := fun e => c.vaRoot (e ▸ hr)
    have r2 : r ≠ p.vk := fun e => c.vkRoot (e ▸ hr)
    rw [dget_dset]; simp only [r2, if_false]
    rw [dget_dset]; simp only [r1, if_false]
    rw [dget_paramEntries]; simp [hrp, dget]
  · intro x e hx v a
    rw [dget_dset] at hx
    split at hx
    · cases hx; intro hh; cases hh
    · rw [dget_dset] at hx
      split at hx
      · cases hx; intro hh; cases hh
      · rw [dget_paramEntries] at hx
        split at hx
        · cases hx; intro hh; cases hh
        · simp [dget] at hx
  · intro x hx
    simp only [List.contains_iff_mem, List.mem_filter, List.mem_singleton] at hx
    exact hx.1

end Flat
end SV
