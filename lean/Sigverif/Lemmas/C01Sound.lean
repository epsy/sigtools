/-
  Lemmas/C01Sound.lean — bucket-level acceptance of pure calls, soundness of one `mergeStep`
  for it, and the bridges to `accepts` at both ends of `merge`; the fold and `merge` send back
  whatever a step sends back.
-/
import Sigverif.Lemmas.C01Step
import Sigverif.Lemmas.Core.Accepts
namespace SV

/-- bucket-level acceptance of the all-positional call with `n` arguments (by counting) -/
def accPosB (B : Sorted) (n : Nat) : Prop :=
  reqCount (B.pos ++ B.pok) ≤ n ∧ (n ≤ B.pos.length + B.pok.length ∨ B.va.isSome = true) ∧
  ¬ anyReq B.kwo

/-- bucket-level acceptance of the all-keyword call with keywords `K` -/
def accKwB (B : Sorted) (K : List Nat) : Prop :=
  ¬ anyReq B.pos ∧ (∀ k ∈ K, k ∈ names B.pok ∨ k ∈ names B.kwo ∨ B.vk.isSome = true) ∧
  (∀ x, hasReq B.pok x ∨ hasReq B.kwo x → x ∈ K)

theorem anyReq_iff_exists_hasReq {ps : List Param} : anyReq ps ↔ ∃ x, hasReq ps x := by
  constructor
  · rintro ⟨p, hp, hr⟩; exact ⟨p.name, p, hp, rfl, hr⟩
  · rintro ⟨x, h⟩; exact hasReq_anyReq h

/-! What a step guarantees is symmetric in the operands, so each half is shown for the left one. -/

theorem StepFacts.swap {l r m : Sorted} (F : StepFacts l r m) : StepFacts r l m :=
  ⟨by rw [F.va, Bool.and_comm], by rw [F.vk, Bool.and_comm], F.wr, F.wl, F.lenr, F.lenl,
    fun x h => F.kwo x h.symm, fun h => F.pos h.symm, fun x h => F.pok x h.symm,
    fun p h => ⟨(F.orig p h).2, (F.orig p h).1⟩, F.bk, F.nd⟩

theorem step_pos_left {l r m : Sorted} (F : StepFacts l r m) {n : Nat} (h : accPosB m n) :
    accPosB l n := by
  obtain ⟨h1, h2, h3⟩ := h
  have hk : reqCount m.kwo = 0 := by
    rcases Nat.eq_zero_or_pos (reqCount m.kwo) with h | h
    · exact h
    · exact absurd (anyReq_iff_reqCount.2 h) h3
  refine ⟨?_, ?_, ?_⟩
  · have := F.wl
    rw [hk, Nat.add_zero] at this
    exact Nat.le_trans this h1
  · rcases h2 with h2 | h2
    · exact F.lenl.imp_left (Nat.le_trans h2)
    · rw [F.va] at h2; simp only [Bool.and_eq_true] at h2; exact Or.inr h2.1
  · intro ha
    obtain ⟨x, hx⟩ := anyReq_iff_exists_hasReq.1 ha
    exact h3 (hasReq_anyReq (F.kwo x (Or.inl hx)))

theorem step_pos {l r m : Sorted} (F : StepFacts l r m) {n : Nat} (h : accPosB m n) :
    accPosB l n ∧ accPosB r n :=
  ⟨step_pos_left F h, step_pos_left F.swap h⟩

theorem step_kw_left {l r m : Sorted} (F : StepFacts l r m) {K : List Nat} (h : accKwB m K) :
    accKwB l K := by
  obtain ⟨h1, h2, h3⟩ := h
  refine ⟨fun ha => h1 (F.pos (Or.inl ha)), ?_, ?_⟩
  · intro k hk
    rcases h2 k hk with h | h | h
    · obtain ⟨p, hp, rfl⟩ := mem_names.1 h; exact (F.orig p (Or.inl hp)).1
    · obtain ⟨p, hp, rfl⟩ := mem_names.1 h; exact (F.orig p (Or.inr hp)).1
    · rw [F.vk] at h; simp only [Bool.and_eq_true] at h
      exact Or.inr (Or.inr h.1)
  · intro x hx
    rcases hx with hx | hx
    · rcases F.pok x (Or.inl hx) with h | h | h
      · exact absurd h h1
      · exact h3 x (Or.inl h)
      · exact h3 x (Or.inr h)
    · exact h3 x (Or.inr (F.kwo x (Or.inl hx)))

theorem step_kw {l r m : Sorted} (F : StepFacts l r m) {K : List Nat} (h : accKwB m K) :
    accKwB l K ∧ accKwB r K :=
  ⟨step_kw_left F h, step_kw_left F.swap h⟩

theorem nodup_names_filter {ps : List Param} (h : (names ps).Nodup) (f : Param → Bool) :
    (names (ps.filter f)).Nodup := h.sublist (List.filter_sublist.map _)

theorem SWF.kwInv {B : Sorted} (hs : SWF B) : KwInv B := by
  rw [KwInv, names_append]; exact hs.nodup_fill 0

theorem sortParams_kwInv (s : USig) (h : validate s.params = .ok ()) : KwInv (sortParams s) :=
  (sortParams_swf_of_validate s h).kwInv

/-- optional parameters are followed by optional parameters only: `Pairwise DF` in the words of `Param.required`,
    in which `accepts` and `reqCount` speak -/
def OptSuffix (ps : List Param) : Prop :=
  ps.Pairwise (fun p q => p.required = false → q.required = false)

theorem optSuffix_iff {ps : List Param} : OptSuffix ps ↔ ps.Pairwise DF := by
  have hd : ∀ a : Param, (a.required = false) = (a.dflt.isSome = true) := fun a => by
    cases h : a.dflt <;> simp [Param.required, h]
  unfold OptSuffix DF
  simp only [hd]

theorem validate_suffix {ps : List Param} (h : validate ps = .ok ()) : OptSuffix (positionals ps) :=
  optSuffix_iff.2 ((validate_iff ps).1 h).2.2

theorem optSuffix_take {ps : List Param} (h : OptSuffix ps) {n : Nat} (hn : reqCount ps ≤ n) :
    ∀ p ∈ ps, p.required = true → p ∈ ps.take n := by
  induction ps generalizing n with
  | nil => simp
  | cons a t ih =>
    obtain ⟨h1, h2⟩ := List.pairwise_cons.1 h
    rw [reqCount_cons] at hn
    intro p hp hr
    cases ha : a.required
    · exfalso
      rcases List.mem_cons.1 hp with rfl | hp
      · simp [ha] at hr
      · have := h1 p hp ha; simp [this] at hr
    · simp only [ha, if_true] at hn
      obtain ⟨n', rfl⟩ : ∃ n', n = n' + 1 := ⟨n - 1, by omega⟩
      rw [List.take_succ_cons]
      rcases List.mem_cons.1 hp with rfl | hp
      · exact List.mem_cons_self
      · exact List.mem_cons_of_mem _ (ih h2 (by omega) p hp hr)

theorem reqCount_le_of_lt {ps : List Param} {n : Nat}
    (h : ∀ i p, ps[i]? = some p → p.required = true → i < n) : reqCount ps ≤ n := by
  induction ps generalizing n with
  | nil => exact Nat.zero_le n
  | cons a t ih =>
    cases n with
    | zero =>
      refine Nat.le_of_eq (reqCount_eq_zero.2 fun p hp => Bool.eq_false_iff.2 fun hr => ?_)
      obtain ⟨i, hi⟩ := List.getElem?_of_mem hp
      exact Nat.not_lt_zero i (h i p hi hr)
    | succ n' =>
      rw [reqCount_cons]
      have := ih fun i p hi hr => Nat.lt_of_succ_lt_succ (h (i + 1) p hi hr)
      split <;> omega

/-- the all-positional call: counting the required parameters, which come first, is `accB` without keywords -/
theorem accPosB_iff_accB {B : Sorted} (hs : SWF B) (n : Nat) : accPosB B n ↔ accB B n [] := by
  constructor
  · rintro ⟨h1, h2, h3⟩
    refine ⟨h2, fun _ hk => (nomatch hk), fun i p hi hr => .inl ?_, fun p hp hr => absurd ⟨p, hp, hr⟩ h3⟩
    exact lt_of_mem_names_take hs.nodup_pp hi
      (mem_names_of_mem (optSuffix_take (optSuffix_iff.2 hs.df) h1 p (List.mem_of_getElem? hi) hr))
  · rintro ⟨b1, -, b3, b4⟩
    exact ⟨reqCount_le_of_lt fun i p hi hr => (b3 i p hi hr).resolve_right fun h => (nomatch h.2), b1,
      fun ⟨p, hp, hr⟩ => nomatch b4 p hp hr⟩

theorem accKwB_iff_accB {B : Sorted} (hs : SWF B) (K : List Nat) : accKwB B K ↔ accB B 0 K := by
  constructor
  · rintro ⟨a1, a2, a3⟩
    refine ⟨.inl (Nat.zero_le _), a2, fun i p hi hr => .inr ?_, fun p hp hr => a3 _ (.inr ⟨p, hp, rfl, hr⟩)⟩
    rcases List.mem_append.1 (List.mem_of_getElem? hi) with hp | hp
    · exact absurd ⟨p, hp, hr⟩ a1
    · exact ⟨hp, a3 _ (.inl ⟨p, hp, rfl, hr⟩)⟩
  · rintro ⟨-, b2, b3, b4⟩
    refine ⟨?_, b2, ?_⟩
    · rintro ⟨p, hp, hr⟩
      obtain ⟨i, hi⟩ := List.getElem?_of_mem (List.mem_append_left B.pok hp)
      rcases b3 i p hi hr with h | ⟨h, -⟩
      · exact absurd h (Nat.not_lt_zero i)
      · cases (hs.bk.pos p hp).symm.trans (hs.bk.pok p h)
    · rintro x (⟨p, hp, rfl, hr⟩ | ⟨p, hp, rfl, hr⟩)
      · obtain ⟨i, hi⟩ := List.getElem?_of_mem (List.mem_append_right B.pos hp)
        exact (b3 i p hi hr).elim (fun h => absurd h (Nat.not_lt_zero i)) (·.2)
      · exact b4 p hp hr

theorem accPosB_iff {B : Sorted} (hs : SWF B) (n : Nat) : accPosB B n ↔ (sview B).acc n [] := by
  rw [accPosB_iff_accB hs, accB_iff hs]
  exact (and_iff_left fun _ hk => nomatch hk).symm

theorem accKwB_iff {B : Sorted} (hs : SWF B) (K : List Nat) : accKwB B K ↔ (sview B).acc 0 K := by
  rw [accKwB_iff_accB hs, accB_iff hs]
  exact (and_iff_left fun _ _ _ h => nomatch h).symm

theorem input_pos (s : USig) (h : validate s.params = .ok ()) {n : Nat}
    (ha : accPosB (sortParams s) n) : accepts s.params n [] = true := by
  rw [accepts_sortParams s h, accepts_all_iff _ (sortParams_bk s) _ _ .nil]
  exact (accPosB_iff (sortParams_swf_of_validate s h) n).1 ha

theorem input_kw (s : USig) (h : validate s.params = .ok ()) {K : List Nat} (hK : K.Nodup)
    (ha : accKwB (sortParams s) K) : accepts s.params 0 K = true := by
  rw [accepts_sortParams s h, accepts_all_iff _ (sortParams_bk s) _ _ hK]
  exact (accKwB_iff (sortParams_swf_of_validate s h) K).1 ha

section Result
variable {B : Sorted}

theorem result_pos (bk : BucketKinds B) (hv : validate B.all = .ok ()) {n : Nat}
    (ha : accepts B.all n [] = true) : accPosB B n :=
  (accPosB_iff (.of_validate bk hv) n).2 ((accepts_all_iff _ bk _ _ .nil).1 ha)

theorem result_kw (bk : BucketKinds B) (hv : validate B.all = .ok ()) {K : List Nat}
    (ha : accepts B.all 0 K = true) : accKwB B K :=
  (accKwB_iff (.of_validate bk hv) K).2 (accepts_all_view bk ha)

end Result

theorem mergeFold_back {Inv P : Sorted → Prop}
    (step : ∀ {l r m}, Inv l → Inv r → mergeStep l r = .ok m → Inv m ∧ (P m → P l ∧ P r))
    (ss : List USig) (acc res : Sorted) (hacc : Inv acc) (hss : ∀ s ∈ ss, Inv (sortParams s))
    (h : mergeFold acc ss = .ok res) :
    Inv res ∧ (P res → P acc ∧ ∀ s ∈ ss, P (sortParams s)) := by
  induction ss generalizing acc with
  | nil =>
    cases h
    exact ⟨hacc, fun h => ⟨h, fun _ hs => nomatch hs⟩⟩
  | cons s ss ih =>
    obtain ⟨acc', hm, h⟩ := mergeFold_cons_ok h
    obtain ⟨i1, i2⟩ := step hacc (hss s List.mem_cons_self) hm
    obtain ⟨j1, j2⟩ := ih acc' i1 (fun t ht => hss t (List.mem_cons_of_mem _ ht)) h
    refine ⟨j1, fun hres => ?_⟩
    obtain ⟨k1, k2⟩ := j2 hres
    obtain ⟨l1, l2⟩ := i2 k1
    exact ⟨l1, List.forall_mem_cons.2 ⟨l2, k2⟩⟩

/-- Soundness of `merge` for a call shape, from a bucket-level reading `P` of the call that
    acceptance by the flattened result implies, that acceptance by an input follows from, and
    that every step sends back to both operands. -/
theorem merge_sound_of {Inv P : Sorted → Prop} {call : List Param → Prop} {ss : List USig}
    {R : USig}
    (step : ∀ {l r m}, Inv l → Inv r → mergeStep l r = .ok m → Inv m ∧ (P m → P l ∧ P r))
    (hss : ∀ s ∈ ss, Inv (sortParams s))
    (result : ∀ B, Inv B → validate B.all = .ok () → R.params = B.all → call B.all → P B)
    (input : ∀ s ∈ ss, P (sortParams s) → call s.params)
    (hR : merge ss = .ok R) (hacc : call R.params) : ∀ s ∈ ss, call s.params := by
  obtain ⟨s0, ss', res, rfl, hf, ha⟩ := merge_inv hR
  obtain ⟨hvr, rfl⟩ := applyParams_ok _ _ _ ha
  obtain ⟨hres, hback⟩ := mergeFold_back step ss' _ res (hss s0 List.mem_cons_self)
    (fun t ht => hss t (List.mem_cons_of_mem _ ht)) hf
  obtain ⟨h0, hrest⟩ := hback (result res hres hvr rfl hacc)
  intro s hs
  apply input s hs
  rcases List.mem_cons.1 hs with rfl | hs
  · exact h0
  · exact hrest s hs

/-! ### pure calls, for inputs that `validate` accepts

`WF` also asks for at most one `*args` and one `**kwargs`; neither is needed here. -/

theorem mergeStep_pure {l r m : Sorted} (hl : BucketKinds l ∧ KwInv l)
    (hr : BucketKinds r ∧ KwInv r) (h : mergeStep l r = .ok m) :
    (BucketKinds m ∧ KwInv m) ∧ StepFacts l r m :=
  have F := mergeStep_facts hl.1 hr.1 hl.2 hr.2 h
  ⟨⟨F.bk, F.nd⟩, F⟩

theorem merge_sound_pos_core (ss : List USig) (R : USig) (n : Nat)
    (hv : ∀ s ∈ ss, validate s.params = .ok ()) (hR : merge ss = .ok R)
    (hacc : accepts R.params n [] = true) :
    ∀ s ∈ ss, accepts s.params n [] = true :=
  merge_sound_of (P := (accPosB · n)) (call := fun ps => accepts ps n [] = true)
    (fun hl hr h => (mergeStep_pure hl hr h).imp_right fun F => step_pos F)
    (fun s hs => ⟨sortParams_bk s, sortParams_kwInv s (hv s hs)⟩)
    (fun _ hB hvr _ => result_pos hB.1 hvr) (fun s hs => input_pos s (hv s hs)) hR hacc

theorem merge_sound_kw_core (ss : List USig) (R : USig) (K : List Nat)
    (hv : ∀ s ∈ ss, validate s.params = .ok ()) (hK : K.Nodup) (hR : merge ss = .ok R)
    (hacc : accepts R.params 0 K = true) :
    ∀ s ∈ ss, accepts s.params 0 K = true :=
  merge_sound_of (P := (accKwB · K)) (call := fun ps => accepts ps 0 K = true)
    (fun hl hr h => (mergeStep_pure hl hr h).imp_right fun F => step_kw F)
    (fun s hs => ⟨sortParams_bk s, sortParams_kwInv s (hv s hs)⟩)
    (fun _ hB hvr _ => result_kw hB.1 hvr) (fun s hs => input_kw s (hv s hs) hK) hR hacc

end SV
