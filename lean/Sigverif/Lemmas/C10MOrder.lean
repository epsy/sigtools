/-
  Lemmas/C10MOrder.lean — the list facts behind `merge_pos_order` (Props/C10Merge.lean): of two chains
  indexed by the same role assignment (`IdxOK`, Lemmas/C01Roles.lean), what the first shares with the
  second is a subsequence of the second.
-/
import Sigverif.Lemmas.C01RFinal
namespace SV

theorem x10_sub_same {A E M : List Nat} (hE : ∀ e ∈ E, e ∉ A)
    (h : (M.filter (fun x => decide (x ∈ A))).Sublist A) :
    ((E ++ M).filter (fun x => decide (x ∈ A))).Sublist A := by
  rw [List.filter_append]
  have : E.filter (fun x => decide (x ∈ A)) = [] := by
    rw [List.filter_eq_nil_iff]
    intro e he
    simpa using hE e he
  rw [this]
  exact h

theorem x10_idxOK_sublist (ρ : Roles) (off : Nat) (A B : List Param)
    (hA : IdxOK ρ off A) (hB : IdxOK ρ off B) :
    ((names A).filter (fun x => decide (x ∈ names B))).Sublist (names B) := by
  induction A generalizing off B with
  | nil => simp [names]
  | cons a A' ih =>
    cases B with
    | nil => simp [names]
    | cons b B' =>
      simp only [IdxOK_cons] at hA hB
      have hA' : ∀ p ∈ A', p.name ≠ b.name := by
        intro p hp e
        have := IdxOK_lb ρ hA.2 p hp
        rw [e, hB.1] at this
        omega
      have hrest : (names A').filter (fun x => decide (x ∈ names (b :: B'))) =
          (names A').filter (fun x => decide (x ∈ names B')) := by
        apply List.filter_congr
        intro x hx
        obtain ⟨p, hp, rfl⟩ := mem_names.1 hx
        simp [names, hA' p hp]
      have ih' := ih (off + 1) B' hA.2 hB.2
      by_cases e : a.name = b.name
      · show ((a.name :: names A').filter _).Sublist (b.name :: names B')
        have : decide (a.name ∈ names (b :: B')) = true := by simp [names, e]
        rw [List.filter_cons, hrest, if_pos this, e]
        exact ih'.cons_cons _
      · -- `a` is not shared: its index is `off`, that of `b`, and every parameter of `B'` lies beyond
        refine x10_sub_same (E := [a.name]) (M := names A') ?_ (hrest ▸ ih'.cons _)
        intro x hx hm
        rw [List.mem_singleton.1 hx] at hm
        obtain ⟨p, hp, hpn⟩ := mem_names.1 hm
        rcases List.mem_cons.1 hp with rfl | hp
        · exact e hpn.symm
        · have := IdxOK_lb ρ hB.2 p hp
          rw [hpn, hA.1] at this
          omega

end SV
