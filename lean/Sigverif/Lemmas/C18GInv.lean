/-
  Lemmas/C18GInv.lean — the identity-aware descriptor cache (Model/CacheId.lean): runs, a
  lookup taken apart, and the state invariant `IInv` with its preservation by every operation.
-/
import Sigverif.Model.CacheId
namespace SV

theorem irunFrom_nil (m : KeyMode) (s : IState) : irunFrom m s [] = (s, []) := rfl

theorem irunFrom_cons (m : KeyMode) (s : IState) (op : IOp) (ops : List IOp) :
    irunFrom m s (op :: ops) =
      ((irunFrom m (istep m s op).1 ops).1,
       (match (istep m s op).2 with | some a => [(op, a)] | none => []) ++
         (irunFrom m (istep m s op).1 ops).2) := rfl

theorem irunFrom_append (m : KeyMode) (s : IState) (a b : List IOp) :
    irunFrom m s (a ++ b) =
      ((irunFrom m (irunFrom m s a).1 b).1, (irunFrom m s a).2 ++ (irunFrom m (irunFrom m s a).1 b).2) := by
  induction a generalizing s with
  | nil => simp [irunFrom_nil]
  | cons op a ih => simp [irunFrom_cons, ih]

theorem irun_append (m : KeyMode) (a b : List IOp) :
    irun m (a ++ b) = (irunFrom m (irun m a) b).1 := by
  simp [irun, irunFrom_append]

theorem itrace_append (m : KeyMode) (a b : List IOp) :
    itrace m (a ++ b) = itrace m a ++ (irunFrom m (irun m a) b).2 := by
  simp [irun, itrace, irunFrom_append]

theorem mem_answer {op : IOp} {x : Option IAns} {p : IOp × IAns}
    (h : p ∈ (match x with | some a => [(op, a)] | none => [])) : p.1 = op ∧ x = some p.2 := by
  cases x with
  | none => cases h
  | some a =>
    cases List.mem_singleton.1 h
    exact ⟨rfl, rfl⟩

theorem irunFrom_induct (m : KeyMode) (Q : IState → List (IOp × IAns) → Prop) (ops : List IOp)
    (hstep : ∀ (s : IState) (tr : List (IOp × IAns)), ∀ op ∈ ops, Q s tr →
      Q (istep m s op).1 (tr ++ match (istep m s op).2 with | some a => [(op, a)] | none => []))
    (s : IState) (tr : List (IOp × IAns)) (h : Q s tr) :
    Q (irunFrom m s ops).1 (tr ++ (irunFrom m s ops).2) := by
  induction ops generalizing s tr with
  | nil => rw [irunFrom_nil, List.append_nil]; exact h
  | cons op ops ih =>
    rw [irunFrom_cons, ← List.append_assoc]
    exact ih (fun s tr o ho => hstep s tr o (.tail _ ho)) _ _ (hstep s tr op (.head _) h)

theorem irunFrom_keeps (m : KeyMode) (P : IState → Prop) (ops : List IOp)
    (hstep : ∀ s, ∀ op ∈ ops, P s → P (istep m s op).1) (s : IState) (h : P s) :
    P (irunFrom m s ops).1 :=
  irunFrom_induct m (fun s _ => P s) ops (fun s _ op ho => hstep s op ho) s [] h

theorem irunFrom_answers (m : KeyMode) (I : IState → Prop) (R : IState → IOp × IAns → Prop)
    (hI : ∀ (s : IState) (op : IOp), I s → I (istep m s op).1)
    (hkeep : ∀ (s : IState) (op : IOp) (p : IOp × IAns), R s p → R (istep m s op).1 p)
    (hans : ∀ (s : IState) (op : IOp) (a : IAns), I s → (istep m s op).2 = some a →
      R (istep m s op).1 (op, a))
    (s : IState) (hs : I s) (ops : List IOp) :
    ∀ p ∈ (irunFrom m s ops).2, R (irunFrom m s ops).1 p := by
  refine (irunFrom_induct m (fun s tr => I s ∧ ∀ p ∈ tr, R s p) ops ?_ s []
    ⟨hs, fun _ hp => nomatch hp⟩).2
  intro s tr op _ ⟨hs, htr⟩
  refine ⟨hI s op hs, fun p hp => ?_⟩
  rcases List.mem_append.1 hp with hp | hp
  · exact hkeep s op p (htr p hp)
  · obtain ⟨rfl, ha⟩ := mem_answer hp
    exact hans s _ _ hs ha

theorem instOf_id {s : IState} {i : Nat} {k : Inst} (h : s.instOf i = some k) : k.id = i := by
  have := List.find?_some h
  simpa using this

theorem heldInstOf_some {s : IState} {i : Nat} {k : Inst} (h : s.heldInstOf i = some k) :
    i ∈ s.heldInst ∧ s.instOf i = some k ∧ k.id = i := by
  unfold IState.heldInstOf at h
  split at h
  · rename_i hc
    exact ⟨by simpa using hc, h, instOf_id h⟩
  · cases h

theorem matches_identity {a b : Inst} : KeyMode.identity.matches a b = true ↔ a.id = b.id := by
  simp [KeyMode.matches]

theorem matches_equality {a b : Inst} : KeyMode.equality.matches a b = true ↔ a.eqClass = b.eqClass := by
  simp [KeyMode.matches]

theorem find_some {m : KeyMode} {s : IState} {k : Inst} {e : IEntry} (h : s.find m k = some e) :
    e ∈ s.entries ∧ m.matches e.key k = true := by
  unfold IState.find at h
  exact ⟨List.mem_of_find?_eq_some h, by simpa using List.find?_some h⟩

theorem find_none {m : KeyMode} {s : IState} {k : Inst} (h : s.find m k = none) :
    ∀ e ∈ s.entries, m.matches e.key k = false := by
  intro e he
  unfold IState.find at h
  have := List.find?_eq_none.1 h e he
  simpa using this

/- both are `List.insert` with the arguments swapped -/
theorem mem_addPair {l : List (Nat × Nat)} {p q : Nat × Nat} : q ∈ addPair l p ↔ q = p ∨ q ∈ l :=
  List.mem_insert_iff (l := l)

theorem mem_addOnce {l : List Nat} {i j : Nat} : j ∈ addOnce l i ↔ j = i ∨ j ∈ l :=
  List.mem_insert_iff (l := l)

/-! `descGet` on an instance does two things one after the other: it finds the entry or makes one
  (`touch`: only `entries` and `nextWid` change), then the caller keeps the wrapper or not (`keepSt`:
  only `heldWrap` changes).  `get i` and `call i` are this same lookup and differ in the second part. -/

/-- the caller keeps wrapper `w` in slot `slot` (or does not keep it) -/
def keepSt (s : IState) (keep : Option Nat) (w : Nat) : IState :=
  match keep with
  | some slot => { s with heldWrap := addPair s.heldWrap (slot, w) }
  | none => s

def insSt (s : IState) (k : Inst) : IState :=
  { s with entries := { key := k, wrapperInst := k.id, wid := s.nextWid } :: s.entries,
           nextWid := s.nextWid + 1 }

/-- `self.insts[func]`, stored first when it is missing: the dictionary afterwards, and the entry -/
def IState.touch (m : KeyMode) (s : IState) (k : Inst) : IState × IEntry :=
  match s.find m k with
  | some e => (s, e)
  | none => (insSt s k, { key := k, wrapperInst := k.id, wid := s.nextWid })

/-- `get i` (`keep = some i`) and `call i` (`keep = none`) -/
def lookupStep (m : KeyMode) (s : IState) (i : Nat) (keep : Option Nat) : IState × Option IAns :=
  match s.heldInstOf i with
  | none => (s, some .noInst)
  | some k =>
    (keepSt (s.touch m k).1 keep (s.touch m k).2.wid,
     some (.wrapper (s.touch m k).2.wid (s.touch m k).2.wrapperInst))

theorem descGet_some (m : KeyMode) (s : IState) (k : Inst) (o : Nat) (keep : Option Nat) :
    descGet m s (some k) o keep =
      (keepSt (s.touch m k).1 keep (s.touch m k).2.wid,
       .wrapper (s.touch m k).2.wid (s.touch m k).2.wrapperInst) := by
  simp only [descGet, IState.touch]
  cases s.find m k <;> cases keep <;> rfl

theorem istep_get (m : KeyMode) (s : IState) (i : Nat) :
    istep m s (.get i) = lookupStep m s i (some i) := by
  simp only [istep, lookupStep]
  cases s.heldInstOf i with
  | none => rfl
  | some k => simp only [descGet_some]

theorem istep_call (m : KeyMode) (s : IState) (i : Nat) :
    istep m s (.call i) = lookupStep m s i none := by
  simp only [istep, lookupStep]
  cases s.heldInstOf i with
  | none => rfl
  | some k => simp only [descGet_some]

theorem touch_hit {m : KeyMode} {s : IState} {k : Inst} {e : IEntry} (h : s.find m k = some e) :
    s.touch m k = (s, e) := by
  simp only [IState.touch, h]

theorem touch_miss {m : KeyMode} {s : IState} {k : Inst} (h : s.find m k = none) :
    s.touch m k = (insSt s k, { key := k, wrapperInst := k.id, wid := s.nextWid }) := by
  simp only [IState.touch, h]

theorem touch_mem (m : KeyMode) (s : IState) (k : Inst) : (s.touch m k).2 ∈ (s.touch m k).1.entries := by
  cases h : s.find m k with
  | some e => rw [touch_hit h]; exact (find_some h).1
  | none => rw [touch_miss h]; exact List.mem_cons_self

theorem touch_matches (m : KeyMode) (s : IState) (k : Inst) : m.matches (s.touch m k).2.key k = true := by
  cases h : s.find m k with
  | some e => rw [touch_hit h]; exact (find_some h).2
  | none => rw [touch_miss h]; cases m <;> simp [KeyMode.matches]

@[simp] theorem touch_known (m : KeyMode) (s : IState) (k : Inst) : (s.touch m k).1.known = s.known := by
  unfold IState.touch; split <;> rfl
@[simp] theorem touch_heldInst (m : KeyMode) (s : IState) (k : Inst) :
    (s.touch m k).1.heldInst = s.heldInst := by
  unfold IState.touch; split <;> rfl
@[simp] theorem touch_heldWrap (m : KeyMode) (s : IState) (k : Inst) :
    (s.touch m k).1.heldWrap = s.heldWrap := by
  unfold IState.touch; split <;> rfl
@[simp] theorem keepSt_known (s : IState) (keep : Option Nat) (w : Nat) : (keepSt s keep w).known = s.known := by
  cases keep <;> rfl
@[simp] theorem keepSt_heldInst (s : IState) (keep : Option Nat) (w : Nat) :
    (keepSt s keep w).heldInst = s.heldInst := by
  cases keep <;> rfl
@[simp] theorem keepSt_nextWid (s : IState) (keep : Option Nat) (w : Nat) :
    (keepSt s keep w).nextWid = s.nextWid := by
  cases keep <;> rfl

@[simp] theorem lookupStep_known (m : KeyMode) (s : IState) (i : Nat) (keep : Option Nat) :
    (lookupStep m s i keep).1.known = s.known := by
  unfold lookupStep; split <;> simp
@[simp] theorem lookupStep_heldInst (m : KeyMode) (s : IState) (i : Nat) (keep : Option Nat) :
    (lookupStep m s i keep).1.heldInst = s.heldInst := by
  unfold lookupStep; split <;> simp

structure IInv (m : KeyMode) (s : IState) : Prop where
  widE : ∀ e ∈ s.entries, e.wid < s.nextWid
  widH : ∀ h ∈ s.heldWrap, h.2 < s.nextWid
  /-- a wrapper the caller holds has its entry (weak value: the entry only goes with the wrapper) -/
  hasE : ∀ h ∈ s.heldWrap, ∃ e ∈ s.entries, e.wid = h.2
  widInj : ∀ e ∈ s.entries, ∀ e' ∈ s.entries, e.wid = e'.wid → e = e'
  bound : m = .identity → ∀ e ∈ s.entries, e.wrapperInst = e.key.id
  /-- identity keys: a wrapper obtained through instance i sits in the entry keyed by i -/
  slot : m = .identity → ∀ h ∈ s.heldWrap, ∀ e ∈ s.entries, e.wid = h.2 → e.key.id = h.1

theorem IInv_init (m : KeyMode) : IInv m {} where
  widE _ h := nomatch h
  widH _ h := nomatch h
  hasE _ h := nomatch h
  widInj _ h := nomatch h
  bound _ _ h := nomatch h
  slot _ _ h := nomatch h

theorem IInv.sub {m : KeyMode} {s t : IState} (hs : IInv m s)
    (he : ∀ e ∈ t.entries, e ∈ s.entries) (hh : ∀ h ∈ t.heldWrap, h ∈ s.heldWrap)
    (hn : t.nextWid = s.nextWid) (hasE : ∀ h ∈ t.heldWrap, ∃ e ∈ t.entries, e.wid = h.2) : IInv m t where
  widE e h := hn ▸ hs.widE e (he e h)
  widH h hm := hn ▸ hs.widH h (hh h hm)
  hasE := hasE
  widInj e h e' h' := hs.widInj e (he e h) e' (he e' h')
  bound hm e h := hs.bound hm e (he e h)
  slot hm h hm' e h' := hs.slot hm h (hh h hm') e (he e h')

theorem IInv.congr {m : KeyMode} {s t : IState} (hs : IInv m s) (he : t.entries = s.entries)
    (hh : t.heldWrap = s.heldWrap) (hn : t.nextWid = s.nextWid) : IInv m t :=
  hs.sub (fun _ h => he ▸ h) (fun _ h => hh ▸ h) hn (by rw [he, hh]; exact hs.hasE)

theorem IInv_keepSt {m : KeyMode} {s : IState} (hs : IInv m s) (keep : Option Nat)
    (e : IEntry) (he : e ∈ s.entries)
    (hslot : m = .identity → ∀ slot, keep = some slot → e.key.id = slot) :
    IInv m (keepSt s keep e.wid) := by
  cases keep with
  | none => exact hs
  | some slot =>
    obtain ⟨h1, h2, h3, h4, h5, h6⟩ := hs
    constructor <;> simp only [keepSt, mem_addPair]
    · exact h1
    · rintro h (rfl | hh)
      · exact h1 e he
      · exact h2 h hh
    · rintro h (rfl | hh)
      · exact ⟨e, he, rfl⟩
      · exact h3 h hh
    · exact h4
    · exact h5
    · rintro hm h (rfl | hh) e' he' hw'
      · cases h4 e' he' e he hw'
        exact hslot hm slot rfl
      · exact h6 hm h hh e' he' hw'

theorem IInv_insSt {m : KeyMode} {s : IState} (hs : IInv m s) (k : Inst) : IInv m (insSt s k) := by
  obtain ⟨h1, h2, h3, h4, h5, h6⟩ := hs
  constructor <;> simp only [insSt, List.mem_cons]
  · rintro e (rfl | he)
    · simp
    · have := h1 e he; omega
  · intro h hh
    have := h2 h hh; omega
  · intro h hh
    obtain ⟨e, he, hw⟩ := h3 h hh
    exact ⟨e, Or.inr he, hw⟩
  · rintro e (rfl | he) e' (rfl | he') hw
    · rfl
    · exact absurd hw.symm (Nat.ne_of_lt (h1 e' he'))
    · exact absurd hw (Nat.ne_of_lt (h1 e he))
    · exact h4 e he e' he' hw
  · rintro hm e (rfl | he)
    · rfl
    · exact h5 hm e he
  · rintro hm h hh e (rfl | he) hw
    · exact absurd hw.symm (Nat.ne_of_lt (h2 h hh))
    · exact h6 hm h hh e he hw

theorem IInv_touch {m : KeyMode} {s : IState} (hs : IInv m s) (k : Inst) : IInv m (s.touch m k).1 := by
  unfold IState.touch
  split
  · exact hs
  · exact IInv_insSt hs k

theorem IInv_lookupStep {m : KeyMode} {s : IState} (hs : IInv m s) (i : Nat) (keep : Option Nat)
    (hk : ∀ slot, keep = some slot → i = slot) : IInv m (lookupStep m s i keep).1 := by
  unfold lookupStep
  split
  · exact hs
  · rename_i k hi
    refine IInv_keepSt (IInv_touch hs k) keep _ (touch_mem m s k) ?_
    rintro rfl slot hsl
    rw [matches_identity.1 (touch_matches _ s k), (heldInstOf_some hi).2.2]
    exact hk slot hsl

theorem mem_collect_entries {s : IState} {e : IEntry} :
    e ∈ s.collect.entries ↔ e ∈ s.entries ∧ ∃ h ∈ s.heldWrap, h.2 = e.wid := by
  simp only [IState.collect, List.mem_filter, List.any_eq_true, beq_iff_eq]

theorem IInv_collect {m : KeyMode} {s : IState} (hs : IInv m s) : IInv m s.collect := by
  refine hs.sub (fun e he => (mem_collect_entries.1 he).1) (fun _ h => h) rfl ?_
  intro h hh
  obtain ⟨e, he, hw⟩ := hs.hasE h hh
  exact ⟨e, mem_collect_entries.2 ⟨he, h, hh, hw.symm⟩, hw⟩

theorem IInv_step (m : KeyMode) (s : IState) (op : IOp) (hs : IInv m s) : IInv m (istep m s op).1 := by
  cases op
  case get i =>
    rw [istep_get]
    exact IInv_lookupStep hs i (some i) (fun _ h => Option.some.inj h)
  case call i =>
    rw [istep_call]
    exact IInv_lookupStep hs i none (fun _ h => nomatch h)
  case dropWrapper i =>
    exact hs.sub (fun _ h => h) (fun _ h => (List.mem_filter.1 h).1) rfl
      (fun h hh => hs.hasE h (List.mem_filter.1 hh).1)
  case gc => exact IInv_collect hs
  all_goals exact hs.congr rfl rfl rfl

theorem IInv_runFrom (m : KeyMode) (s : IState) (hs : IInv m s) (ops : List IOp) :
    IInv m (irunFrom m s ops).1 :=
  irunFrom_keeps m _ ops (fun s op _ => IInv_step m s op) s hs

theorem IInv_run (m : KeyMode) (ops : List IOp) : IInv m (irun m ops) :=
  IInv_runFrom m {} (IInv_init m) ops

end SV
