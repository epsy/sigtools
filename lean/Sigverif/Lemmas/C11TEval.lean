/-
  Lemmas/C11TEval.lean — concrete witnesses for Props/C11Twin.lean: the D10 pair refutes twin
  invariance of merge / embed / forwards at full strength; a pair of signatures from two modules
  with faithful spellings meets the hypothesis of the partial theorems.
-/
import Sigverif.Lemmas.C11TTwin
import Sigverif.Lemmas.C02Embed
namespace SV

/-! ### D10: the same spelling bound to different objects in two modules -/

/-- `*args: T` in the forwarding function (module 1) and in the wrapped one (module 2) -/
def d10O : USig := { params := [⟨1, .vp, none, some 7, .post 7 1⟩] }
def d10I : USig := { params := [⟨1, .vp, none, some 7, .post 7 2⟩] }

theorem forwards_of_mask (o i : USig) (uva uvk : Bool) (h : mask i 0 [] {} = .ok i) :
    forwards o i 0 [] false false uva uvk false = embed uva uvk [o, i] := by
  simp only [forwards, Bool.false_eq_true, if_false, pure, Except.pure, bind, Except.bind, h]

theorem d10_mask : mask d10I 0 [] {} = .ok d10I := eq_ok_of (by decide +kernel)

theorem d10_not_faithful : ¬ FaithfulSet d10env (allParams [d10L, d10R]) := by
  intro h
  -- spelled alike, yet 41 in one module and 42 in the other
  have := (h ⟨1, .pk, none, some 7, .post 7 1⟩ List.mem_cons_self
    ⟨1, .pk, none, some 7, .post 7 2⟩ (List.mem_cons_of_mem _ List.mem_cons_self)).2.2 7 7 rfl rfl
  exact absurd (this.1 rfl) (by decide)

/-- module 1: `def f(x: T, z: S)`;  module 2: `def g(x: T, z: R)`; `T` (token 7) is the same object
    (40) in both modules, `S` (8) is 50, `R` (9) is 60 -/
def nvA : USig := { params := [⟨1, .pk, none, some 7, .post 7 1⟩, ⟨2, .pk, none, some 8, .post 8 1⟩] }
def nvB : USig := { params := [⟨1, .pk, none, some 7, .post 7 2⟩, ⟨2, .pk, none, some 9, .post 9 2⟩] }
def nvEnv : Nat → Nat → Nat := fun _ raw => if raw = 7 then 40 else if raw = 8 then 50 else 60

theorem faithful_post (env : Nat → Nat → Nat) {n n' : Nat} {k k' : Kind} {d d' : Option Nat} {raw fn raw' fn' : Nat}
    (h : raw = raw' ↔ env fn raw = env fn' raw') :
    Faithful env ⟨n, k, d, some raw, .post raw fn⟩ ⟨n', k', d', some raw', .post raw' fn'⟩ := by
  refine ⟨rfl, rfl, ?_⟩
  intro a b ha hb
  cases ha
  cases hb
  simpa only [sourceValue, Option.some.injEq] using h

theorem nv_faithful : FaithfulSet nvEnv (allParams [nvA, nvB]) := by
  intro l hl r hr
  simp only [allParams, nvA, nvB, List.map_cons, List.map_nil, List.flatten_cons, List.flatten_nil,
    List.cons_append, List.nil_append, List.mem_cons, List.not_mem_nil, or_false] at hl hr
  rcases hl with rfl | rfl | rfl | rfl <;> rcases hr with rfl | rfl | rfl | rfl <;>
    exact faithful_post nvEnv (by decide)

theorem nv_merge :
    merge [nvA, nvB] = .ok { params := [⟨1, .pk, none, some 7, .post 7 1⟩, ⟨2, .pk, none, none, .empty⟩],
                              src := [(1, []), (2, [])] } := by
  simp only [merge, mergeFold, mergeStep_eq]; exact eq_ok_of (by decide +kernel)

/-- module 1: `def outer(*args: T)` forwards to module 2: `def inner(z: S, *args: T)` -/
def nvI : USig := { params := [⟨2, .pk, none, some 8, .post 8 2⟩, ⟨1, .vp, none, some 7, .post 7 2⟩] }

theorem nv_fwd_faithful : FaithfulSet nvEnv (d10O.params ++ nvI.params) := by
  intro l hl r hr
  simp only [d10O, nvI, List.cons_append, List.nil_append, List.mem_cons, List.not_mem_nil, or_false] at hl hr
  rcases hl with rfl | rfl | rfl <;> rcases hr with rfl | rfl | rfl <;>
    exact faithful_post nvEnv (by decide)

theorem nv_forwards :
    forwards d10O nvI 0 [] false false true true false =
      .ok { params := [⟨2, .po, none, some 8, .post 8 2⟩, ⟨1, .vp, none, some 7, .post 7 2⟩],
            src := [(2, []), (1, [])] } := by
  simp only [forwards, embed, embedFold, embedStep_evalEq]; exact eq_ok_of (by decide +kernel)

/-- `def k(x: T, **kw: S)` and `functools.partial(k, extra=99)` (partial object 77): a fresh
    keyword-only parameter `extra=99` appears -/
def nvK : USig := { params := [⟨1, .pk, none, some 7, .post 7 1⟩, ⟨3, .vk, none, some 8, .post 8 1⟩] }

theorem nv_partial :
    maskPartial nvK 0 [(5, 99)] 77 =
      .ok { params := [⟨1, .pk, none, some 7, .post 7 1⟩, ⟨5, .ko, some 99, none, .empty⟩,
                       ⟨3, .vk, none, some 8, .post 8 1⟩],
            src := [(5, [77])], depths := [(77, 0)] } := by
  exact eq_ok_of (by decide +kernel)

end SV
