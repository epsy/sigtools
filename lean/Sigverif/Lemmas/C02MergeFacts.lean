/-
  Lemmas/C02MergeFacts.lean — what the merge with the forwarded stars does to a valid inner
  signature: its outcomes one by one (`StarsOut`), and from them its binding view (`mergeStars_sview`).
-/
import Sigverif.Lemmas.C02Fold
import Sigverif.Lemmas.C02Abstract
namespace SV

def rq (l : List Param) : List Nat := names (l.filter (·.required))

@[simp] theorem rq_nil : rq [] = [] := rfl
@[simp] theorem rq_append (a b : List Param) : rq (a ++ b) = rq a ++ rq b := by simp [rq]
@[simp] theorem rq_map_withKind (l : List Param) (k : Kind) : rq (l.map (·.withKind k)) = rq l := by
  unfold rq names
  rw [List.filter_map, List.map_map]
  rfl

theorem mem_rq {x : Nat} {l : List Param} : x ∈ rq l ↔ ∃ p ∈ l, p.required = true ∧ p.name = x := by
  simp [rq, mem_names, List.mem_filter, and_assoc]

theorem rq_subset_names {x : Nat} {l : List Param} (h : x ∈ rq l) : x ∈ names l := by
  obtain ⟨p, hp, _, rfl⟩ := mem_rq.1 h
  exact mem_names_of_mem hp

theorem rq_eq_nil_of_any {l : List Param} (h : ¬ (l.any (·.dflt.isNone)) = true) : rq l = [] := by
  unfold rq
  have : l.filter (·.required) = [] := by
    rw [List.filter_eq_nil_iff]
    intro p hp hr
    apply h
    rw [List.any_eq_true]
    exact ⟨p, hp, hr⟩
  rw [this]; rfl

theorem any_required {l : List Param} (h : (l.any (·.dflt.isNone)) = true) : ∃ x, x ∈ rq l := by
  rw [List.any_eq_true] at h
  obtain ⟨p, hp, hr⟩ := h
  exact ⟨p.name, mem_rq.2 ⟨p, hp, hr, rfl⟩⟩

/-- The outcomes of `mergeStars I sva svk` when the names of `I` are distinct, so that every `pupdate` is a
    concatenation: a named parameter stays if it has a way through the stars, is dropped if it has none but has
    a default, and stops the merge if it has neither. -/
inductive StarsOut (I : Sorted) : Option Param → Option Param → Except Err Sorted → Prop
  | both (a k : Param) : StarsOut I (some a) (some k)
      (.ok { pos := I.pos, pok := I.pok, kwo := I.kwo,
             va := starOf I.va (some a) I.pos.isEmpty, vk := starOf I.vk (some k) I.kwo.isEmpty })
  | args (a : Param) (hk : rq I.kwo = []) : StarsOut I (some a) none
      (.ok { pos := I.pos ++ I.pok.map (·.withKind .po), pok := [], kwo := [],
             va := starOf I.va (some a) I.pos.isEmpty, vk := none })
  | kwargs (k : Param) (hp : rq I.pos = []) : StarsOut I none (some k)
      (.ok { pos := [], pok := [], kwo := I.pok.map (·.withKind .ko) ++ I.kwo,
             va := none, vk := starOf I.vk (some k) I.kwo.isEmpty })
  | neither (hp : rq I.pos = []) (hq : rq I.pok = []) (hk : rq I.kwo = []) : StarsOut I none none
      (.ok { pos := [], pok := [], kwo := [], va := none, vk := none })
  | noArgs (svk : Option Param) (x : Nat) (hx : x ∈ rq I.pos) : StarsOut I none svk (.error .valueError)
  | noKwargs (sva : Option Param) (x : Nat) (hx : x ∈ rq I.kwo) : StarsOut I sva none (.error .valueError)
  | noStars (x : Nat) (hx : x ∈ rq I.pok) : StarsOut I none none (.error .valueError)

theorem mergeStars_out {I : Sorted} (hn : (names (I.pos ++ I.pok ++ I.kwo)).Nodup)
    (sva svk : Option Param) : StarsOut I sva svk (mergeStars I sva svk) := by
  simp only [names_append, List.append_assoc] at hn
  have hn2 : (names I.pok ++ names I.kwo).Nodup := (List.nodup_append.1 hn).2.1
  have hpu : pupdate [] I.kwo = I.kwo := pupdate_of_nodup [] I.kwo (List.nodup_append.1 hn2).2.1
  have hpu2 : pupdate (pupdate [] (I.pok.map (·.withKind .ko))) I.kwo = I.pok.map (·.withKind .ko) ++ I.kwo := by
    rw [pupdate_of_nodup [] _ (by simpa using (List.nodup_append.1 hn2).1)]
    exact pupdate_of_nodup _ _ (by simpa using hn2)
  cases sva with
  | some a =>
    cases svk with
    | some k =>
      rw [mergeStars_some_some, hpu, hpu]
      exact .both a k
    | none =>
      rw [mergeStars_some_none, hpu]
      split
      next h => exact (any_required h).elim (.noKwargs _)
      next h => exact .args a (rq_eq_nil_of_any h)
  | none =>
    cases svk with
    | some k =>
      rw [mergeStars_none_some, hpu, hpu2]
      split
      next h => exact (any_required h).elim (.noArgs _)
      next h => exact .kwargs k (rq_eq_nil_of_any h)
    | none =>
      rw [mergeStars_none_none, hpu]
      split
      next h => exact (any_required h).elim (.noArgs _)
      split
      next h => exact (any_required h).elim .noStars
      split
      next h => exact (any_required h).elim (.noKwargs _)
      next hp hq hk => exact .neither (rq_eq_nil_of_any hp) (rq_eq_nil_of_any hq) (rq_eq_nil_of_any hk)

theorem StarsOut.of_ok {I i' : Sorted} {sva svk : Option Param}
    (hn : (names (I.pos ++ I.pok ++ I.kwo)).Nodup) (h : mergeStars I sva svk = .ok i') :
    StarsOut I sva svk (.ok i') :=
  h ▸ mergeStars_out hn sva svk

/-- A required parameter without a way through the stars stops the merge, so the required names stay. -/
theorem mergeStars_sview {I i' : Sorted} {a k : Option Param}
    (hn : (names (I.pos ++ I.pok ++ I.kwo)).Nodup)
    (h : mergeStars I a k = .ok i') : sview i' = (sview I).cut a.isSome k.isSome := by
  have e : ∀ S, sview S = ⟨names (S.pos ++ S.pok), S.va.isSome, S.vk.isSome, names (S.pok ++ S.kwo),
    rq (S.pos ++ S.pok ++ S.kwo)⟩ := fun _ => rfl
  cases StarsOut.of_ok hn h with
  | both a k => simp [e, View.cut, starOf_isSome]
  | args a hk => simp [e, View.cut, starOf_isSome, hk]
  | kwargs k hp => simp [e, View.cut, starOf_isSome, hp]
  | neither hp hq hk => simp [e, View.cut, hp, hq, hk]

theorem withKind_withKind (p : Param) (c d : Kind) : (p.withKind c).withKind d = p.withKind d := rfl

/-- the named parameters that survive the merge with the forwarded stars are those of the inner signature in their
    order, some dropped, kinds apart -/
theorem mergeStars_named {I i' : Sorted} {a k : Option Param}
    (hn : (names (I.pos ++ I.pok ++ I.kwo)).Nodup) (h : mergeStars I a k = .ok i') (c : Kind) :
    ((i'.pos ++ i'.pok ++ i'.kwo).map (·.withKind c)).Sublist ((I.pos ++ I.pok ++ I.kwo).map (·.withKind c)) := by
  cases StarsOut.of_ok hn h with
  | both a k => exact .refl _
  | args a hk => simp [withKind_withKind, Function.comp_def]
  | kwargs k hp => simp [withKind_withKind, Function.comp_def]
  | neither hp hq hk => exact List.nil_sublist _

theorem mergeStars_sublist {I i' : Sorted} {a k : Option Param}
    (hn : (names (I.pos ++ I.pok ++ I.kwo)).Nodup) (h : mergeStars I a k = .ok i') :
    (names (i'.pos ++ i'.pok ++ i'.kwo)).Sublist (names (I.pos ++ I.pok ++ I.kwo)) := by
  have := (mergeStars_named hn h .po).map Param.name
  rwa [← names, ← names, names_map_withKind, names_map_withKind] at this

end SV
