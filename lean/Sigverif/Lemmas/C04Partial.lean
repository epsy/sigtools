/-
  Lemmas/C04Partial.lean — where the named parameters of an embed result come from (with their
  defaults), for `forwards(…, partial=True)`.
-/
import Sigverif.Lemmas.C04
namespace SV

theorem mergeStars_named_from {I i' : Sorted} {sva svk : Option Param}
    (hn : (names (I.pos ++ I.pok ++ I.kwo)).Nodup) (h : mergeStars I sva svk = .ok i') :
    ∀ p ∈ i'.pos ++ i'.pok ++ i'.kwo,
      ∃ q ∈ I.pos ++ I.pok ++ I.kwo, q.name = p.name ∧ q.dflt = p.dflt := by
  intro p hp
  obtain ⟨q, hq, e⟩ := List.mem_map.1 ((mergeStars_named hn h .po).subset (List.mem_map_of_mem hp))
  exact ⟨q, hq, (congrArg Param.name e :), (congrArg Param.dflt e :)⟩

theorem mem_cdIf_name {c : Bool} {l : List Param} {p : Param} (h : p ∈ cdIf c l) :
    p.name ∈ names l := by
  have := mem_names_of_mem h
  rwa [names_cdIf] at this

theorem embedRes_named_from (O i' : Sorted) (uva uvk : Bool) (d : Nat) :
    ∀ p ∈ (embedRes O i' uva uvk d).pos ++ (embedRes O i' uva uvk d).pok ++ (embedRes O i' uva uvk d).kwo,
      p.name ∈ names (O.pos ++ O.pok ++ O.kwo) ∨ p ∈ i'.pos ++ i'.pok ++ i'.kwo := by
  intro p hp
  rw [show (embedRes O i' uva uvk d).pos ++ (embedRes O i' uva uvk d).pok = _ from ePosC_append_ePokC O i'] at hp
  simp only [names_append, List.mem_append] at hp ⊢
  rcases hp with (hp | hp) | hp
  · have := mem_cdIf_name hp
    rw [apply_ite names, names_append, names_append, names_map_withKind, ite_self] at this
    exact .inl (.inl (List.mem_append.1 this))
  · exact .inr (.inl hp)
  · rcases mem_pupdate hp with hp | hp
    · rcases mem_pupdate hp with hp | hp
      · cases hp
      · exact .inl (.inr (mem_names_of_mem hp))
    · exact .inr (.inr hp)

theorem embed_named_from_inner {o i R : USig} {uva uvk : Bool} (ho : WF o.params) (hi : WF i.params)
    (hR : embed uva uvk [o, i] = .ok R) :
    ∀ p ∈ R.params, isNamed p = true → p.name ∉ names o.params →
      ∃ q ∈ i.params, isNamed q = true ∧ q.name = p.name ∧ q.dflt = p.dflt := by
  obtain ⟨i', c, h1, hkI', -, h3⟩ := embed_two_stars hR
  have hkr := embedRes_kinds (sortParams_bk o) hkI' uva uvk 1
  intro p hp hnamed hno
  have hp' := List.mem_filter.2 ⟨hp, hnamed⟩
  rw [h3, filter_isNamed_all hkr] at hp'
  rcases embedRes_named_from _ _ _ _ _ p hp' with hO | hI
  · exact absurd (sortParams_all ho ▸ names_named_subset_all hO) hno
  · obtain ⟨q, hq, hqn, hqd⟩ := mergeStars_named_from (sortParams_named_nodup hi) h1 p hI
    obtain ⟨hq1, hq2⟩ := List.mem_filter.1 (named_sortParams hi ▸ hq)
    exact ⟨q, hq1, hq2, hqn, hqd⟩

theorem partialParams_filter_kind (ps : List Param) (k : Kind) :
    ((partialParams ps).filter (fun p => p.kind = k)).length =
      (ps.filter (fun p => p.kind = k)).length := by
  unfold partialParams
  rw [List.filter_map, List.length_map]
  -- the map changes defaults only
  refine congrArg List.length (List.filter_congr fun p _ => ?_)
  exact congrArg (fun x => decide (x = k)) ((apply_ite Param.kind _ _ _).trans (ite_self _))

theorem partialParams_WF {ps : List Param} (h : WF ps) (hv : validate (partialParams ps) = .ok ()) :
    WF (partialParams ps) := by
  refine ⟨?_, ?_, ?_⟩
  · unfold validOk; rw [hv]
  · rw [partialParams_filter_kind]; exact h.2.1
  · rw [partialParams_filter_kind]; exact h.2.2

theorem partialParams_names (ps : List Param) : names (partialParams ps) = names ps := by
  unfold partialParams names
  rw [List.map_map]
  apply List.map_congr_left
  intro p _
  simp only [Function.comp]
  split <;> rfl

theorem partialParams_named_dflt {ps : List Param} {q : Param} (hq : q ∈ partialParams ps)
    (hn : isNamed q = true) : q.dflt.isSome = true := by
  unfold partialParams at hq
  obtain ⟨p, _, rfl⟩ := List.mem_map.1 hq
  split at hn
  · rename_i hs
    exfalso
    simp only [isNamed, Bool.or_eq_true, decide_eq_true_eq] at hn hs
    rcases hs with hs | hs <;> rw [hs] at hn <;> simp at hn
  · rename_i hs
    rw [if_neg hs]
    rfl

theorem forwards_ok {o i R : USig} {n : Nat} {nms : List Nat} {ha hk uva uvk : Bool} (p : Bool)
    (hi : WF i.params) (hR : forwards o i n nms ha hk uva uvk p = .ok R) :
    ∃ i' M, WF i'.params ∧ names i'.params = names i.params ∧ i'.src = i.src ∧ i'.depths = i.depths ∧
      mask i' n nms { args := ha, kwargs := hk } = .ok M ∧ embed uva uvk [o, M] = .ok R := by
  cases p with
  | false =>
    obtain ⟨M, hM, hE⟩ := forwards_false_ok hR
    exact ⟨i, M, hi, rfl, rfl, rfl, hM, hE⟩
  | true =>
    obtain ⟨hv, M, hM, hE⟩ := forwards_true_ok hR
    exact ⟨partialSig i, M, partialParams_WF hi hv, partialParams_names _, rfl, rfl, hM, hE⟩

end SV
