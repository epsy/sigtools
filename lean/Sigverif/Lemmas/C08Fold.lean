/-
  Lemmas/C08Fold.lean — provenance well-formedness of a signature (`ProvWF`), said once of the three
  components names, map, depths (`Prov`); kept by a merge step, the fold of `merge`, and `merge`,
  together with every property of credits that all inputs share (`Srcs.All`).
-/
import Sigverif.Lemmas.C08Step
namespace SV

/-- provenance well-formedness of a signature (C08): exactly one entry per parameter,
    no entry empty, every listed callable has a depth -/
structure ProvWF (u : USig) : Prop where
  keys : ∀ k, dhas u.src k = true ↔ k ∈ names u.params
  ne   : ∀ k, k ∈ names u.params → sget u.src k ≠ []
  dep  : ∀ k f, f ∈ sget u.src k → dhas u.depths f = true

/-- every credit `(k, f)` of the map (callable `f` listed for the name `k`) satisfies `P`.
    "Truthful" and "every listed callable has a depth" are this at two `P`; "credits only what the
    inputs credit" is: for every `P`, if the inputs' maps satisfy `All P`, so does the result's. -/
def Srcs.All (P : Nat → Nat → Prop) (src : Srcs) : Prop := ∀ k f, f ∈ sget src k → P k f

theorem Srcs.All.mono {P Q : Nat → Nat → Prop} {src : Srcs} (h : src.All P) (hPQ : ∀ k f, P k f → Q k f) :
    src.All Q := fun k f hf => hPQ k f (h k f hf)

theorem Srcs.All.of_two {P : Nat → Nat → Prop} {a b R : Srcs}
    (h : R.All fun k f => f ∈ sget a k ∨ f ∈ sget b k) (ha : a.All P) (hb : b.All P) : R.All P :=
  fun k f hf => (h k f hf).elim (ha k f) (hb k f)

theorem Srcs.All.dep_merge {a b R : Srcs} {da db : Depths}
    (h : R.All fun k f => f ∈ sget a k ∨ f ∈ sget b k) (ha : a.All fun _ f => dhas da f = true)
    (hb : b.All fun _ f => dhas db f = true) : R.All fun _ f => dhas (mergeDepths da db) f = true :=
  h.of_two (ha.mono fun _ f hf => by rw [dhas_mergeDepths, hf]; rfl)
    (hb.mono fun _ f hf => by rw [dhas_mergeDepths, hf, Bool.or_true])

/-- provenance of the names `N`, said of the three components a signature and a classified signature share -/
structure Prov (N : List Nat) (src : Srcs) (dep : Depths) : Prop where
  keys : ∀ k, dhas src k = true ↔ k ∈ N
  ne   : ∀ k, k ∈ N → sget src k ≠ []
  dep  : src.All fun _ f => dhas dep f = true

abbrev Sorted.Prov (A : Sorted) : Prop := SV.Prov (names A.all) A.src A.depths

theorem provWF_iff {u : USig} : ProvWF u ↔ Prov (names u.params) u.src u.depths :=
  ⟨fun h => ⟨h.keys, h.ne, h.dep⟩, fun h => ⟨h.keys, h.ne, h.dep⟩⟩

theorem Sorted.Prov.srcWF {A : Sorted} (h : A.Prov) : SrcWF A := ⟨h.keys, h.ne⟩

theorem sortParams_prov {u : USig} (hwf : WF u.params) : (sortParams u).Prov ↔ ProvWF u := by
  unfold Sorted.Prov
  rw [sortParams_all hwf, (sortParams_src u).1, (sortParams_src u).2, provWF_iff]

theorem applyParams_prov {sig : USig} {A : Sorted} {R : USig} (h : applyParams sig A = .ok R) :
    ProvWF R ↔ A.Prov := by
  obtain ⟨e1, e2, e3⟩ := applyParams_fields h
  rw [provWF_iff, e1, e2, e3]

theorem Srcs.All.restrict {P : Nat → Nat → Prop} {src s0 : Srcs} {N : List Nat} (h : s0.All P)
    (hsrc : ∀ k, dget src k = if k ∈ N then dget s0 k else none) : src.All P := by
  intro k f hf
  unfold sget at hf
  rw [hsrc k] at hf
  split at hf
  · exact h k f hf
  · cases hf

theorem Prov.restrict {N N' : List Nat} {src src' : Srcs} {dep : Depths} (h : Prov N src dep)
    (hsub : ∀ k, k ∈ N' → k ∈ N)
    (hsrc : ∀ k, dget src' k = if k ∈ N' then dget src k else none) : Prov N' src' dep := by
  refine ⟨fun k => ?_, fun k hk => ?_, h.dep.restrict hsrc⟩
  · unfold dhas
    rw [hsrc k]
    split
    · rename_i hk
      exact ⟨fun _ => hk, fun _ => (h.keys k).2 (hsub k hk)⟩
    · rename_i hk
      exact ⟨fun hd => (by cases hd), fun hk' => absurd hk' hk⟩
  · unfold sget
    rw [hsrc k, if_pos hk]
    exact h.ne k (hsub k hk)

theorem mergeStep_prov {l r s : Sorted} (hl : l.Prov) (hr : r.Prov) (h : mergeStep l r = .ok s) :
    s.Prov ∧ ∀ P, l.src.All P → r.src.All P → s.src.All P := by
  have g := mergeStep_src_gen l r s hl.srcWF.sourcedAll (.inl hr.srcWF.sourcedAll) h
  exact ⟨⟨g.keys, g.ne, mergeStep_depths l r s h ▸ .dep_merge g.mem hl.dep hr.dep⟩, fun _ => .of_two g.mem⟩

theorem mergeFold_prov {P : Nat → Nat → Prop} {acc r : Sorted} {ss : List USig}
    (hss : ∀ s ∈ ss, WF s.params ∧ ProvWF s ∧ s.src.All P) (hacc : acc.Prov ∧ acc.src.All P)
    (h : mergeFold acc ss = .ok r) : r.Prov ∧ r.src.All P := by
  refine mergeFold_inv (Inv := fun a => a.Prov ∧ a.src.All P) (fun l m s hs ⟨pl, al⟩ hm => ?_) hacc h
  obtain ⟨hwf, hp, hP⟩ := hss s hs
  obtain ⟨pm, am⟩ := mergeStep_prov pl ((sortParams_prov hwf).2 hp) hm
  exact ⟨pm, am P al ((sortParams_src s).1 ▸ hP)⟩

theorem merge_prov {P : Nat → Nat → Prop} {ss : List USig} {R : USig}
    (hss : ∀ s ∈ ss, WF s.params ∧ ProvWF s ∧ s.src.All P) (h : merge ss = .ok R) :
    ProvWF R ∧ R.src.All P := by
  obtain ⟨s, ss, r, rfl, hfold, h⟩ := merge_inv h
  obtain ⟨hwf, hp, hP⟩ := hss s List.mem_cons_self
  obtain ⟨pr, ar⟩ := mergeFold_prov (fun t ht => hss t (List.mem_cons_of_mem _ ht))
    ⟨(sortParams_prov hwf).2 hp, (sortParams_src s).1 ▸ hP⟩ hfold
  exact ⟨(applyParams_prov h).2 pr, (applyParams_fields h).2.1 ▸ ar⟩

theorem mergeFold_nd (acc r : Sorted) (ss : List USig) (ha : KeysND acc.src)
    (h : mergeFold acc ss = .ok r) : KeysND r.src :=
  mergeFold_inv (Inv := fun a => KeysND a.src) (fun _ _ _ _ _ hm => mergeStep_nd _ _ _ hm) ha h

end SV
