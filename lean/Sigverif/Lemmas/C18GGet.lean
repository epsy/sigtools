/-
  Lemmas/C18GGet.lean — what lookups answer: the right instance (identity keys), the same wrapper while
  it is held (both key modes), a fresh wrapper after collection; reachability of instances; access
  through the class.
-/
import Sigverif.Lemmas.C18GInv
namespace SV

def IKnown (s : IState) : Prop := ∀ i ∈ s.heldInst, (s.instOf i).isSome = true

theorem instOf_congr {s t : IState} (h : t.known = s.known) (j : Nat) : t.instOf j = s.instOf j := by
  unfold IState.instOf
  rw [h]

theorem instOf_newInst_stable (m : KeyMode) (s : IState) (i c j : Nat) (k : Inst)
    (h : s.instOf j = some k) : (istep m s (.newInst i c)).1.instOf j = some k := by
  simp only [istep, IState.instOf]
  split
  · exact h
  · rename_i hn
    have hij : ¬ i = j := by
      rintro rfl
      simp only [IState.instOf] at h hn
      rw [h] at hn; cases hn
    have hb : (i == j) = false := by simpa using hij
    simp only [List.find?_cons, hb]
    exact h

theorem instOf_step_stable (m : KeyMode) (s : IState) (op : IOp) (j : Nat) (k : Inst)
    (h : s.instOf j = some k) : (istep m s op).1.instOf j = some k := by
  cases op
  case newInst i c => exact instOf_newInst_stable m s i c j k h
  case get i => rw [istep_get, instOf_congr (lookupStep_known m s i _)]; exact h
  case call i => rw [istep_call, instOf_congr (lookupStep_known m s i _)]; exact h
  all_goals exact h

theorem IKnown_step (m : KeyMode) (s : IState) (op : IOp) (hs : IKnown s) : IKnown (istep m s op).1 := by
  intro j hj
  have key : j ∈ s.heldInst → ((istep m s op).1.instOf j).isSome = true := by
    intro hj'
    obtain ⟨k, hk⟩ := Option.isSome_iff_exists.1 (hs j hj')
    rw [instOf_step_stable m s op j k hk]; rfl
  cases op
  case newInst i c =>
    simp only [istep, mem_addOnce] at hj
    rcases hj with rfl | hj
    · simp only [istep, IState.instOf]
      split
      · rename_i k hk
        rw [hk]; rfl
      · simp
    · exact key hj
  case get i => rw [istep_get, lookupStep_heldInst] at hj; exact key hj
  case call i => rw [istep_call, lookupStep_heldInst] at hj; exact key hj
  case dropInst i =>
    simp only [istep, List.mem_filter] at hj
    exact key hj.1
  all_goals exact key hj

theorem IKnown_init : IKnown {} := by intro i hi; cases hi

theorem IKnown_run (m : KeyMode) (ops : List IOp) : IKnown (irun m ops) :=
  irunFrom_keeps m _ ops (fun s op _ => IKnown_step m s op) {} IKnown_init

theorem heldInstOf_of_held {s : IState} (hs : IKnown s) {i : Nat} (hi : i ∈ s.heldInst) :
    ∃ k, s.heldInstOf i = some k ∧ k.id = i := by
  obtain ⟨k, hk⟩ := Option.isSome_iff_exists.1 (hs i hi)
  refine ⟨k, ?_, instOf_id hk⟩
  simp [IState.heldInstOf, hi, hk]

theorem call_answer_eq_get (m : KeyMode) (s : IState) (i : Nat) :
    (istep m s (.call i)).2 = (istep m s (.get i)).2 := by
  rw [istep_call, istep_get]
  unfold lookupStep
  split <;> rfl

theorem touch_bound {s : IState} (hs : IInv .identity s) (k : Inst) :
    (s.touch .identity k).2.wrapperInst = k.id := by
  rw [(IInv_touch hs k).bound rfl _ (touch_mem _ s k)]
  exact matches_identity.1 (touch_matches _ s k)

theorem step_right_instance (s : IState) (hs : IInv .identity s) (i w b : Nat)
    (h : (istep .identity s (.get i)).2 = some (.wrapper w b)) : b = i := by
  rw [istep_get] at h
  unfold lookupStep at h
  split at h
  · cases h
  · rename_i k hk
    cases h
    rw [touch_bound hs k]
    exact (heldInstOf_some hk).2.2

theorem get_answers_wrapper (m : KeyMode) (s : IState) (hk : IKnown s) (i : Nat) (hi : i ∈ s.heldInst) :
    ∃ w b, (istep m s (.get i)).2 = some (.wrapper w b) := by
  obtain ⟨k, hk, _⟩ := heldInstOf_of_held hk hi
  simp only [istep_get, lookupStep, hk]
  exact ⟨_, _, rfl⟩

theorem get_noInst (m : KeyMode) (s : IState) (i : Nat) (hi : i ∉ s.heldInst) :
    (istep m s (.get i)).2 = some .noInst := by
  simp [istep_get, lookupStep, IState.heldInstOf, hi]

def Stab (m : KeyMode) (i : Nat) (k : Inst) (e : IEntry) (s : IState) : Prop :=
  s.instOf i = some k ∧ s.find m k = some e ∧ (i, e.wid) ∈ s.heldWrap

theorem matches_congr (m : KeyMode) {a b : Inst} (h : m.matches a b = true) (x : Inst) :
    m.matches x a = m.matches x b := by
  cases m <;> simp only [KeyMode.matches, beq_iff_eq] at h ⊢ <;> rw [h]

theorem find_congr (m : KeyMode) (s : IState) {a b : Inst} (h : m.matches a b = true) :
    s.find m a = s.find m b := by
  unfold IState.find
  congr 1
  funext x
  exact matches_congr m h x.key

theorem find_keepSt (m : KeyMode) (s : IState) (keep : Option Nat) (w : Nat) (k : Inst) :
    (keepSt s keep w).find m k = s.find m k := by
  cases keep <;> rfl

/-- a lookup that hits keeps hitting the same entry whatever other lookup comes in between: a new entry
    is only made for a key that matches nothing, so not for one that matches `k` -/
theorem find_touch (m : KeyMode) (s : IState) (k' k : Inst) (e : IEntry) (hk : s.find m k = some e) :
    (s.touch m k').1.find m k = some e := by
  cases hmiss : s.find m k' with
  | some e' => rw [touch_hit hmiss]; exact hk
  | none =>
    have hne : m.matches k' k = false := by
      cases hm : m.matches k' k with
      | false => rfl
      | true => rw [find_congr m s hm, hk] at hmiss; cases hmiss
    rw [touch_miss hmiss]
    simp only [IState.find, insSt, List.find?_cons, hne]
    exact hk

theorem find_touch_self (m : KeyMode) (s : IState) (k : Inst) :
    (s.touch m k).1.find m k = some (s.touch m k).2 := by
  cases h : s.find m k with
  | some e => rw [touch_hit h]; exact h
  | none =>
    have hmm : m.matches k k = true := by cases m <;> simp [KeyMode.matches]
    rw [touch_miss h]
    simp [IState.find, insSt, hmm]

theorem find?_filter_of_keep {α : Type} (p q : α → Bool) (l : List α) (a : α)
    (h : l.find? p = some a) (hq : q a = true) : (l.filter q).find? p = some a := by
  obtain ⟨hp, as, bs, rfl, hn⟩ := List.find?_eq_some_iff_append.1 h
  rw [List.filter_append, List.filter_cons_of_pos hq]
  exact List.find?_eq_some_iff_append.2 ⟨hp, _, _, rfl, fun x hx => hn x (List.mem_filter.1 hx).1⟩

theorem Stab_lookupStep {m : KeyMode} {i : Nat} {k : Inst} {e : IEntry} {s : IState}
    (h : Stab m i k e s) (j : Nat) (keep : Option Nat) : Stab m i k e (lookupStep m s j keep).1 := by
  refine ⟨(instOf_congr (lookupStep_known m s j keep) i).trans h.1, ?_⟩
  cases hj : s.heldInstOf j with
  | none => simp only [lookupStep, hj]; exact h.2
  | some k' =>
    simp only [lookupStep, hj, find_keepSt]
    refine ⟨find_touch m s k' k e h.2.1, ?_⟩
    cases keep with
    | none => rw [keepSt, touch_heldWrap]; exact h.2.2
    | some slot => simp only [keepSt, mem_addPair, touch_heldWrap]; exact Or.inr h.2.2

theorem Stab_step {m : KeyMode} {i : Nat} {k : Inst} {e : IEntry} {s : IState} (op : IOp)
    (hop : op ≠ .dropWrapper i) (h : Stab m i k e s) : Stab m i k e (istep m s op).1 := by
  cases op with
  | get j => rw [istep_get]; exact Stab_lookupStep h j _
  | call j => rw [istep_call]; exact Stab_lookupStep h j _
  | cls => exact h
  | dropInst j => exact h
  | newInst j c => exact ⟨instOf_newInst_stable m s j c i k h.1, h.2.1, h.2.2⟩
  | dropWrapper j =>
    refine ⟨h.1, h.2.1, ?_⟩
    simp only [istep, List.mem_filter]
    refine ⟨h.2.2, ?_⟩
    have : i ≠ j := by rintro rfl; exact hop rfl
    simpa using this
  | gc =>
    -- the entry survives the collection because the caller holds its wrapper
    refine ⟨h.1, ?_, h.2.2⟩
    simp only [istep, IState.collect, IState.find]
    apply find?_filter_of_keep _ _ _ _ h.2.1
    simp only [List.any_eq_true, beq_iff_eq]
    exact ⟨_, h.2.2, rfl⟩

theorem Stab_runFrom {m : KeyMode} {i : Nat} {k : Inst} {e : IEntry} (ops : List IOp) (s : IState)
    (hops : IOp.dropWrapper i ∉ ops) (h : Stab m i k e s) : Stab m i k e (irunFrom m s ops).1 :=
  irunFrom_keeps m _ ops (fun _ op ho => Stab_step op (fun hh => hops (hh ▸ ho))) s h

theorem Stab_after_get (m : KeyMode) (s : IState) (i : Nat) (k : Inst)
    (hk : s.heldInstOf i = some k) :
    ∃ e, Stab m i k e (istep m s (.get i)).1 ∧
      (istep m s (.get i)).2 = some (.wrapper e.wid e.wrapperInst) := by
  simp only [istep_get, lookupStep, hk]
  refine ⟨(s.touch m k).2, ⟨?_, ?_, ?_⟩, rfl⟩
  · rw [instOf_congr (s := s) (by simp)]
    exact (heldInstOf_some hk).2.1
  · rw [find_keepSt]
    exact find_touch_self m s k
  · simp [keepSt, mem_addPair]

theorem Stab_answer {m : KeyMode} {i : Nat} {k : Inst} {e : IEntry} {s : IState}
    (h : Stab m i k e s) (hi : i ∈ s.heldInst) :
    (istep m s (.get i)).2 = some (.wrapper e.wid e.wrapperInst) := by
  have hk : s.heldInstOf i = some k := by simp [IState.heldInstOf, hi, h.1]
  simp only [istep_get, lookupStep, hk, touch_hit h.2.1]

theorem get_stable' (m : KeyMode) (s : IState) (mid : List IOp) (i : Nat) (a : IAns)
    (h1 : (istep m s (.get i)).2 = some a) (ha : a ≠ .noInst)
    (hmid : IOp.dropWrapper i ∉ mid)
    (hheld : i ∈ (irunFrom m (istep m s (.get i)).1 mid).1.heldInst) :
    (istep m (irunFrom m (istep m s (.get i)).1 mid).1 (.get i)).2 = some a := by
  cases hk : s.heldInstOf i with
  | none =>
    simp only [istep_get, lookupStep, hk, Option.some.injEq] at h1
    exact absurd h1.symm ha
  | some k =>
    obtain ⟨e, hst, hans⟩ := Stab_after_get m s i k hk
    rw [hans] at h1
    rw [← h1]
    exact Stab_answer (Stab_runFrom mid _ hmid hst) hheld

theorem lookupStep_nextWid_le (m : KeyMode) (s : IState) (i : Nat) (keep : Option Nat) :
    s.nextWid ≤ (lookupStep m s i keep).1.nextWid := by
  unfold lookupStep
  split
  · exact Nat.le_refl _
  · rw [keepSt_nextWid]
    unfold IState.touch
    split
    · exact Nat.le_refl _
    · exact Nat.le_succ _

theorem nextWid_step_mono (m : KeyMode) (s : IState) (op : IOp) :
    s.nextWid ≤ (istep m s op).1.nextWid := by
  cases op
  case get i => rw [istep_get]; exact lookupStep_nextWid_le m s i _
  case call i => rw [istep_call]; exact lookupStep_nextWid_le m s i _
  all_goals exact Nat.le_refl _

theorem lookupStep_wid_lt (m : KeyMode) (s : IState) (hs : IInv m s) (i : Nat) (keep : Option Nat)
    (w b : Nat) (h : (lookupStep m s i keep).2 = some (.wrapper w b)) :
    w < (lookupStep m s i keep).1.nextWid := by
  cases hk : s.heldInstOf i with
  | none => simp [lookupStep, hk] at h
  | some k =>
    simp only [lookupStep, hk, Option.some.injEq, IAns.wrapper.injEq] at h ⊢
    rw [keepSt_nextWid, ← h.1]
    exact (IInv_touch hs k).widE _ (touch_mem m s k)

theorem step_wid_lt (m : KeyMode) (s : IState) (hs : IInv m s) (op : IOp) (w b : Nat)
    (h : (istep m s op).2 = some (.wrapper w b)) : w < (istep m s op).1.nextWid := by
  cases op
  case get i => rw [istep_get] at h ⊢; exact lookupStep_wid_lt m s hs i _ w b h
  case call i => rw [istep_call] at h ⊢; exact lookupStep_wid_lt m s hs i _ w b h
  case cls => simp [istep, descGet] at h
  all_goals cases h

theorem trace_wid_lt (m : KeyMode) (s : IState) (hs : IInv m s) (ops : List IOp) :
    ∀ p ∈ (irunFrom m s ops).2, ∀ w b, p.2 = .wrapper w b → w < (irunFrom m s ops).1.nextWid :=
  irunFrom_answers m (IInv m) (fun s p => ∀ w b, p.2 = .wrapper w b → w < s.nextWid) (IInv_step m)
    (fun s op _ h w b hp => Nat.lt_of_lt_of_le (h w b hp) (nextWid_step_mono m s op))
    (fun s op _ hs ha w b hp => step_wid_lt m s hs op w b (hp ▸ ha)) s hs ops

theorem collect_entry_held {s : IState} (hs : IInv .identity s) {e : IEntry} (he : e ∈ s.collect.entries) :
    (e.key.id, e.wid) ∈ s.heldWrap := by
  obtain ⟨he, h, hh, hw⟩ := mem_collect_entries.1 he
  rw [hs.slot rfl h hh e he hw.symm, ← hw]
  exact hh

theorem no_entry_after_drop_gc (s : IState) (hs : IInv .identity s) (i : Nat) :
    ∀ e ∈ (irunFrom .identity s [.dropWrapper i, .gc]).1.entries, e.key.id ≠ i := by
  intro e he
  have h := collect_entry_held (IInv_step .identity s (.dropWrapper i) hs) he
  exact of_decide_eq_true (List.mem_filter.1 h).2

theorem fresh_after_drop_gc (s : IState) (hs : IInv .identity s) (hk : IKnown s) (i : Nat)
    (hi : i ∈ s.heldInst) :
    (istep .identity (irunFrom .identity s [.dropWrapper i, .gc]).1 (.get i)).2 =
      some (.wrapper (irunFrom .identity s [.dropWrapper i, .gc]).1.nextWid i) := by
  have hne := no_entry_after_drop_gc s hs i
  obtain ⟨k, hk', hid⟩ := heldInstOf_of_held hk hi
  have hk2 : (irunFrom .identity s [.dropWrapper i, .gc]).1.heldInstOf i = some k := hk'
  cases hf : (irunFrom .identity s [.dropWrapper i, .gc]).1.find .identity k with
  | some e =>
    obtain ⟨hmem, hm⟩ := find_some hf
    exact absurd ((matches_identity.1 hm).trans hid) (hne e hmem)
  | none => simp only [istep_get, lookupStep, hk2, touch_miss hf, hid]

theorem not_alive_after_collect (s : IState) (hs : IInv .identity s) (i : Nat)
    (h1 : i ∉ s.heldInst) (h2 : ∀ w, (i, w) ∉ s.heldWrap) : i ∉ s.collect.alive := by
  have key : ∀ e ∈ s.collect.entries, e.key.id ≠ i :=
    fun e he hid => h2 e.wid (hid ▸ collect_entry_held hs he)
  have hb := (IInv_collect hs).bound rfl
  simp only [IState.alive, List.mem_append, List.mem_map, not_or, not_exists, not_and]
  refine ⟨⟨h1, fun e he => key e he⟩, fun e he => ?_⟩
  rw [hb e he]
  exact key e he

theorem alive_of_held (m : KeyMode) (s : IState) (hs : IInv m s) (i : Nat)
    (h : i ∈ s.heldInst ∨ (m = .identity ∧ ∃ w, (i, w) ∈ s.heldWrap)) : i ∈ s.collect.alive := by
  simp only [IState.alive, List.mem_append, List.mem_map]
  rcases h with h | ⟨hm, w, hw⟩
  · exact Or.inl (Or.inl h)
  · obtain ⟨e, he, hew⟩ := hs.hasE _ hw
    exact Or.inl (Or.inr ⟨e, mem_collect_entries.2 ⟨he, _, hw, hew.symm⟩, hs.slot hm _ hw e he hew⟩)

/-! ### access through the class is transparent: `selfEntry` is written and never read -/

def IState.setSelf (s : IState) : IState := { s with selfEntry := true }

theorem lookupStep_setSelf (m : KeyMode) (s : IState) (i : Nat) (keep : Option Nat) :
    lookupStep m s.setSelf i keep = ((lookupStep m s i keep).1.setSelf, (lookupStep m s i keep).2) := by
  have hh : s.setSelf.heldInstOf i = s.heldInstOf i := rfl
  unfold lookupStep
  rw [hh]
  cases s.heldInstOf i with
  | none => rfl
  | some k =>
    have hf : s.setSelf.find m k = s.find m k := rfl
    simp only [IState.touch, hf]
    cases s.find m k <;> cases keep <;> rfl

theorem istep_setSelf (m : KeyMode) (s : IState) (op : IOp) :
    istep m s.setSelf op = ((istep m s op).1.setSelf, (istep m s op).2) := by
  cases op
  case get i => rw [istep_get, istep_get, lookupStep_setSelf]
  case call i => rw [istep_call, istep_call, lookupStep_setSelf]
  all_goals rfl

theorem irunFrom_setSelf (m : KeyMode) (s : IState) (ops : List IOp) :
    irunFrom m s.setSelf ops = ((irunFrom m s ops).1.setSelf, (irunFrom m s ops).2) := by
  induction ops generalizing s with
  | nil => rfl
  | cons op ops ih => rw [irunFrom_cons, irunFrom_cons, istep_setSelf, ih]

end SV
