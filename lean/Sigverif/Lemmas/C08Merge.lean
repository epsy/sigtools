/-
  Lemmas/C08Merge.lean — provenance invariant of one merge step (C08).
  `SrcOK l r st` : the source map built so far has exactly one entry per parameter held
  in the state's buckets, no entry is empty, and every callable listed for a name is
  listed for that same name by one of the two operands.
-/
import Sigverif.Lemmas.Core.Sort
import Sigverif.Lemmas.MergeStep
import Sigverif.Lemmas.SrcDict
namespace SV

def MState.held (st : MState) : List Nat := names st.pos ++ names st.pok ++ names st.kwo

def Sourced (s : Srcs) (ps : List Param) : Prop := ∀ p ∈ ps, sget s p.name ≠ []

theorem Sourced.tail {s : Srcs} {p : Param} {ps : List Param} (h : Sourced s (p :: ps)) : Sourced s ps :=
  fun q hq => h q (by simp [hq])
theorem Sourced.head {s : Srcs} {p : Param} {ps : List Param} (h : Sourced s (p :: ps)) :
    sget s p.name ≠ [] := h p (by simp)
theorem Sourced.pset {s : Srcs} {p : Param} {ps : List Param} (h : Sourced s ps) (hp : sget s p.name ≠ []) :
    Sourced s (pset ps p) := by
  intro q hq
  rcases mem_pset hq with hq | rfl
  · exact h q hq
  · exact hp
theorem Sourced.ppop {s : Srcs} {ps : List Param} (n : Nat) (h : Sourced s ps) : Sourced s (ppop ps n) :=
  fun q hq => h q (mem_ppop.1 hq).1
theorem Sourced.nil (s : Srcs) : Sourced s [] := by intro p hp; cases hp

theorem mem_held {st : MState} {k : Nat} :
    k ∈ st.held ↔ k ∈ names st.pos ∨ k ∈ names st.pok ∨ k ∈ names st.kwo := by
  simp only [MState.held, List.mem_append, or_assoc]

structure SrcRel (l r : Sorted) (N : List Nat) (src : Srcs) : Prop where
  keys : ∀ k, dhas src k = true ↔ k ∈ N
  ne   : ∀ k, k ∈ N → sget src k ≠ []
  mem  : ∀ k f, f ∈ sget src k → f ∈ sget l.src k ∨ f ∈ sget r.src k

theorem SrcRel.congr {l r : Sorted} {N N' : List Nat} {src : Srcs} (h : SrcRel l r N src)
    (hN : ∀ k, k ∈ N' ↔ k ∈ N) : SrcRel l r N' src :=
  ⟨fun k => (h.keys k).trans (hN k).symm, fun k hk => h.ne k ((hN k).1 hk), h.mem⟩

theorem SrcRel.nil (l r : Sorted) : SrcRel l r [] [] :=
  ⟨fun k => (by simp [dhas, dget]), fun k hk => (by cases hk), fun k f hf => (by simp [sget, dget] at hf)⟩

theorem SrcRel.set {l r : Sorted} {N : List Nat} {src : Srcs} (h : SrcRel l r N src) (n : Nat)
    (X : List Nat) (hX : X ≠ []) (hXm : ∀ f ∈ X, f ∈ sget l.src n ∨ f ∈ sget r.src n) :
    SrcRel l r (n :: N) (dset src n X) := by
  refine ⟨?_, ?_, ?_⟩
  · intro k
    rw [dhas_dset, List.mem_cons, ← h.keys]
    by_cases hk : k = n <;> simp [hk]
  · intro k hk
    rw [sget_dset]
    split
    · exact hX
    · rename_i hkn
      exact h.ne k ((List.mem_cons.1 hk).resolve_left hkn)
  · intro k f hf
    rw [sget_dset] at hf
    split at hf
    · rename_i hkn; subst hkn; exact hXm f hf
    · exact h.mem k f hf

/-- `_add_sources` from operand maps, one of which has an entry for `n` -/
theorem SrcRel.add {l r : Sorted} {N : List Nat} {src : Srcs} (h : SrcRel l r N src) (n : Nat)
    (frm : List Srcs) (hfrm : ∀ s ∈ frm, s = l.src ∨ s = r.src) (hne : ∃ s ∈ frm, sget s n ≠ []) :
    SrcRel l r (n :: N) (addSources src n frm) := by
  apply h.set
  · obtain ⟨s, hs, hsn⟩ := hne
    intro he
    simp only [List.append_eq_nil_iff, List.flatten_eq_nil_iff, List.mem_map] at he
    exact hsn (he.2 _ ⟨s, hs, rfl⟩)
  · intro f hf
    simp only [List.mem_append, List.mem_flatten, List.mem_map] at hf
    rcases hf with hf | ⟨_, ⟨s, hs, rfl⟩, hf⟩
    · exact h.mem n f hf
    · rcases hfrm s hs with rfl | rfl
      · exact .inl hf
      · exact .inr hf

theorem SrcRel.addAll {l r : Sorted} {N : List Nat} {src : Srcs} (h : SrcRel l r N src)
    (un : List Param) (frm : Srcs) (hfrm : frm = l.src ∨ frm = r.src) (hun : Sourced frm un) :
    SrcRel l r (names un ++ N) (addAllSources src un frm) := by
  unfold addAllSources
  induction un generalizing N src with
  | nil => exact h
  | cons p t ih =>
    -- one `set` for the head; the later ones find its name among the names held
    have hp : sget frm p.name ≠ [] := hun p List.mem_cons_self
    have := h.set p.name (sget src p.name ++ sget frm p.name) (fun e => hp (List.append_eq_nil_iff.1 e).2)
      fun f hf => (List.mem_append.1 hf).elim (h.mem _ f) fun hf => by
        rcases hfrm with rfl | rfl
        · exact .inl hf
        · exact .inr hf
    refine (ih this fun q hq => hun q (List.mem_cons_of_mem _ hq)).congr fun k => ?_
    simp only [names_cons, List.mem_append, List.mem_cons]
    exact or_assoc.trans or_left_comm

structure SrcOK (l r : Sorted) (st : MState) : Prop extends SrcRel l r st.held st.src where
  lun  : Sourced l.src st.lUn
  run  : Sourced r.src st.rUn

theorem held_pos {st : MState} {x : Param} {k : Nat} :
    k ∈ names (st.pos ++ [x]) ++ names st.pok ++ names st.kwo ↔ k = x.name ∨ k ∈ st.held := by
  simp only [mem_held, names_append, names_singleton, List.mem_append, List.mem_singleton]
  rw [or_assoc, or_assoc, or_left_comm]

theorem held_pok {st : MState} {x : Param} {k : Nat} :
    k ∈ names st.pos ++ names (st.pok ++ [x]) ++ names st.kwo ↔ k = x.name ∨ k ∈ st.held := by
  simp only [mem_held, names_append, names_singleton, List.mem_append, List.mem_singleton]
  rw [or_assoc, or_assoc, or_left_comm (a := k ∈ names st.pok), or_left_comm]

theorem held_kwo {st : MState} {x : Param} {k : Nat} :
    k ∈ names st.pos ++ names st.pok ++ names (pset st.kwo x) ↔ k = x.name ∨ k ∈ st.held := by
  simp only [mem_held, List.mem_append, mem_names_pset]
  rw [or_assoc, or_comm (a := k ∈ names st.kwo), or_left_comm (a := k ∈ names st.pok), or_left_comm]

theorem held_flush {st : MState} {x : Param} {k : Nat} :
    k ∈ names (st.pos ++ st.pok.map (·.withKind .po) ++ [x]) ++ names ([] : List Param) ++ names st.kwo ↔
      k = x.name ∨ k ∈ st.held := by
  simp only [mem_held, names_append, names_map_withKind, names_singleton, names_nil, List.mem_append,
    List.mem_singleton, List.not_mem_nil, or_false]
  rw [or_assoc, or_assoc, or_left_comm (a := k ∈ names st.pok), or_left_comm]

theorem mem_pair_or {a b x y : Srcs} (ha : a = x ∨ a = y) (hb : b = x ∨ b = y) :
    ∀ s ∈ [a, b], s = x ∨ s = y := by
  intro s hs
  rcases List.mem_cons.1 hs with rfl | hs
  · exact ha
  · rw [List.mem_singleton.1 hs]; exact hb

theorem Put.held {K : Prop} {e : Param} {st : MState} {b' : Bk} (ha : Put K e st.bk b') (k : Nat) :
    k ∈ names b'.pos ++ names b'.pok ++ names b'.kwo ↔ k ∈ e.name :: st.held := by
  rw [List.mem_cons]
  cases ha with
  | pos => exact held_pos (st := st)
  | pok => exact held_pok (st := st)
  | kwo => exact held_kwo (st := st)
  | flush => exact held_flush (st := st)

theorem Put.un {K : Prop} {e : Param} {b b' : Bk} (ha : Put K e b b') : b'.lUn = b.lUn ∧ b'.rUn = b.rUn := by
  cases ha <;> exact ⟨rfl, rfl⟩

theorem Credit.rel {l r : Sorted} {own other : Srcs} {n : Nat} {N : List Nat} {s s' : Srcs}
    (hc : Credit own other n s s') (h : SrcRel l r N s)
    (ho : own = l.src ∨ own = r.src) (ht : other = l.src ∨ other = r.src) (hn : sget own n ≠ []) :
    SrcRel l r (n :: N) s' := by
  cases hc with
  | one => exact h.add n _ (fun s hs => List.mem_singleton.1 hs ▸ ho) ⟨own, .head _, hn⟩
  | two => exact h.add n _ (mem_pair_or ho ht) ⟨own, .head _, hn⟩
  | twoRev => exact h.add n _ (mem_pair_or ht ho) ⟨own, .tail _ (.head _), hn⟩

theorem SrcOK.put {K : Prop} {l r : Sorted} {st st' : MState} {e : Param} {b' : Bk} {n : Nat} (h : SrcOK l r st)
    (ha : Put K e st.bk b') (hb : st'.bk = b') (hn : e.name = n)
    (hrel : SrcRel l r (n :: st.held) st'.src) : SrcOK l r st' := by
  subst hb hn
  exact ⟨hrel.congr ha.held, (show st'.lUn = st.lUn from ha.un.1) ▸ h.lun,
    (show st'.rUn = st.rUn from ha.un.2) ▸ h.run⟩

theorem SrcRel.limbo {l r : Sorted} {st : MState} {e : Param} {n : Nat} {s' : Srcs} (hn : e.name = n)
    (h : SrcRel l r (n :: st.held) s') :
    SrcRel l r (names st.pos ++ names st.pok ++ names (pset st.kwo e)) s' := by
  subst hn
  exact h.congr fun _ => (held_kwo (st := st)).trans List.mem_cons.symm

theorem SrcOK.mstep {K : Prop} {l r : Sorted} (xs ys : List Param) (st : MState) (xs' ys' : List Param)
    (st' : MState) (s : MStep K l r xs ys st xs' ys' st')
    (h : Sourced l.src xs ∧ Sourced r.src ys ∧ SrcOK l r st) :
    Sourced l.src xs' ∧ Sourced r.src ys' ∧ SrcOK l r st' := by
  obtain ⟨hx, hy, h⟩ := h
  induction s with
  | both lp rp e _ _ _ b' src' hm he _ ha hs =>
    exact ⟨hx.tail, hy.tail, h.put ha rfl hm.name (hs.rel h.toSrcRel (.inl rfl) (.inr rfl) hx.head)⟩
  | bothR lp rp e _ _ _ b' src' _ hm he ha hs =>
    exact ⟨hx.tail, hy.tail, h.put ha rfl hm.name (hs.rel h.toSrcRel (.inr rfl) (.inl rfl) hy.head)⟩
  | left lp e _ _ b' va' hm he _ ha =>
    exact ⟨hx.tail, hy, h.put ha rfl hm.name (Credit.one.rel h.toSrcRel (.inl rfl) (.inr rfl) hx.head)⟩
  | right rp e _ _ b' va' hm he _ ha =>
    exact ⟨hx, hy.tail, h.put ha rfl hm.name (Credit.one.rel h.toSrcRel (.inr rfl) (.inl rfl) hy.head)⟩
  | leftDrop => exact ⟨hx.tail, hy, h⟩
  | rightDrop => exact ⟨hx, hy.tail, h⟩
  | leftLimbo lp q e _ _ hq hm he hk =>
    -- the parameter meets its namesake among the other side's unmatched keyword-only parameters,
    -- which leaves that list
    exact ⟨hx.tail, hy, (Credit.twoRev.rel h.toSrcRel (.inl rfl) (.inr rfl) hx.head).limbo hm.name,
      h.lun, h.run.ppop _⟩
  | rightLimbo rp q e _ _ hq hm he hk =>
    exact ⟨hx, hy.tail, (Credit.twoRev.rel h.toSrcRel (.inr rfl) (.inl rfl) hy.head).limbo hm.name,
      h.lun.ppop _, h.run⟩

theorem MStep.nd {K : Prop} {l r : Sorted} (xs ys : List Param) (st : MState) (xs' ys' : List Param) (st' : MState)
    (s : MStep K l r xs ys st xs' ys' st') (h : KeysND st.src) : KeysND st'.src := by
  induction s with
  | both _ _ _ _ _ _ _ _ _ _ _ _ hs | bothR _ _ _ _ _ _ _ _ _ _ _ _ hs => cases hs <;> exact h.addSources _ _
  | left | right | leftLimbo | rightLimbo => exact h.addSources _ _
  | leftDrop | rightDrop => exact h

theorem held_pupdate {st : MState} {un : List Param} {k : Nat} :
    k ∈ names st.pos ++ names st.pok ++ names (pupdate st.kwo un) ↔ k ∈ names un ++ st.held := by
  simp only [mem_held, List.mem_append, mem_names_pupdate]
  rw [or_assoc, or_comm (a := k ∈ names st.kwo), or_left_comm (a := k ∈ names st.pok), or_left_comm]

theorem WStep.src {K : Prop} {l r : Sorted} (xs ys : List Param) (c : WState) (xs' ys' : List Param) (c' : WState)
    (s : WStep K l r xs ys c xs' ys' c')
    (h : (Sourced l.src c.kl ∧ Sourced r.src c.kr) ∧ Sourced l.src xs ∧ Sourced r.src ys ∧ SrcOK l r c.st) :
    (Sourced l.src c'.kl ∧ Sourced r.src c'.kr) ∧ Sourced l.src xs' ∧ Sourced r.src ys' ∧ SrcOK l r c'.st := by
  obtain ⟨⟨k1, k2⟩, hx, hy, h⟩ := h
  induction s with
  | kw p q _ _ _ _ st hq =>
    refine ⟨⟨k1.tail, k2⟩, hx, hy, (h.toSrcRel.set p.name (sget l.src p.name ++ sget r.src p.name) ?_ ?_).congr
      fun k => (held_kwo (st := st)).trans List.mem_cons.symm, h.lun, h.run⟩
    · exact fun he => k1.head (List.append_eq_nil_iff.1 he).1
    · exact fun f hf => List.mem_append.1 hf
  | kwL p => exact ⟨⟨k1.tail, k2⟩, hx, hy, h.toSrcRel, h.lun.pset k1.head, h.run⟩
  | kwSkip p => exact ⟨⟨k1, k2.tail⟩, hx, hy, h⟩
  | kwR p => exact ⟨⟨k1, k2.tail⟩, hx, hy, h.toSrcRel, h.lun, h.run.pset k2.head⟩
  | pq s => exact ⟨⟨k1, k2⟩, SrcOK.mstep _ _ _ _ _ _ s ⟨hx, hy, h⟩⟩
  | unL st =>
    exact ⟨⟨k1, k2⟩, hx, hy, (h.toSrcRel.addAll st.lUn l.src (.inl rfl) h.lun).congr fun k => held_pupdate (st := st),
      h.lun, h.run⟩
  | unR st =>
    exact ⟨⟨k1, k2⟩, hx, hy, (h.toSrcRel.addAll st.rUn r.src (.inr rfl) h.run).congr fun k => held_pupdate (st := st),
      h.lun, h.run⟩

theorem WStep.nd {K : Prop} {l r : Sorted} (xs ys : List Param) (c : WState) (xs' ys' : List Param) (c' : WState)
    (s : WStep K l r xs ys c xs' ys' c') (h : KeysND c.st.src) : KeysND c'.st.src := by
  induction s with
  | kw => exact h.dset _ _
  | kwL | kwSkip | kwR => exact h
  | pq s => exact MStep.nd _ _ _ _ _ _ s h
  | unL | unR => exact h.addAllSources _ _

end SV
