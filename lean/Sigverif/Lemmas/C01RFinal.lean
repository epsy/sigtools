/-
  Lemmas/C01RFinal.lean — both ends of `merge` for arbitrary call shapes, and the construction
  of the global role assignment from `roleCons`.
-/
import Sigverif.Lemmas.C01RStep
namespace SV
variable {ρ : Roles} {IsIn : Nat → Prop}

/-- what `nonColl` and acceptance by the result say about the keywords, in terms of roles only -/
def GCond (ρ : Roles) (IsIn : Nat → Prop) (n : Nat) (K : List Nat) : Prop :=
  ∀ k ∈ K, ¬ IsIn k ∨ (ρ.κ k = .pk → n ≤ ρ.ι k)

theorem result_accB {B : Sorted} (hri : RI ρ IsIn B) (hv : validate B.all = .ok ()) {n : Nat}
    {K : List Nat} (ha : accepts B.all n K = true) :
    accB B n K ∧ ∀ k ∈ K, (k ∈ names B.pok ∨ k ∈ names B.kwo) → ρ.κ k = .pk → n ≤ ρ.ι k := by
  obtain ⟨hacc, c2⟩ := (accB_iff (.of_validate hri.bk hv) n K).1 (accepts_all_view hri.bk ha)
  refine ⟨hacc, fun k hk hkw hpk => ?_⟩
  have hnb := c2 k hk hkw
  rcases hkw with h | h
  · obtain ⟨c, hc, rfl⟩ := mem_names.1 h
    have hi := IdxOK_at ρ hri.idx (List.mem_append_right B.pos hc)
    exact Nat.le_of_not_lt fun hlt => hnb (mem_names_of_mem (mem_take_of_getElem? hi hlt))
  · obtain ⟨c, hc, rfl⟩ := mem_names.1 h
    exact hri.kwo_beyond hc (.inr hpk) hacc.1

/-- the keyword clause that `accB` leaves out: a keyword naming a positional-or-keyword parameter
    is not also bound positionally -/
def accG9 (ρ : Roles) (M : Sorted) (n : Nat) (K : List Nat) : Prop :=
  ∀ k ∈ K, k ∈ names M.pok → n ≤ ρ.ι k

theorem accepts_of_accB {B : Sorted} (hri : RI ρ IsIn B) (hv : validate B.all = .ok ())
    {n : Nat} {K : List Nat} (hK : K.Nodup) (h : accB B n K) (g : accG9 ρ B n K) :
    accepts B.all n K = true := by
  have hs : SWF B := .of_validate hri.bk hv
  rw [accepts_all_iff _ hri.bk _ _ hK]
  refine (accB_iff hs n K).2 ⟨h, fun k hk hkn hm => ?_⟩
  rcases hkn with h' | h'
  · obtain ⟨q, hq, rfl⟩ := mem_names.1 hm
    have := IdxOK_mem_take ρ hri.idx hq
    have := g _ hk h'
    omega
  · obtain ⟨c, hc, rfl⟩ := mem_names.1 h'
    rw [names_take] at hm
    exact hs.kwo_disj c hc (List.mem_of_mem_take hm)

theorem input_accB (s : USig) (hv : validate s.params = .ok ())
    (hri : RI ρ IsIn (sortParams s)) {n : Nat} {K : List Nat} (hK : K.Nodup)
    (hG : GCond ρ IsIn n K) (ha : accB (sortParams s) n K) : accepts s.params n K = true := by
  rw [accepts_sortParams s hv]
  refine accepts_of_accB hri (sortParams_all_valid s hv) hK ha fun k hk hkm => ?_
  obtain ⟨c, hc, rfl⟩ := mem_names.1 hkm
  rcases hG _ hk with h | h
  · exact absurd (hri.isin c (.inr (.inl hc))) h
  · exact h (hri.kpok c hc)

theorem RI_sort (s : USig) (hv : validate s.params = .ok ())
    (hk : ∀ p ∈ s.params, p.kind = ρ.κ p.name) (hi : IdxOK ρ 0 (positionals s.params))
    (hin : ∀ p ∈ s.params, IsIn p.name) : RI ρ IsIn (sortParams s) := by
  have bk := sortParams_bk s
  refine ⟨bk, sortParams_kwInv s hv, ?_, positionals_sort s hv ▸ hi, ?_, ?_, ?_⟩
  · rintro p (hp | hp | hp)
    · exact hin p (mem_sortParams_all (mem_all_pos hp))
    · exact hin p (mem_sortParams_all (mem_all_pok hp))
    · exact hin p (mem_sortParams_all (mem_all_kwo hp))
  · intro p hp; left; rw [← hk p (mem_sortParams_all (mem_all_pos hp))]; exact bk.pos p hp
  · intro p hp; rw [← hk p (mem_sortParams_all (mem_all_pok hp))]; exact bk.pok p hp
  · intro p hp; left; rw [← hk p (mem_sortParams_all (mem_all_kwo hp))]; exact bk.kwo p hp

theorem kindOf_mem {ps : List Param} (hn : (names ps).Nodup) {p : Param} (hp : p ∈ ps) :
    kindOf ps p.name = some p.kind :=
  congrArg (Option.map Param.kind) (pget_of_mem hn hp)

theorem idxOf?_of_nodup {l : List Nat} {a i : Nat} (hn : l.Nodup) (h : l[i]? = some a) :
    l.idxOf? a = some i := by
  induction l generalizing i with
  | nil => simp at h
  | cons b t ih =>
    simp only [List.nodup_cons] at hn
    rw [List.idxOf?_cons]
    cases i with
    | zero => simp at h; simp [h]
    | succ i =>
      simp at h
      have hm : a ∈ t := List.mem_of_getElem? h
      have : b ≠ a := fun e => hn.1 (e ▸ hm)
      simp [this, ih hn.2 h]

theorem posIndex_getElem {ps : List Param} (hn : (names ps).Nodup) {p : Param} {i : Nat}
    (h : (positionals ps)[i]? = some p) : posIndex ps p.name = some i := by
  unfold posIndex
  apply idxOf?_of_nodup
  · exact nodup_names_filter hn _
  · unfold names; rw [List.getElem?_map, h]; rfl

theorem exists_roles (inputs : List (List Param)) (hnd : ∀ s ∈ inputs, (names s).Nodup)
    (hrc : roleCons inputs) :
    ∃ ρ : Roles, ∀ s ∈ inputs, (∀ p ∈ s, p.kind = ρ.κ p.name) ∧ IdxOK ρ 0 (positionals s) := by
  let rep : Nat → Option (List Param) := fun x => inputs.find? (fun ps => (allNames ps).contains x)
  refine ⟨⟨fun x => ((rep x).bind (fun ps => kindOf ps x)).getD .po,
    fun x => ((rep x).bind (fun ps => posIndex ps x)).getD 0⟩, ?_⟩
  intro s hs
  have hrep : ∀ p ∈ s, ∃ s0 ∈ inputs, rep p.name = some s0 ∧ p.name ∈ allNames s0 := by
    intro p hp
    have hx : p.name ∈ allNames s := mem_names_of_mem hp
    cases hf : rep p.name with
    | none =>
      have := List.find?_eq_none.1 hf s hs
      simp [hx] at this
    | some s0 =>
      refine ⟨s0, List.mem_of_find?_eq_some hf, rfl, ?_⟩
      simpa using List.find?_some hf
  refine ⟨?_, ?_⟩
  · intro p hp
    obtain ⟨s0, hs0, hr, hx0⟩ := hrep p hp
    have := (hrc s hs s0 hs0 p.name (mem_names_of_mem hp) hx0).1
    rw [kindOf_mem (hnd s hs) hp] at this
    simp only [hr, Option.bind_some, ← this, Option.getD_some]
  · apply IdxOK_of_getElem
    intro i p hi
    have hp : p ∈ s := (List.mem_filter.1 (List.mem_of_getElem? hi)).1
    obtain ⟨s0, hs0, hr, hx0⟩ := hrep p hp
    have := (hrc s hs s0 hs0 p.name (mem_names_of_mem hp) hx0).2
    rw [posIndex_getElem (hnd s hs) hi] at this
    simp only [hr, Option.bind_some, ← this, Option.getD_some, Nat.zero_add]

theorem mem_positionals {ps : List Param} {q : Param} :
    q ∈ positionals ps ↔ q ∈ ps ∧ (q.kind = .po ∨ q.kind = .pk) := by
  simp [positionals, isPositional]

section
variable {s t : List Param} (hs : (∀ p ∈ s, p.kind = ρ.κ p.name) ∧ IdxOK ρ 0 (positionals s))
  (ht : (∀ p ∈ t, p.kind = ρ.κ p.name) ∧ IdxOK ρ 0 (positionals t))
include ht

theorem roles_at {q : Param} (hq : q ∈ t) (hκ : ρ.κ q.name = .po ∨ ρ.κ q.name = .pk) :
    (positionals t)[ρ.ι q.name]? = some q :=
  IdxOK_at ρ ht.2 (mem_positionals.2 ⟨hq, by rw [ht.1 q hq]; exact hκ⟩)

include hs

theorem roles_kind {p q : Param} (hp : p ∈ s) (hq : q ∈ t) (e : p.name = q.name) : p.kind = q.kind :=
  (hs.1 p hp).trans (e ▸ (ht.1 q hq).symm)

theorem roles_same_index {i : Nat} {p q : Param} (hp : (positionals s)[i]? = some p) (hq : q ∈ t)
    (e : q.name = p.name) : (positionals t)[i]? = some q := by
  obtain ⟨ms, ks⟩ := mem_positionals.1 (List.mem_of_getElem? hp)
  have := roles_at ht hq (by rw [e, ← hs.1 p ms]; exact ks)
  rwa [e, IdxOK_getElem ρ hs.2 i p hp, Nat.zero_add] at this

theorem roles_absent {i : Nat} {p : Param} (hp : (positionals s)[i]? = some p)
    (h : ∀ q, (positionals t)[i]? = some q → q.name ≠ p.name) : p.name ∉ allNames t := by
  intro hin
  obtain ⟨q, hq, e⟩ := mem_names.1 hin
  exact h q (roles_same_index hs ht hp hq e) e

end

theorem exists_roles_RI (ss : List USig) (hv : ∀ s ∈ ss, validate s.params = .ok ())
    (hrc : roleCons (ss.map (·.params))) :
    ∃ ρ : Roles,
      (∀ ps ∈ ss.map (·.params), (∀ p ∈ ps, p.kind = ρ.κ p.name) ∧ IdxOK ρ 0 (positionals ps)) ∧
      ∀ s ∈ ss, RI ρ (fun x => ∃ ps ∈ ss.map (·.params), x ∈ allNames ps) (sortParams s) := by
  obtain ⟨ρ, hρ⟩ := exists_roles (ss.map (·.params))
    (by
      intro ps hps
      obtain ⟨s, hs, rfl⟩ := List.mem_map.1 hps
      exact validate_nodup (hv s hs)) hrc
  refine ⟨ρ, hρ, fun s hs => ?_⟩
  have hm : s.params ∈ ss.map (·.params) := List.mem_map.2 ⟨s, hs, rfl⟩
  obtain ⟨h1, h2⟩ := hρ s.params hm
  exact RI_sort s (hv s hs) h1 h2 (fun p hp => ⟨s.params, hm, mem_names_of_mem hp⟩)

theorem merge_sound_roles_core (ss : List USig) (R : USig) (n : Nat) (K : List Nat)
    (hv : ∀ s ∈ ss, validate s.params = .ok ()) (hK : K.Nodup)
    (hrc : roleCons (ss.map (·.params)))
    (hR : merge ss = .ok R)
    (hnc : nonColl R.params (ss.map (·.params)) K)
    (hacc : accepts R.params n K = true) :
    ∀ s ∈ ss, accepts s.params n K = true := by
  obtain ⟨ρ, hρ, hri⟩ := exists_roles_RI ss hv hrc
  let IsIn : Nat → Prop := fun x => ∃ ps ∈ ss.map (·.params), x ∈ allNames ps
  refine merge_sound_of (Inv := RI ρ IsIn) (P := fun B => accB B n K ∧ GCond ρ IsIn n K)
    (call := fun ps => accepts ps n K = true)
    (fun hl hr h => (mergeStep_accB hl hr h).imp_right fun f ⟨a, g⟩ => (f a).imp (⟨·, g⟩) (⟨·, g⟩))
    hri ?_ (fun s hs ⟨a, g⟩ => input_accB s (hv s hs) (hri s hs) hK g a) hR hacc
  intro B hB hvB hp ha
  obtain ⟨hacB, hG0⟩ := result_accB hB hvB ha
  refine ⟨hacB, fun k hk => ?_⟩
  rcases hnc k hk with h | h
  · rw [hp, kwNames_all hB.bk, List.mem_append] at h
    exact Or.inr (hG0 k hk h)
  · exact Or.inl fun ⟨ps, hps, hx⟩ => h ps hps hx

end SV
