/-
  Lemmas/C08Embed.lean — provenance well-formedness of one `_embed` step.
-/
import Sigverif.Lemmas.C08Step
import Sigverif.Lemmas.C02Fold
namespace SV

theorem addStarargs_none (l r : Sorted) (wL wR : Bool) (left : Option Param) (src : Srcs) :
    (addStarargs l r wL wR left none src).1 = none := by
  cases left <;> rfl

theorem mergeStep_va_none (l r s : Sorted) (h : mergeStep l r = .ok s) (hr : r.va = none) : s.va = none := by
  obtain ⟨st1, st2, st3, st4, il, ir, h1, h2, h3, h4, rfl⟩ := mergeStep_ok l r s h
  simp only [hr, addStarargs_none]

theorem mergeStep_vk_none (l r s : Sorted) (h : mergeStep l r = .ok s) (hr : r.vk = none) : s.vk = none := by
  obtain ⟨st1, st2, st3, st4, il, ir, h1, h2, h3, h4, rfl⟩ := mergeStep_ok l r s h
  simp only [hr, addStarargs_none]

theorem mem_names_ePos_ePok (O i : Sorted) (k : Nat) :
    k ∈ names (ePosC O i) ++ names (ePokC O i) ↔
      (k ∈ names O.pos ∨ k ∈ names O.pok) ∨ (k ∈ names i.pos ∨ k ∈ names i.pok) := by
  rw [← names_append, names_ePosC_ePokC]
  simp only [names_append, List.mem_append]

theorem KeysND.dropStar {d : Srcs} (h : KeysND d) (use : Bool) (v : Option Param) : KeysND (dropStar use v d) := by
  cases v with
  | none => exact h
  | some p =>
    cases use with
    | false => exact h
    | true => exact h.dpop _

theorem dget_dropStar (use : Bool) (v : Option Param) (d : Srcs) (k : Nat) :
    dget (dropStar use v d) k = if k ∈ names (if use then v else none).toList then none else dget d k := by
  cases v <;> cases use <;> simp [dropStar, dget_dpop]

theorem names_stars_all (O : Sorted) (uva uvk : Bool) :
    names (stars O uva uvk).all =
      names (if uva then O.va else none).toList ++ names (if uvk then O.vk else none).toList := by
  simp [stars, Sorted.all]

theorem dget_outerSrc (O : Sorted) (uva uvk : Bool) (k : Nat) :
    dget (outerSrc O uva uvk) k = if k ∈ names (stars O uva uvk).all then none else dget O.src k := by
  rw [outerSrc, dget_dropStar, dget_dropStar, names_stars_all]
  by_cases h1 : k ∈ names (if uva then O.va else none).toList <;>
  by_cases h2 : k ∈ names (if uvk then O.vk else none).toList <;> simp [h1, h2]

theorem dhas_outerSrc (O : Sorted) (uva uvk : Bool) (k : Nat) :
    dhas (outerSrc O uva uvk) k = true ↔ dhas O.src k = true ∧ k ∉ names (stars O uva uvk).all := by
  unfold dhas
  rw [dget_outerSrc]
  split <;> simp [*]

theorem sget_outerSrc_of_dhas {O : Sorted} {uva uvk : Bool} {k : Nat} (h : dhas (outerSrc O uva uvk) k = true) :
    sget (outerSrc O uva uvk) k = sget O.src k := by
  unfold sget
  rw [dget_outerSrc, if_neg ((dhas_outerSrc O uva uvk k).1 h).2]

theorem outerSrc_nd (O : Sorted) (uva uvk : Bool) (h : KeysND O.src) : KeysND (outerSrc O uva uvk) :=
  (h.dropStar _ _).dropStar _ _

structure StarsApart (O : Sorted) : Prop where
  va : ∀ a, O.va = some a → a.name ∉ names O.pos ∧ a.name ∉ names O.pok ∧ a.name ∉ names O.kwo
  vk : ∀ b, O.vk = some b → b.name ∉ names O.pos ∧ b.name ∉ names O.pok ∧ b.name ∉ names O.kwo
  ne : ∀ a b, O.va = some a → O.vk = some b → a.name ≠ b.name

theorem mem_names_toList (o : Option Param) (k : Nat) : k ∈ names o.toList ↔ ∃ p, o = some p ∧ p.name = k := by
  cases o with
  | none => simp [names]
  | some p => simp [names, eq_comm]

/-- `StarsApart` in the form in which a run of name checks delivers it: each star parameter is new to
    what stands before it -/
theorem starsApart_iff (O : Sorted) : StarsApart O ↔
    (∀ k ∈ names O.va.toList, k ∉ names O.pos ∧ k ∉ names O.pok ∧ k ∉ names O.kwo) ∧
    (∀ k ∈ names O.vk.toList, k ∉ names O.pos ∧ k ∉ names O.pok ∧ k ∉ names O.kwo ∧ k ∉ names O.va.toList) := by
  simp only [mem_names_toList]
  constructor
  · rintro ⟨h1, h2, h3⟩
    refine ⟨?_, ?_⟩
    · rintro _ ⟨a, ha, rfl⟩
      exact h1 a ha
    · rintro _ ⟨b, hb, rfl⟩
      obtain ⟨x, y, z⟩ := h2 b hb
      exact ⟨x, y, z, fun ⟨a, ha, e⟩ => h3 a b ha hb e⟩
  · rintro ⟨h1, h2⟩
    exact ⟨fun a ha => h1 _ ⟨a, ha, rfl⟩, fun b hb => let ⟨x, y, z, _⟩ := h2 _ ⟨b, hb, rfl⟩; ⟨x, y, z⟩,
      fun a b ha hb e => (h2 _ ⟨b, hb, rfl⟩).2.2.2 ⟨a, ha, e⟩⟩

theorem mem_names_star {b : Bool} {x : Option Param} (y : Option Param) (h : b = false → x = none) (k : Nat) :
    k ∈ names (if b then x else y).toList ↔
      (k ∈ names y.toList ∧ k ∉ names (if b then y else none).toList) ∨ k ∈ names x.toList := by
  cases b
  · simp [h rfl]
  · simp

theorem mem_names_ite_none {b : Bool} {v : Option Param} {k : Nat}
    (h : k ∈ names (if b then v else none).toList) : k ∈ names v.toList := by
  cases b
  · cases h
  · exact h

/-- `StarsApart O` is what makes taking away the names of the forwarded star parameters take away nothing else. -/
theorem mem_names_embedRes {O i : Sorted} {uva uvk : Bool} (hOs : StarsApart O)
    (hva : uva = false → i.va = none) (hvk : uvk = false → i.vk = none) (d k : Nat) :
    k ∈ names (embedRes O i uva uvk d).all ↔
      (k ∈ names O.all ∧ k ∉ names (stars O uva uvk).all) ∨ k ∈ names i.all := by
  have hpp := mem_names_ePos_ePok O i k
  rw [List.mem_append] at hpp
  have sa := ((starsApart_iff O).1 hOs).1 k
  have sk := ((starsApart_iff O).1 hOs).2 k
  have fa := mem_names_ite_none (b := uva) (v := O.va) (k := k)
  have fk := mem_names_ite_none (b := uvk) (v := O.vk) (k := k)
  simp only [mem_names_all, names_stars_all, List.mem_append]
  show (k ∈ names (ePosC O i) ∨ k ∈ names (ePokC O i) ∨ k ∈ names (if uva then i.va else O.va).toList ∨
    k ∈ names (pupdate (pupdate [] O.kwo) i.kwo) ∨ k ∈ names (if uvk then i.vk else O.vk).toList) ↔ _
  rw [← or_assoc, hpp, mem_names_pupdate, mem_names_pupdate, names_nil, mem_names_star _ hva, mem_names_star _ hvk]
  simp only [List.not_mem_nil, false_or]
  -- both sides list the same buckets, regrouped; `sa`, `sk`, `fa`, `fk` say that a forwarded star is no other one
  grind only

/-- **one `_embed` step keeps provenance well-formed and truthful**, provided the outer
    operand's star parameters are not named like its other parameters (finding D29 shows
    this is needed: provenance is keyed by name). -/
theorem embedStep_src (O I R : Sorted) (uva uvk : Bool) (d : Nat)
    (hOk : ∀ k, dhas O.src k = true ↔ k ∈ names O.all)
    (hOne : ∀ k, k ∈ names O.all → sget O.src k ≠ [])
    (hOnd : KeysND O.src) (hOs : StarsApart O)
    (hI : Sourced I.src I.all)
    (h : embedStep O I uva uvk d = .ok R) :
    (∀ k, dhas R.src k = true ↔ k ∈ names R.all) ∧
    (∀ k, k ∈ names R.all → sget R.src k ≠ []) ∧
    (∀ k f, f ∈ sget R.src k → f ∈ sget O.src k ∨ f ∈ sget I.src k) ∧
    KeysND R.src := by
  obtain ⟨i, c, hi, -, rfl⟩ := embedStep_ok_iff.1 h
  have g := mergeStep_src_gen I _ i hI (.inr ⟨rfl, rfl, rfl⟩) hi
  have ndi := mergeStep_nd _ _ _ hi
  have ndo := outerSrc_nd O uva uvk hOnd
  have hiva : uva = false → i.va = none := by
    rintro rfl; exact mergeStep_va_none _ _ _ hi rfl
  have hivk : uvk = false → i.vk = none := by
    rintro rfl; exact mergeStep_vk_none _ _ _ hi rfl
  have keys : ∀ k, dhas (dupdate i.src (outerSrc O uva uvk)) k = true ↔
      k ∈ names (embedRes O i uva uvk d).all := by
    intro k
    rw [mem_names_embedRes hOs hiva hivk, dhas_dupdate, Bool.or_eq_true, dhas_outerSrc, hOk, g.keys]
  have entry : ∀ k, sget (dupdate i.src (outerSrc O uva uvk)) k =
      if dhas (outerSrc O uva uvk) k = true then sget O.src k else sget i.src k := by
    intro k
    rw [sget_dupdate _ _ ndo]
    split
    · rename_i hk; rw [sget_outerSrc_of_dhas hk]
    · rfl
  refine ⟨keys, ?_, ?_, ?_⟩
  · intro k hk
    have hd := (keys k).2 hk
    show sget (dupdate i.src (outerSrc O uva uvk)) k ≠ []
    rw [entry]
    split
    · rename_i ho
      exact hOne k ((hOk k).1 ((dhas_outerSrc O uva uvk k).1 ho).1)
    · rename_i ho
      rw [dhas_dupdate, Bool.or_eq_true] at hd
      exact g.ne k ((g.keys k).1 (hd.resolve_left ho))
  · intro k f hf
    have hf : f ∈ sget (dupdate i.src (outerSrc O uva uvk)) k := hf
    rw [entry] at hf
    split at hf
    · exact .inl hf
    · rcases g.mem k f hf with h' | h'
      · exact .inr h'
      · cases h'
  · exact ndi.dupdate _

end SV
