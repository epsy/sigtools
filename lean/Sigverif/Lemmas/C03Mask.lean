/-
  Lemmas/C03Mask.lean — structure of `mask`: the three phases (consume positionals, loop over
  the names, rebuild), the loop invariant, the one description of an
  iteration of the loop in both modes (`KStep`) and of its runs (`KRun`).
-/
import Sigverif.Lemmas.C03Steps
import Sigverif.Lemmas.Core.Except
namespace SV

/-- the first phase of `_mask`: the `n` positional arguments use up the first `n` positional parameters (`hide_args`:
    all of them); returns the names used up and what is left of `pos` and `pok` -/
def prelude (s : Sorted) (n : Nat) (h : HideFlags) : Except Err (List Nat × List Param × List Param) :=
  if h.args then pure (names s.pos ++ names s.pok, [], [])
  else if n ≠ 0 then
    let (c, pos, pok, exhausted) := popChain n s.pos s.pok []
    if exhausted && s.va.isNone then .error .valueError else pure (c, pos, pok)
  else pure ([], s.pos, s.pok)

def srcVa (va : Option Param) (src : Srcs) : Srcs :=
  match va with | some a => dpop src a.name | none => src

def initState (s : Sorted) (h : HideFlags) (c : List Nat) (pok : List Param) : KState :=
  let src := removeFromSrc s.src c
  let src1 := if h.args || h.varargs then srcVa s.va src else src
  { pok := if h.kwargs then [] else pok,
    va := if h.args || h.varargs then none else s.va,
    kwo := if h.kwargs then [] else s.kwo,
    src := if h.kwargs then removeFromSrc (removeFromSrc src1 (names pok)) (names s.kwo) else src1,
    consumed := c, byName := s.pok }

def finalVk (s : Sorted) (h : HideFlags) : Option Param :=
  if h.kwargs || h.varkwargs then none else s.vk

def finalSrc (s : Sorted) (h : HideFlags) (st : KState) : Srcs :=
  if h.kwargs || h.varkwargs then srcVa s.vk st.src else st.src

/-- what the names loop of `_mask` runs over: the name, and for `functools.partial` (`pobj` given) the value bound to
    it together with the partial object -/
def loopNames (named : List (Nat × Nat)) (pobj : Option Nat) : List (Nat × Option (Nat × Nat)) :=
  named.map (fun nv => (nv.1, pobj.map (fun o => (nv.2, o))))

theorem loopNames_some {named : List (Nat × Nat)} {pobj : Option Nat}
    (h : ∃ x ∈ loopNames named pobj, x.2 ≠ none) : pobj ≠ none := by
  obtain ⟨x, hx, hx2⟩ := h
  rintro rfl
  obtain ⟨_, _, rfl⟩ := List.mem_map.1 hx
  exact hx2 rfl

def plainNames (xs : List Nat) : List (Nat × Option (Nat × Nat)) := loopNames (xs.map (fun x => (x, 0))) none

/-- the tuple-valued conditionals of the model are distributed over the components -/
theorem maskCore_phases (sig : USig) (n : Nat) (h : HideFlags) (named : List (Nat × Nat))
    (pobj : Option Nat) :
    maskCore sig n h named pobj = (do
      let (c, pos, pok) ← prelude (sortParams sig) n h
      let st ← maskNames (sortParams sig).vk (initState (sortParams sig) h c pok)
        (loopNames (if h.kwargs then [] else named) pobj)
      applyParams sig { pos := pos, pok := st.pok, va := st.va, kwo := st.kwo,
                        vk := finalVk (sortParams sig) h,
                        src := finalSrc (sortParams sig) h st,
                        depths := match pobj with
                          | some o => dset (copyDepths (sortParams sig).depths 1) o 0
                          | none => (sortParams sig).depths }) := by
  unfold maskCore
  change (prelude (sortParams sig) n h >>= _) = _
  cases prelude (sortParams sig) n h with
  | error e => rfl
  | ok t =>
    obtain ⟨c, pos, pok⟩ := t
    simp only [bind, Except.bind, apply_ite Prod.fst, apply_ite Prod.snd, initState, finalVk,
      finalSrc, srcVa, loopNames]
    cases pobj <;> cases maskNames _ _ _ <;> rfl

theorem maskCore_ok {sig R : USig} {n : Nat} {h : HideFlags} {named : List (Nat × Nat)} {pobj : Option Nat}
    (hR : maskCore sig n h named pobj = .ok R) :
    ∃ c pos pok st, prelude (sortParams sig) n h = .ok (c, pos, pok) ∧
      maskNames (sortParams sig).vk (initState (sortParams sig) h c pok)
        (loopNames (if h.kwargs then [] else named) pobj) = .ok st ∧
      applyParams sig { pos := pos, pok := st.pok, va := st.va, kwo := st.kwo,
                        vk := finalVk (sortParams sig) h,
                        src := finalSrc (sortParams sig) h st,
                        depths := match (generalizing := false) pobj with
                          | some o => dset (copyDepths (sortParams sig).depths 1) o 0
                          | none => (sortParams sig).depths } = .ok R := by
  rw [maskCore_phases] at hR
  obtain ⟨⟨c, pos, pok⟩, hp, hR⟩ := bind_eq_ok hR
  obtain ⟨st, hm, hR⟩ := bind_eq_ok hR
  exact ⟨c, pos, pok, st, hp, hm, hR⟩

theorem loopNames_plain (nms : List Nat) (b : Bool) :
    loopNames (if b then [] else nms.map (fun x => (x, 0))) none = plainNames (if b then [] else nms) := by
  cases b <;> rfl

theorem mask_eq (sig : USig) (n : Nat) (nms : List Nat) (h : HideFlags) :
    mask sig n nms h = (do
      let (c, pos, pok) ← prelude (sortParams sig) n h
      let st ← maskNames (sortParams sig).vk (initState (sortParams sig) h c pok)
        (plainNames (if h.kwargs then [] else nms))
      applyParams sig { pos := pos, pok := st.pok, va := st.va, kwo := st.kwo,
                        vk := finalVk (sortParams sig) h,
                        src := finalSrc (sortParams sig) h st, depths := (sortParams sig).depths }) := by
  unfold mask
  rw [maskCore_phases, loopNames_plain]

theorem popChain_eq (n : Nat) (pos pok : List Param) (acc : List Nat) :
    popChain n pos pok acc =
      (acc ++ names ((pos ++ pok).take n), pos.drop n, pok.drop (n - pos.length),
        decide (pos.length + pok.length < n)) := by
  fun_induction popChain n pos pok acc
  case case3 ih =>
    rw [ih]
    simp [Nat.add_right_comm]
  case case5 ih =>
    rw [ih]
    simp
  all_goals simp

theorem prelude_eq (s : Sorted) (n : Nat) (h : HideFlags) :
    prelude s n h =
      if h.args then .ok (names s.pos ++ names s.pok, [], [])
      else if s.pos.length + s.pok.length < n ∧ s.va = none then .error .valueError
      else .ok (names ((s.pos ++ s.pok).take n), s.pos.drop n, s.pok.drop (n - s.pos.length)) := by
  unfold prelude
  by_cases ha : h.args = true
  · simp [ha, pure, Except.pure]
  · simp only [ha, Bool.false_eq_true, if_false]
    by_cases hn : n = 0
    · subst hn; simp [pure, Except.pure]
    · rw [if_pos hn, popChain_eq]
      simp only [List.nil_append, pure, Except.pure, Bool.and_eq_true, decide_eq_true_eq,
        Option.isNone_iff_eq_none]

def sOf (pos : List Param) (vk : Option Param) (st : KState) : Sorted :=
  { pos := pos, pok := st.pok, va := st.va, kwo := st.kwo, vk := vk }

/-- invariant of the loop over the names: the buckets of the state form a valid signature, and the snapshot `byName` that
    the loop looks names up in is the present `pok` behind parameters whose names are all used up -/
structure Inv (pos : List Param) (vk : Option Param) (st : KState) : Prop where
  swf : SWF (sOf pos vk st)
  byn : ∃ pre, st.byName = pre ++ st.pok ∧ ∀ x ∈ names pre, x ∈ st.consumed

theorem Inv.dropPos {pos : List Param} {vk : Option Param} {st : KState} (inv : Inv pos vk st) :
    Inv [] vk st :=
  ⟨swf_sub inv.swf (List.sublist_append_right _ _) (fun _ h => nomatch h) (fun _ h => h) (Or.inr rfl)
    (List.Sublist.refl _) (Or.inr rfl), inv.byn⟩

/-- the keyword-only parameter a binding `x = v` leaves behind -/
def boundParam (p : Param) (v : Nat) : Param := (p.withKind .ko).withDflt (some v)

@[simp] theorem boundParam_name (p : Param) (v : Nat) : (boundParam p v).name = p.name := rfl
@[simp] theorem boundParam_kind (p : Param) (v : Nat) : (boundParam p v).kind = .ko := rfl
@[simp] theorem boundParam_dflt (p : Param) (v : Nat) : (boundParam p v).dflt = some v := rfl
@[simp] theorem boundParam_required (p : Param) (v : Nat) : (boundParam p v).required = false := rfl

def newParam (x v : Nat) : Param := { name := x, kind := .ko, dflt := some v }

theorem getD_of_indexOf {l : List Param} {bp d : Param} {i : Nat} (h : indexOf? l bp = some i) :
    l.getD i d = bp := by
  induction l generalizing i with
  | nil => simp [indexOf?] at h
  | cons q t ih =>
    unfold indexOf? at h
    by_cases hq : q = bp
    · simp only [hq, if_true, Option.some.injEq] at h
      subst h; simp [hq]
    · simp only [hq, if_false, Option.map_eq_some_iff] at h
      obtain ⟨j, hj, rfl⟩ := h
      simpa using ih hj

theorem starNamed_false_iff {va vk : Option Param} {x : Nat} :
    starNamed va vk x = false ↔ (∀ a, va = some a → a.name ≠ x) ∧ (∀ k, vk = some k → k.name ≠ x) := by
  unfold starNamed
  rw [Bool.or_eq_false_iff]
  refine and_congr ?_ ?_
  · cases va <;> simp
  · cases vk <;> simp

theorem pget_split {l : List Param} {x : Nat} {bp : Param} (h : pget l x = some bp) :
    ∃ i, indexOf? l bp = some i ∧ l = l.take i ++ bp :: l.drop (i + 1) ∧
      x ∉ names (l.take i) ∧ bp.name = x := by
  induction l with
  | nil => simp [pget] at h
  | cons q t ih =>
    unfold pget at h
    rw [List.find?_cons] at h
    by_cases hq : q.name = x
    · simp only [hq, decide_true] at h
      cases h
      exact ⟨0, by simp [indexOf?], by simp, by simp, hq⟩
    · simp only [hq, decide_false] at h
      obtain ⟨i, h1, h2, h3, h4⟩ := ih h
      have hne : ¬ q = bp := fun e => hq (e ▸ h4)
      refine ⟨i + 1, by simp [indexOf?, hne, h1], ?_, ?_, h4⟩
      · simpa using h2
      · simp only [List.take_succ_cons, names_cons, List.mem_cons, not_or]
        exact ⟨fun e => hq e.symm, h3⟩

theorem maskName_err (vk : Option Param) (st : KState) (x : Nat) (pv : Option (Nat × Nat)) (e : Err)
    (h : maskName vk st x pv = .error e) : e = .valueError := by
  revert e
  fun_cases maskName vk st x pv <;> rintro _ ⟨⟩ <;> rfl

theorem maskNames_err (vk : Option Param) (st : KState) (l : List (Nat × Option (Nat × Nat))) (e : Err)
    (h : maskNames vk st l = .error e) : e = .valueError := by
  induction l generalizing st with
  | nil => cases h
  | cons a t ih =>
    rw [maskNames] at h
    rcases bind_eq_error h with h | ⟨st', -, h⟩
    · exact maskName_err _ _ _ _ _ h
    · exact ih _ h

/-- the optional keyword-only parameter that the binding `x = v` of a partial object puts in the
    place of the parameter `p` it names; nothing in plain mode -/
def bnd (pv : Option (Nat × Nat)) (p : Param) : List Param :=
  match pv with
  | none => []
  | some (v, _) => [boundParam p v]

/-- what a keyword that only `**kwargs` can take leaves behind: in partial mode a new keyword-only
    parameter sourced to the partial object, unless a star parameter bears the name -/
def absorbed (va vk : Option Param) (x : Nat) (pv : Option (Nat × Nat)) : Option (Param × Nat) :=
  match pv with
  | none => none
  | some (v, o) => if starNamed va vk x then none else some (newParam x v, o)

theorem absorbed_cases (va vk : Option Param) (x : Nat) (pv : Option (Nat × Nat)) :
    (absorbed va vk x pv = none ∧ ∀ v o, pv = some (v, o) → starNamed va vk x = true) ∨
    ∃ v o, pv = some (v, o) ∧ starNamed va vk x = false ∧ absorbed va vk x pv = some (newParam x v, o) := by
  cases pv with
  | none => exact Or.inl ⟨rfl, fun _ _ h => nomatch h⟩
  | some w =>
    obtain ⟨v, o⟩ := w
    cases hs : starNamed va vk x with
    | true => exact Or.inl ⟨by simp only [absorbed, hs, if_true], fun _ _ _ => rfl⟩
    | false => exact Or.inr ⟨v, o, rfl, rfl, by simp only [absorbed, hs, Bool.false_eq_true, if_false]⟩

/-- a successful iteration of the loop over the names, in both modes.  The mode enters through single fields
    (`bnd`, `absorbed`, an `if` on `pv.isSome`), not through a `match` around the record, so that `pok`, `va`,
    `consumed` and `byName` of the new state reduce without a case distinction on `pv` -/
inductive KStep (vk : Option Param) (st : KState) (x : Nat) (pv : Option (Nat × Nat)) : KState → Prop
  | hitPok (before conv : List Param) (bp : Param) :
      st.pok = before ++ bp :: conv → bp.name = x →
      KStep vk st x pv { pok := before, va := none,
                         kwo := st.kwo ++ conv.map (·.withKind .ko) ++ bnd pv bp,
                         src := srcVa st.va (if pv.isSome then st.src else dpop st.src x),
                         consumed := st.consumed ++ [x], byName := before }
  | hitKwo (p : Param) : x ∉ names st.pok → p ∈ st.kwo → p.name = x →
      KStep vk st x pv { st with kwo := (match pv with
                                         | none => ppop st.kwo x
                                         | some (v, _) => pset st.kwo (boundParam p v)),
                                 src := if pv.isSome then st.src else dpop st.src x,
                                 consumed := st.consumed ++ [x] }
  | toVk : x ∉ names st.pok → x ∉ names st.kwo → vk.isSome = true →
      KStep vk st x pv { st with kwo := st.kwo ++ ((absorbed st.va vk x pv).map (·.1)).toList,
                                 src := (match absorbed st.va vk x pv with
                                         | none => st.src
                                         | some (_, o) => dset st.src x [o]),
                                 consumed := st.consumed ++ [x] }

/-- what the loop needs of a name to go on from `st`: not used yet, and a parameter unless there is `**kwargs` -/
def Goes (vk : Option Param) (st : KState) (x : Nat) : Prop :=
  x ∉ st.consumed ∧ (x ∈ names st.pok ∨ x ∈ names st.kwo ∨ vk.isSome = true)

theorem maskName_cases {pos : List Param} {vk : Option Param} {st : KState} (inv : Inv pos vk st)
    (x : Nat) (pv : Option (Nat × Nat)) :
    (maskName vk st x pv = .error .valueError ∧ ¬ Goes vk st x) ∨
    (∃ st', maskName vk st x pv = .ok st' ∧ Goes vk st x ∧ KStep vk st x pv st') := by
  unfold maskName
  by_cases hc : x ∈ st.consumed
  · rw [if_pos (List.contains_iff_mem.2 hc)]
    exact Or.inl ⟨rfl, fun h => h.1 hc⟩
  · rw [if_neg (mt List.contains_iff_mem.1 hc)]
    obtain ⟨pre, hpre, hcons⟩ := inv.byn
    have hg : pget st.byName x = pget st.pok x := by
      rw [hpre]; exact pget_append_of_not_mem fun h => hc (hcons x h)
    rw [hg]
    cases hp : pget st.pok x with
    | some bp =>
      obtain ⟨i, h1, h2, -, h4⟩ := pget_split hp
      have swf := inv.swf
      unfold sOf at swf
      rw [h2] at swf
      have hf := hit_fresh swf.nd
      simp only [Sorted.all, names_append, List.mem_append, not_or] at hf
      have hx : x ∈ names st.pok := by rw [h2, ← h4]; simp
      refine Or.inr ⟨_, ?_, ⟨hc, Or.inl hx⟩, .hitPok _ _ bp h2 h4⟩
      simp only [h1, pupdate_of_nodup _ _ (swf_hit swf).parts.2.2.1, getD_of_indexOf h1]
      cases pv with
      | none => simp only [bnd, List.append_nil, Option.isSome_none, Bool.false_eq_true, if_false, srcVa]; rfl
      | some w =>
        obtain ⟨v, o⟩ := w
        have hb : (boundParam bp v).name ∉ names (st.kwo ++ (st.pok.drop (i + 1)).map (·.withKind .ko)) := by
          rw [boundParam_name, names_append, List.mem_append, not_or]; exact hf.1.2
        simp only [bnd, Option.isSome_some, if_true, srcVa, ← pset_of_not_mem hb]
        rfl
    | none =>
      have hxp : x ∉ names st.pok := pget_eq_none.1 hp
      simp only
      cases hk : pget st.kwo x with
      | some q =>
        obtain ⟨hq1, hq2⟩ := pget_some hk
        refine Or.inr ⟨_, ?_, ⟨hc, Or.inr (Or.inl (hq2 ▸ mem_names_of_mem hq1))⟩, .hitKwo q hxp hq1 hq2⟩
        cases pv with
        | none => rfl
        | some w => rfl
      | none =>
        have hxk : x ∉ names st.kwo := pget_eq_none.1 hk
        simp only
        cases hv : vk with
        | none =>
          simp only [Option.isNone_none, if_true]
          refine Or.inl ⟨trivial, fun h => h.2.elim hxp fun h => h.elim hxk fun h => nomatch h⟩
        | some w =>
          simp only [Option.isNone_some, Bool.false_eq_true, if_false]
          refine Or.inr ⟨_, ?_, ⟨hc, Or.inr (Or.inr rfl)⟩, .toVk hxp hxk rfl⟩
          cases pv with
          | none => simp only [absorbed, Option.map_none, Option.toList_none, List.append_nil]
          | some vo =>
            obtain ⟨v, o⟩ := vo
            simp only [absorbed]
            by_cases hs : starNamed st.va (some w) x = true
            · simp only [hs, if_true, Option.map_none, Option.toList_none, List.append_nil]
            · simp only [hs, Bool.false_eq_true, if_false, Option.map_some, Option.toList_some,
                ← pset_of_not_mem (p := newParam x v) hxk]
              rfl

theorem KStep.inv {pos : List Param} {vk : Option Param} {st st' : KState} {x : Nat} {pv : Option (Nat × Nat)}
    (inv : Inv pos vk st) (hxp : pv.isSome = true → x ∉ names pos) (hk : KStep vk st x pv st') :
    Inv pos vk st' := by
  obtain ⟨swf, pre, hpre, hcons⟩ := inv
  have hcons' : ∀ y ∈ names pre, y ∈ st.consumed ++ [x] := fun y hy => List.mem_append_left _ (hcons y hy)
  unfold sOf at swf
  cases hk with
  | hitPok before conv bp hpok hx =>
    rw [hpok] at swf
    refine ⟨?_, [], rfl, fun _ h => nomatch h⟩
    cases pv with
    | none => simp only [sOf, bnd, List.append_nil]; exact swf_hit swf
    | some w => exact swf_snoc_kwo (swf_hit swf) rfl (hit_fresh (bp := bp) swf.nd)
  | hitKwo p hp hmem hname =>
    refine ⟨?_, pre, hpre, hcons'⟩
    cases pv with
    | none => exact swf_kwo x swf
    | some w => exact swf_pset_kwo swf rfl (mem_names_of_mem (p := p) hmem)
  | toVk hp hkw hv =>
    refine ⟨?_, pre, hpre, hcons'⟩
    unfold sOf
    rcases absorbed_cases st.va vk x pv with ⟨e, -⟩ | ⟨v, o, rfl, hs, e⟩
    · simp only [e, Option.map_none, Option.toList_none, List.append_nil]; exact swf
    · simp only [e, Option.map_some, Option.toList_some]
      refine swf_snoc_kwo swf rfl ?_
      obtain ⟨hva, hvk⟩ := starNamed_false_iff.1 hs
      simp only [Sorted.all, names_append, List.mem_append, not_or]
      exact ⟨⟨⟨⟨hxp rfl, hp⟩, not_mem_names_toList.2 hva⟩, hkw⟩, not_mem_names_toList.2 hvk⟩

theorem KStep.acc {pos : List Param} {vk : Option Param} {st st' : KState} {x : Nat} {pv : Option (Nat × Nat)}
    (inv : Inv pos vk st) (hxp : pv.isSome = true → x ∉ names pos) (hk : KStep vk st x pv st')
    (m : Nat) (K : List Nat) (hK : pv = none → x ∉ K) :
    AccP (sOf pos vk st') m K ↔ AccP (sOf pos vk st) m (x :: K.filter (fun k => decide (k ≠ x))) := by
  have hKx : x ∉ K.filter (fun k => decide (k ≠ x)) := fun h =>
    of_decide_eq_true (List.mem_filter.1 h).2 rfl
  have swf := inv.swf
  obtain ⟨-, -, p3, -, p5, -⟩ := swf.parts
  unfold sOf at swf p3 p5 ⊢
  cases hk with
  | hitPok before conv bp hpok hx =>
    subst hx
    simp only [hpok] at swf ⊢
    cases pv with
    | none =>
      simp only [bnd, List.append_nil]
      rw [filter_ne_of_not_mem (hK rfl)]
      exact step_hit m K swf.nd (hK rfl)
    | some w =>
      have hf := hit_fresh swf.nd
      simp only [Sorted.all, names_append, List.mem_append, not_or] at hf
      refine (accP_addopt (kwo := st.kwo ++ conv.map (·.withKind .ko)) (px := boundParam bp w.1)
        (fun p => List.mem_append.trans (or_congr_right List.mem_singleton)) rfl ?_ ?_ m K).trans
        (step_hit m _ swf.nd hKx)
      · simp only [boundParam_name, names_append, List.mem_append, not_or]
        exact hf.1.1.1
      · simp only [boundParam_name, names_append, List.mem_append, not_or]
        exact hf.1.2
  | hitKwo p hp hmem hname =>
    subst hname
    have hnm : p.name ∈ names st.kwo := mem_names_of_mem hmem
    cases pv with
    | none =>
      have hx1 : p.name ∉ names (pos ++ st.pok) := by
        simp only [names_append, List.mem_append, not_or]; exact ⟨fun h => p5 _ h hnm, hp⟩
      rw [filter_ne_of_not_mem (hK rfl)]
      exact step_kwo m K hx1 (hK rfl) hnm
    | some w =>
      have hx1 : p.name ∉ names (pos ++ st.pok) := by
        simp only [names_append, List.mem_append, not_or]; exact ⟨hxp rfl, hp⟩
      refine (accP_addopt (kwo := ppop st.kwo p.name) (px := boundParam p w.1) ?_ rfl hx1 ?_ m K).trans
        (step_kwo m _ hx1 hKx hnm)
      · intro q
        rw [mem_pset_iff p3, mem_ppop, boundParam_name]
      · rw [boundParam_name, mem_names_ppop]
        exact fun h => h.2 rfl
  | toVk hp hkw hv =>
    have plain : AccP {pos := pos, pok := st.pok, va := st.va, kwo := st.kwo, vk := vk} m K ↔
        AccP {pos := pos, pok := st.pok, va := st.va, kwo := st.kwo, vk := vk} m
          (x :: K.filter (fun k => decide (k ≠ x))) :=
      (step_vk (s := {pos := pos, pok := st.pok, va := st.va, kwo := st.kwo, vk := vk}) m K hp hkw hv).trans
        (accP_congr_K fun y => List.mem_cons.trans mem_cons_filter_ne.symm)
    rcases absorbed_cases st.va vk x pv with ⟨e, -⟩ | ⟨v, o, rfl, -, e⟩
    · simpa only [e, Option.map_none, Option.toList_none, List.append_nil] using plain
    · simp only [e, Option.map_some, Option.toList_some]
      refine (accP_addopt (kwo := st.kwo) (px := newParam x v)
        (fun p => List.mem_append.trans (or_congr_right List.mem_singleton)) rfl ?_ hkw m K).trans
        (step_vk m _ hp hkw hv)
      simp only [newParam, names_append, List.mem_append, not_or]; exact ⟨hxp rfl, hp⟩

/-- a successful run of the loop over the names (both modes), annotated: every iteration starts in a state
    that satisfies the invariant as far as the loop looks at it (without the positional-only parameters) -/
inductive KRun (vk : Option Param) : KState → List (Nat × Option (Nat × Nat)) → KState → Prop
  | nil (st : KState) : KRun vk st [] st
  | cons {st st1 st' : KState} {x : Nat} {pv : Option (Nat × Nat)} {l : List (Nat × Option (Nat × Nat))} :
      Inv [] vk st → Goes vk st x → KStep vk st x pv st1 → KRun vk st1 l st' → KRun vk st ((x, pv) :: l) st'

theorem maskNames_cases {vk : Option Param} (l : List (Nat × Option (Nat × Nat))) {st : KState} (inv : Inv [] vk st) :
    (∃ st', maskNames vk st l = .ok st' ∧ KRun vk st l st') ∨
    (maskNames vk st l = .error .valueError ∧
      ∃ l1 x pv l2 st1, l = l1 ++ (x, pv) :: l2 ∧ KRun vk st l1 st1 ∧ ¬ Goes vk st1 x) := by
  induction l generalizing st with
  | nil => exact Or.inl ⟨st, rfl, .nil st⟩
  | cons a rest ih =>
    obtain ⟨x, pv⟩ := a
    rw [maskNames]
    rcases maskName_cases inv x pv with ⟨he, hng⟩ | ⟨st1, hr, hg, hk⟩
    · rw [he]
      exact Or.inr ⟨rfl, [], x, pv, rest, st, rfl, .nil st, hng⟩
    · rw [hr]
      rcases ih (hk.inv inv fun _ h => nomatch h) with ⟨st', h1, h2⟩ | ⟨h1, l1, y, pw, l2, st2, e, h2, h4⟩
      · exact Or.inl ⟨st', h1, .cons inv hg hk h2⟩
      · exact Or.inr ⟨h1, (x, pv) :: l1, y, pw, l2, st2, by rw [e]; rfl, .cons inv hg hk h2, h4⟩

theorem maskNames_run {vk : Option Param} (l : List (Nat × Option (Nat × Nat))) {st st' : KState}
    (inv : Inv [] vk st) (h : maskNames vk st l = .ok st') : KRun vk st l st' := by
  rcases maskNames_cases l inv with ⟨st1, h1, run⟩ | ⟨h1, -⟩
  · rw [h] at h1; cases h1; exact run
  · rw [h] at h1; cases h1

theorem KRun.inv {pos : List Param} {vk : Option Param} {l : List (Nat × Option (Nat × Nat))}
    {st st' : KState} (h : KRun vk st l st') :
    Inv pos vk st → (∀ a ∈ l, a.2.isSome = true → a.1 ∉ names pos) → Inv pos vk st' := by
  induction h with
  | nil => exact fun inv _ => inv
  | cons _ _ hk _ ih =>
    exact fun inv hxp => ih (hk.inv inv (hxp _ List.mem_cons_self)) fun a ha =>
      hxp a (List.mem_cons_of_mem _ ha)

theorem KStep.consumed {vk : Option Param} {st st' : KState} {x : Nat} {pv : Option (Nat × Nat)}
    (hk : KStep vk st x pv st') : st'.consumed = st.consumed ++ [x] := by
  cases hk <;> rfl

theorem KRun.consumed {vk : Option Param} {l : List (Nat × Option (Nat × Nat))} {st st' : KState}
    (h : KRun vk st l st') :
    st'.consumed = st.consumed ++ l.map (·.1) ∧ (∀ x ∈ l.map (·.1), x ∉ st.consumed) ∧ (l.map (·.1)).Nodup := by
  induction h with
  | nil => simp
  | @cons st st1 st' x pv l _ hg hk _ ih =>
    obtain ⟨e, f, nd⟩ := ih
    rw [hk.consumed] at e f
    have hx : x ∉ l.map (·.1) := fun h => f x h (by simp)
    refine ⟨by rw [e]; simp, ?_, List.nodup_cons.2 ⟨hx, nd⟩⟩
    intro y hy
    rcases List.mem_cons.1 hy with rfl | hy
    · exact hg.1
    · exact fun h0 => f y hy (List.mem_append_left _ h0)

/-- a name hidden in plain mode must not be a keyword of the call; a name bound in partial mode is overridden by the
    call's.  `AccP` sees keywords only through membership. -/
theorem KRun.acc {pos : List Param} {vk : Option Param} {l : List (Nat × Option (Nat × Nat))}
    {st st' : KState} (h : KRun vk st l st') (m : Nat) (K : List Nat) :
    Inv pos vk st → (∀ a ∈ l, a.2.isSome = true → a.1 ∉ names pos) → (∀ a ∈ l, a.2 = none → a.1 ∉ K) →
    ∀ K', (∀ y, y ∈ K' ↔ y ∈ K ∨ y ∈ l.map (·.1)) →
      (AccP (sOf pos vk st') m K ↔ AccP (sOf pos vk st) m K') := by
  induction h with
  | nil => exact fun _ _ _ K' hK' => accP_congr_K fun y => by simp [hK']
  | @cons st st1 st' x pv rest _ _ hk _ ih =>
    intro inv hxp hK K' hK'
    have hx := hxp _ List.mem_cons_self
    refine (ih (hk.inv inv hx) (fun a ha => hxp a (List.mem_cons_of_mem _ ha))
      (fun a ha => hK a (List.mem_cons_of_mem _ ha)) _ fun y => List.mem_append).trans
      ((hk.acc inv hx m _ fun e => ?_).trans (accP_congr_K fun y => ?_))
    · rw [List.mem_append, not_or]
      refine ⟨hK _ List.mem_cons_self e, fun hm => ?_⟩
      have := (KRun.consumed (.cons ‹_› ‹_› hk ‹_›)).2.2
      exact (List.nodup_cons.1 this).1 hm
    · rw [mem_cons_filter_ne, hK', List.mem_append, List.map_cons, List.mem_cons]
      exact or_left_comm

theorem plainNames_fst (xs : List Nat) : (plainNames xs).map (·.1) = xs := by
  simp [plainNames, loopNames, List.map_map, Function.comp_def]

theorem plainNames_snd {xs : List Nat} : ∀ a ∈ plainNames xs, a.2 = none := by
  intro a ha
  simp only [plainNames, loopNames, List.map_map, List.mem_map] at ha
  obtain ⟨_, _, rfl⟩ := ha
  rfl

theorem maskNames_plain_ok {pos : List Param} {vk : Option Param} {xs : List Nat} {st st' : KState}
    (inv : Inv pos vk st) (h : maskNames vk st (plainNames xs) = .ok st') :
    Inv pos vk st' ∧ (∀ x ∈ xs, x ∉ st.consumed) ∧ xs.Nodup ∧
    ∀ (m : Nat) (K : List Nat), (∀ x ∈ xs, x ∉ K) →
      (AccP (sOf pos vk st') m K ↔ AccP (sOf pos vk st) m (xs ++ K)) := by
  have run := maskNames_run _ inv.dropPos h
  have nob : ∀ a ∈ plainNames xs, a.2.isSome = true → a.1 ∉ names pos := fun a ha hs => by
    rw [plainNames_snd a ha] at hs; cases hs
  obtain ⟨-, c2, c3⟩ := run.consumed
  rw [plainNames_fst] at c2 c3
  refine ⟨run.inv inv nob, c2, c3, fun m K hK => ?_⟩
  refine run.acc m K inv nob (fun a ha _ => hK _ (plainNames_fst xs ▸ List.mem_map_of_mem ha)) _ fun y => ?_
  rw [plainNames_fst, List.mem_append, or_comm]

theorem KRun.induct {vk : Option Param} {I : KState → Prop} {l : List (Nat × Option (Nat × Nat))} {st st' : KState}
    (h : KRun vk st l st')
    (hI : ∀ {st st' : KState} {x : Nat} {pv : Option (Nat × Nat)}, (x, pv) ∈ l → Inv [] vk st →
      KStep vk st x pv st' → I st → I st') :
    I st → I st' := by
  induction h with
  | nil => exact id
  | cons inv _ hk _ ih =>
    exact fun h0 => ih (fun hm => hI (List.mem_cons_of_mem _ hm)) (hI List.mem_cons_self inv hk h0)

/-- the inner signature as `forwards(…, partial=True)` sees it: every named parameter gets the default `None` (token 0) -/
def partialParams (ps : List Param) : List Param :=
  ps.map (fun p => if p.kind = .vp || p.kind = .vk then p else p.withDflt (some 0))

def partialSig (i : USig) : USig := { i with params := partialParams i.params }

/-- the inner signature that `forwards` hands to `mask` (`partial=True` re-validates it) -/
def forwardsInner (inner : USig) (part : Bool) : Except Err USig :=
  if part then do
    validate (partialParams inner.params)
    pure (partialSig inner)
  else pure inner

theorem forwards_eq (outer inner : USig) (n : Nat) (nms : List Nat) (ha hk uva uvk part : Bool) :
    forwards outer inner n nms ha hk uva uvk part = (do
      let inner' ← forwardsInner inner part
      let m ← mask inner' n nms { args := ha, kwargs := hk }
      embed uva uvk [outer, m]) := rfl

end SV
