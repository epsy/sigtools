/-
  Lemmas/C11TTwin.lean — the two metadata maps of interest: `twin env` (eager compilation of
  postponed annotations, Props/C11.lean) and `erase` (a plain `inspect.Signature`: no upgraded
  annotation), on parameters and on whole signatures.
-/
import Sigverif.Props.C11
namespace SV

/-! ### erase: a plain `inspect.Parameter` has no upgraded annotation -/

def erase (p : Param) : Param := { p with uann := .empty }

theorem erase_metaMap : MetaMap erase where
  name _ := rfl
  kind _ := rfl
  dflt _ := rfl
  withKind _ _ := rfl
  withDflt _ _ := rfl

theorem erase_fresh : FreshFix erase := fun _ _ => rfl

theorem erase_concComm : ConcComm erase (fun _ => True) := by
  intro a b _ _
  refine erase_metaMap.concile_ext ?_ ?_
  · show (concile a b).ann = (concile (erase a) (erase b)).ann
    rw [concile_annotation, concile_annotation]; rfl
  · show UAnn.empty = (concile (erase a) (erase b)).uann
    rw [concile_uann]
    show _ = match a.ann, b.ann with | some x, some y => _ | some x, none => _ | none, some y => _ | none, none => _
    cases a.ann <;> cases b.ann <;> simp only [erase] <;> (try split) <;> rfl

theorem twin_metaMap (env : Nat → Nat → Nat) : MetaMap (twin env) where
  name p := by unfold twin; split <;> rfl
  kind p := by unfold twin; split <;> rfl
  dflt p := by unfold twin; split <;> rfl
  withKind p k := by
    unfold twin
    show (match sourceValue env p.uann with | some v => _ | none => _) = _
    cases sourceValue env p.uann <;> rfl
  withDflt p d := by
    unfold twin
    show (match sourceValue env p.uann with | some v => _ | none => _) = _
    cases sourceValue env p.uann <;> rfl

theorem twin_fresh (env : Nat → Nat → Nat) : FreshFix (twin env) := fun _ _ => rfl

def FaithfulSet (env : Nat → Nat → Nat) (ps : List Param) : Prop := ∀ l ∈ ps, ∀ r ∈ ps, Faithful env l r

theorem faithful_of_annFrom (env : Nat → Nat → Nat) (ins : List Param) (h : FaithfulSet env ins)
    (a b : Param) (ha : AnnFrom ins a) (hb : AnnFrom ins b) : Faithful env a b := by
  have one : ∀ p, AnnFrom ins p → p.ann.isSome = (sourceValue env p.uann).isSome := by
    intro p hp
    rcases hp with ⟨h1, h2⟩ | ⟨q, hq, h1, h2⟩
    · rw [h1, h2]; rfl
    · rw [h1, h2]; exact (h q hq q hq).1
  refine ⟨one a ha, one b hb, ?_⟩
  intro x y hx hy
  rcases ha with ⟨h1, _⟩ | ⟨q, hq, h1, h2⟩
  · rw [h1] at hx; cases hx
  · rcases hb with ⟨k1, _⟩ | ⟨q', hq', k1, k2⟩
    · rw [k1] at hy; cases hy
    · rw [h2, k2]
      exact (h q hq q' hq').2.2 x y (by rw [← h1]; exact hx) (by rw [← k1]; exact hy)

theorem sourceValue_empty (env : Nat → Nat → Nat) : sourceValue env .empty = none := rfl

theorem twin_uann (env : Nat → Nat → Nat) (p : Param) :
    (twin env p).uann = match sourceValue env p.uann with | some v => .pre v | none => .empty := by
  unfold twin; cases sourceValue env p.uann <;> rfl

theorem twin_of_uann (env : Nat → Nat → Nat) (p : Param) :
    twin env p = { p with ann := sourceValue env p.uann,
                          uann := match sourceValue env p.uann with | some v => .pre v | none => .empty } := by
  unfold twin; cases sourceValue env p.uann <;> rfl

theorem ann_cases {env : Nat → Nat → Nat} {p : Param} (h : p.ann.isSome = (sourceValue env p.uann).isSome) :
    (p.ann = none ∧ sourceValue env p.uann = none) ∨ ∃ a u, p.ann = some a ∧ sourceValue env p.uann = some u := by
  cases ha : p.ann <;> cases hu : sourceValue env p.uann <;> rw [ha, hu] at h
  · exact .inl ⟨rfl, rfl⟩
  · cases h
  · cases h
  · exact .inr ⟨_, _, rfl, rfl⟩

theorem twin_concile (env : Nat → Nat → Nat) (l r : Param) (hf : Faithful env l r) :
    twin env (concile l r) = concile (twin env l) (twin env r) := by
  obtain ⟨h1, h2, h3⟩ := hf
  -- annotation and wrapper of both sides are decided by the same four cases
  have key : (twin env (concile l r)).ann = (concile (twin env l) (twin env r)).ann ∧
      (twin env (concile l r)).uann = (concile (twin env l) (twin env r)).uann := by
    rw [twin_uann, twin_ann, concile_uann, concile_uann, concile_annotation, twin_ann, twin_ann, twin_uann,
      twin_uann]
    rcases ann_cases h1 with ⟨hla, hlu⟩ | ⟨a, u, hla, hlu⟩ <;>
      rcases ann_cases h2 with ⟨hra, hru⟩ | ⟨b, v, hra, hru⟩ <;>
      simp only [hla, hra, hlu, hru, sourceValue_empty, and_self]
    have := h3 a b hla hra
    rw [hlu, hru] at this
    by_cases hab : a = b
    · have huv : u = v := by simpa using this.1 hab
      simp only [hab, huv, if_true, hlu, and_self]
    · have huv : ¬ u = v := fun e => hab (this.2 (by rw [e]))
      simp only [hab, huv, if_false, sourceValue_empty, and_self]
  exact (twin_metaMap env).concile_ext key.1 key.2

theorem twin_concComm (env : Nat → Nat → Nat) (ins : List Param) (h : FaithfulSet env ins) :
    ConcComm (twin env) (AnnFrom ins) :=
  fun a b ha hb => twin_concile env a b (faithful_of_annFrom env ins h a b ha hb)

/-- eager compilation of the return annotation -/
def twinRet (env : Nat → Nat → Nat) : RetMap := fun ru =>
  match sourceValue env ru.2 with
  | some v => (some v, .pre v)
  | none => (none, .empty)

/-- the eagerly compiled twin of a signature: every parameter and the return annotation -/
def twinSig (env : Nat → Nat → Nat) (s : USig) : USig := mapRet (twinRet env) (mapSig (twin env) s)

/-- a plain signature has no upgraded return annotation -/
def eraseRet : RetMap := fun ru => (ru.1, .empty)

/-- the plain `inspect.Signature` underlying an upgraded one -/
def eraseSig (s : USig) : USig := mapRet eraseRet (mapSig erase s)

theorem evaluated_twinSig (env : Nat → Nat → Nat) (s : USig) :
    (twinSig env s).params.map (evaluated env) = s.params.map (evaluated env) := by
  show (s.params.map (twin env)).map (evaluated env) = _
  rw [List.map_map]
  exact List.map_congr_left fun p _ => twin_value env p

theorem evaluated_map_twinSig (env : Nat → Nat → Nat) (r : Except Err USig) :
    (r.map (twinSig env)).toOption.map (fun R => R.params.map (evaluated env)) =
      r.toOption.map (fun R => R.params.map (evaluated env)) := by
  cases r with
  | error e => rfl
  | ok R => exact congrArg some (evaluated_twinSig env R)

end SV
