/-
  Lemmas/C05TotalExt.lean — every function of the walker only APPENDS to the `revisit` queue, and
  the appended nodes have total size at most the size of the tree walked (strictly less when the
  node is processed rather than queued).  One induction along the walker's own recursion
  (`visit.mutual_induct`), which supplies each recursive call's hypothesis at the state the call is
  made in.
-/
import Sigverif.Lemmas.C05TotalBasic
namespace SV
namespace C05T

/-- the Call node is put on the queue instead of being processed -/
def deferred (force : Bool) (t : Tree) (st : VState) : Bool :=
  match t with
  | .call _ _ _ => !force && (st.ns st.cur).parent.isSome
  | _ => false

/-- what a visit may add to the queue: the node itself when it is deferred, proper sub-terms
    otherwise -/
def vbound (force : Bool) (t : Tree) (st : VState) : Nat :=
  if deferred force t st then t.size else t.size - 1

theorem vbound_le (force : Bool) (t : Tree) (st : VState) : vbound force t st ≤ t.size := by
  unfold vbound; split <;> omega

/-- `resolveCore` and the visit that follows it walk the same tree, but only one of them does
    anything: `resolveCore` on an Attribute chain (whose visit is `pass`), the visit on everything
    else -/
theorem rc_visit {t : Tree} {b : Bool} {st st1 : VState} {w : RM × Bool}
    (he : resolveCore t b st = (w, st1))
    (hR : Ext st.revisit (resolveCore t b st).2.revisit (t.size - 1) ∧
      ((∀ v a, t ≠ .attr v a) → (resolveCore t b st).2 = st))
    (hV : Ext st1.revisit (visit false t st1).revisit (vbound false t st1)) :
    Ext st.revisit (visit false t st1).revisit t.size ∧
      Ext st.revisit (if isNameNode t then st1 else visit false t st1).revisit t.size := by
  simp only [he] at hR
  have hv : Ext st.revisit (visit false t st1).revisit t.size := by
    by_cases h : ∀ v a, t ≠ .attr v a
    · have := hR.2 h
      subst this
      exact hV.mono (vbound_le _ _ _)
    · have : ∃ v a, t = .attr v a :=
        Classical.byContradiction fun hn => h fun v a e => hn ⟨v, a, e⟩
      obtain ⟨v, a, rfl⟩ := this
      rw [visit]
      exact hR.1.mono (Nat.sub_le _ _)
  refine ⟨hv, ?_⟩
  split
  · exact hR.1.mono (Nat.sub_le _ _)
  · exact hv

/-- `get_starargs` / `get_kwargs`: resolved only when there is exactly one -/
theorem one_ext {α : Type} {c1 c2 : Prop} [Decidable c1] [Decidable c2] {st st' : VState}
    {a b v : α} {r : α × VState} {n : Nat}
    (h : (if c1 then (a, st) else if c2 then r else (b, st)) = (v, st'))
    (hr : Ext st.revisit r.2.revisit n) :
    Ext st.revisit st'.revisit n := by
  split at h
  · cases h; exact Ext.refl _ _
  · split at h
    · rw [h] at hr; exact hr
    · cases h; exact Ext.refl _ _

/-- The conjuncts stand in the order of the motives of `visit.mutual_induct`, after which the
    induction hypotheses below are numbered (`ih3` speaks of `resolveCore`, `ih7` of `visitList`);
    its cases come function by function: `visit`, `resolveCore`, `visitList`, `resolveOnlyStar`,
    `resolveArgs`, `resolveOnlyDstar`, `resolveKws`. -/
theorem walk_ext :
    (∀ force t st, Ext st.revisit (visit force t st).revisit (vbound force t st)) ∧
    (∀ ks st, Ext st.revisit (resolveOnlyDstar ks st).2.revisit (dstarSize ks)) ∧
    (∀ t b st, Ext st.revisit (resolveCore t b st).2.revisit (t.size - 1) ∧
      ((∀ v a, t ≠ .attr v a) → (resolveCore t b st).2 = st)) ∧
    (∀ as st, Ext st.revisit (resolveOnlyStar as st).2.revisit (starSize as)) ∧
    (∀ ks st, Ext st.revisit (resolveKws ks st).2.revisit (kwSize ks)) ∧
    (∀ as st, Ext st.revisit (resolveArgs as st).2.revisit (plainSize as)) ∧
    (∀ ts st, Ext st.revisit (visitList ts st).revisit ts.size) := by
  apply visit.mutual_induct
  · intro force id ctx st; rw [visit]; exact Ext.of_eq (by simp) _
  · intro force v a st; rw [visit]; exact Ext.refl _ _
  · intro force names st; rw [visit]; exact Ext.of_eq (foldl_revisit _ addNonlocal_revisit _ _) _
  · intro force ch st ih; rw [visit]; exact ih.mono (by simp [vbound, deferred, Tree.size])
  · intro force po args kwo va vk body st parent id st1 st2 ih
    rw [processParams_revisit] at ih
    rw [visit]; exact ih.mono (by simp [vbound, deferred, Tree.size])
  · intro force f as ks st h
    rw [visit, if_pos h]
    exact ⟨[(.call f as ks, st.cur)], rfl, by simp [vbound, deferred, h]⟩
  · -- process_Call: the callee, the plain arguments, the keywords, the star, the double star
    intro force f as ks st h w st1 he st2 wrapped st3 args st4 he4 kwargs st5 he5 sa st6 he6
      sk st7 he7 _ _ _ _ _ _ ih3 ih1 ih6 ih5 ih4 ih2
    have hnow : (!force && (st.ns st.cur).parent.isSome) = false := by simpa using h
    have h1 : Ext st.revisit st2.revisit f.size := (rc_visit he ih3 ih1).2
    have h2 : st3.revisit = st2.revisit := taintStep_revisit w.1 st2
    rw [he4] at ih6
    rw [he5] at ih5
    have h5 := one_ext he6 ih4
    have h6 := one_ext he7 ih2
    have e : (visit force (.call f as ks) st).revisit = st7.revisit := by
      rw [visit_call_now force f as ks st hnow]
      have e4 : resolveArgs as (taintStep (resolveCore f true st).1.1
          (if isNameNode f then (resolveCore f true st).2
            else visit false f (resolveCore f true st).2)) = (args, st4) := by
        rw [he]; exact he4
      have e6 : starStep as st5 = (sa, st6) := he6
      have e7 : dstarStep ks st6 = (sk, st7) := he7
      simp only [e4, he5, e6, e7]
    rw [e]
    have hpa := plain_add_star as
    have hkd := kw_add_dstar ks
    exact ((((h1.trans (h2 ▸ ih6)).trans ih5).trans h5).trans h6).mono (by
      simp only [vbound, deferred, hnow, Tree.size]; simp; omega)
  · intro id ctx x st owner e hl; rw [resolveCore, hl]; exact ⟨Ext.refl _ _, fun _ => rfl⟩
  · intro id ctx x st hl; rw [resolveCore, hl]; exact ⟨Ext.refl _ _, fun _ => rfl⟩
  · intro v a tainted st w st1 he ih3 ih1
    refine ⟨?_, fun h => absurd rfl (h v a)⟩
    rw [resolveCore]
    simp only [he]
    exact (rc_visit he ih3 ih1).2.mono (by simp [Tree.size])
  · intro t x st h1 h2
    cases t with
    | name id ctx => exact (h1 id ctx rfl).elim
    | attr v a => exact (h2 v a rfl).elim
    | _ => exact ⟨Ext.refl _ _, fun _ => rfl⟩
  · intro st; rw [visitList]; exact Ext.refl _ _
  · intro t ts st ih1 ih7
    rw [visitList]
    exact ((ih1.mono (vbound_le _ _ _)).trans ih7).mono (by simp [TreeList.size])
  · intro st; rw [resolveOnlyStar]; exact Ext.refl _ _
  · intro t rest st ih; rw [resolveOnlyStar]; exact ih.mono (by simp [starSize])
  · intro t rest st w st1 he ih3 ih1
    rw [resolveOnlyStar]; simp only [he]
    exact (rc_visit he ih3 ih1).2.mono (by simp [starSize])
  · intro st; rw [resolveArgs]; exact Ext.refl _ _
  · intro t rest st ih; rw [resolveArgs]; exact ih.mono (by simp [plainSize])
  · intro t rest st w st1 he st2 args st3 he3 ih3 ih1 ih6
    have he3' : resolveArgs rest (visit false t st1) = (args, st3) := he3
    rw [he3] at ih6
    rw [resolveArgs]; simp only [he, he3']
    exact ((rc_visit he ih3 ih1).1.trans ih6).mono (by simp [plainSize])
  · intro st; rw [resolveOnlyDstar]; exact Ext.refl _ _
  · intro name v rest st ih; rw [resolveOnlyDstar]; exact ih.mono (by simp [dstarSize])
  · intro v rest st w st1 he ih3 ih1
    rw [resolveOnlyDstar]; simp only [he]
    exact (rc_visit he ih3 ih1).2.mono (by simp [dstarSize])
  · intro st; rw [resolveKws]; exact Ext.refl _ _
  · intro v rest st ih; rw [resolveKws]; exact ih.mono (by simp [kwSize])
  · intro n v rest st w st1 he st2 kwargs st3 he3 ih3 ih1 ih5
    have he3' : resolveKws rest (visit false v st1) = (kwargs, st3) := he3
    rw [he3] at ih5
    rw [resolveKws]; simp only [he, he3']
    exact ((rc_visit he ih3 ih1).1.trans ih5).mono (by simp [kwSize])

theorem visitList_ext (ts : TreeList) (st : VState) :
    Ext st.revisit (visitList ts st).revisit ts.size :=
  walk_ext.2.2.2.2.2.2 ts st

theorem visit_true_ext (t : Tree) (st : VState) :
    Ext st.revisit (visit true t st).revisit (t.size - 1) := by
  have := walk_ext.1 true t st
  rwa [show vbound true t st = t.size - 1 by cases t <;> rfl] at this

/-! The revisit loop terminates within `Φ + 1` iterations, where `Φ(i, st)` is the total size of
    the queue entries from index `i` on. -/

theorem sz_drop_of_getElem? {l : List (Tree × Nat)} {i : Nat} {e : Tree × Nat}
    (h : l[i]? = some e) : sz (l.drop i) = e.1.size + sz (l.drop (i + 1)) := by
  induction l generalizing i with
  | nil => simp at h
  | cons a l ih =>
    cases i with
    | zero => simp at h; subst h; simp
    | succ i => simp at h; simpa using ih h

theorem revisitLoop_some : ∀ (fuel i : Nat) (st : VState),
    sz (st.revisit.drop i) < fuel → ∃ st', revisitLoop fuel i st = some st'
  | 0, _, _, h => absurd h (Nat.not_lt_zero _)
  | fuel + 1, i, st, h => by
    cases hg : st.revisit[i]? with
    | none => exact ⟨st, revisitLoop_done (List.getElem?_eq_none_iff.1 hg) _⟩
    | some e =>
      obtain ⟨node, ns⟩ := e
      rw [revisitLoop_step hg]
      apply revisitLoop_some fuel (i + 1)
      obtain ⟨new, hnew, hsz⟩ := visit_true_ext node { st with cur := ns }
      have hlt := (List.getElem?_eq_some_iff.1 hg).1
      have hd := sz_drop_of_getElem? hg
      have hpos := Tree.size_pos node
      rw [hnew]
      change sz (List.drop (i + 1) (st.revisit ++ new)) < fuel
      rw [List.drop_append_of_le_length (by omega), sz_append]
      simp only [] at hd
      omega

end C05T
end SV
