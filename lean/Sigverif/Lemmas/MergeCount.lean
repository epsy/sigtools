/-
  Lemmas/MergeCount.lean — the zip position and the count of kept positions along the run of `ZStep` of one merge step
  between operands with `Limbo9` both ways: after `c` steps both chains stand at position `c` of the operands' chains
  (`ZPos`) and the state holds the positions below `c` that both operands answer for, with a parameter or with `*args`
  (`Kept`); so the result has `cap9 l r` positional parameters.
-/
import Sigverif.Lemmas.C01KU
namespace SV
variable {l r : Sorted}

def lenP9 (s : Sorted) : Nat := s.pos.length + s.pok.length

theorem lenP9_eq (s : Sorted) : (s.pos ++ s.pok).length = lenP9 s := List.length_append

def Limbo9 (l r : Sorted) : Prop :=
  ∀ x ∈ l.pok, x.name ∈ names r.kwo → r.va.isSome = false

/-- of `a` positions to come for one operand and `b` for the other, those that will be kept: the positions both operands
    answer for, an operand answering where it has a parameter, and everywhere if it has `*args` (`vl`, `vr`) -/
def keep9 : Bool → Bool → Nat → Nat → Nat
  | false, false, a, b => min a b
  | false, true, a, _ => a
  | true, false, _, b => b
  | true, true, a, b => max a b

theorem keep9_comm (vl vr : Bool) (a b : Nat) : keep9 vl vr a b = keep9 vr vl b a := by
  cases vl <;> cases vr
  · exact Nat.min_comm a b
  · rfl
  · rfl
  · exact Nat.max_comm a b

theorem le_keep9 {vl vr : Bool} {a b c : Nat} (h1 : c ≤ a) (h2 : c ≤ b ∨ vr = true) : c ≤ keep9 vl vr a b := by
  cases vl <;> cases vr
  · exact Nat.le_min.2 ⟨h1, h2.resolve_right Bool.false_ne_true⟩
  · exact h1
  · exact h2.resolve_right Bool.false_ne_true
  · exact Nat.le_trans h1 (Nat.le_max_left a b)

theorem Limbo9.hit (hlim : Limbo9 l r) (bl : BucketKinds l) {x q : Param} {rUn : List Param}
    (hx : x ∈ l.pos ∨ x ∈ l.pok) (hk : x.kind = .pk) (hrun : ∀ q ∈ rUn, q ∈ r.kwo)
    (hq : pget rUn x.name = some q) : q ∈ r.kwo ∧ r.va.isSome = false := by
  obtain ⟨hq1, hq2⟩ := pget_some hq
  have hxp : x ∈ l.pok := hx.resolve_left fun h => by have := bl.pos x h; rw [hk] at this; cases this
  exact ⟨hrun q hq1, hlim x hxp (hq2 ▸ mem_names_of_mem (hrun q hq1))⟩

section Steps
variable {c x : Param} {A : List Param} {st st1 : MState}

theorem mlen_snoc_pos (h1 : st1.pos = st.pos ++ [c]) (h2 : st1.pok = st.pok) : mlen st1 = mlen st + 1 := by
  simp only [mlen, h1, h2, List.length_append, List.length_singleton]; omega

theorem mlen_snoc_pok (h1 : st1.pos = st.pos) (h2 : st1.pok = st.pok ++ [c]) : mlen st1 = mlen st + 1 := by
  simp only [mlen, h1, h2, List.length_append, List.length_singleton]; omega

theorem mlen_flush (h1 : st1.pos = st.pos ++ st.pok.map (·.withKind .po) ++ [c]) (h2 : st1.pok = []) :
    mlen st1 = mlen st + 1 := by
  simp only [mlen, h1, h2, List.length_append, List.length_map, List.length_singleton, List.length_nil, Nat.add_zero]

end Steps

theorem stK_mlen : mlen (stK l r) = 0 := by
  rw [mlen, stK_pok, stK,
    (phaseK2_closed (l := l) r.kwo _).1.trans (phaseK1_closed (l := l) (r := r) l.kwo (mergeInit l r)).1]
  rfl

section Pos
variable {K : Prop}

/-- the capacity of the result: the positions both operands answer for -/
def cap9 (l r : Sorted) : Nat := keep9 l.va.isSome r.va.isSome (lenP9 l) (lenP9 r)

theorem cap9_comm : cap9 l r = cap9 r l := keep9_comm ..

theorem keep9_le_right (vl : Bool) (a b : Nat) : keep9 vl false a b ≤ b := by
  cases vl
  · exact Nat.min_le_right a b
  · exact Nat.le_refl b

theorem ZPos.answered {c : Nat} {a : Param} {A B : List Param}
    (P : ZPos (l.pos ++ l.pok) (r.pos ++ r.pok) c (a :: A) B) (hB : B ≠ [] ∨ r.va.isSome = true) :
    c < cap9 l r := by
  refine le_keep9 (lenP9_eq l ▸ P.lt) (hB.imp_left fun hB => ?_)
  cases B with
  | nil => exact absurd rfl hB
  | cons b B => exact lenP9_eq r ▸ P.flip.lt

theorem ZPos.unanswered {c : Nat} {L A : List Param} (P : ZPos L (r.pos ++ r.pok) c A [])
    (hva : r.va.isSome = false) : cap9 l r ≤ c := by
  rw [cap9, hva]; exact Nat.le_trans (keep9_le_right ..) (lenP9_eq r ▸ P.le)

/-- after `c` positions the state holds the positions below `c` that both answer for -/
def Kept (l r : Sorted) (c : Nat) (st : MState) : Prop := mlen st = min c (cap9 l r)

theorem Kept.flip {c : Nat} {st : MState} (h : Kept l r c st) : Kept r l c st.flip := by
  rw [Kept, cap9_comm]; exact h

theorem Kept.keep {c : Nat} {st st' : MState} (h : Kept l r c st) (hc : c < cap9 l r)
    (e : mlen st' = mlen st + 1) : Kept l r (c + 1) st' := by
  rw [Kept, e, h, Nat.min_eq_left (Nat.le_of_lt hc), Nat.min_eq_left hc]

theorem Kept.gone {c : Nat} {st st' : MState} (h : Kept l r c st) (hc : cap9 l r ≤ c)
    (e : mlen st' = mlen st) : Kept l r (c + 1) st' := by
  rw [Kept, e, h, Nat.min_eq_right hc, Nat.min_eq_right (Nat.le_succ_of_le hc)]

theorem Kept.eq {c : Nat} {st : MState} (h : Kept l r c st) (hc : c < cap9 l r) : mlen st = c :=
  h.trans (Nat.min_eq_left (Nat.le_of_lt hc))

theorem Kept.full {c : Nat} {st : MState} (h : Kept l r c st) (hc : cap9 l r ≤ c) : mlen st = cap9 l r :=
  h.trans (Nat.min_eq_right hc)

theorem Kept.zone (k : K) {c : Nat} {x : Param} {st st' : MState} {xs ys ys' : List Param}
    (h : ZOne K l r x st ys ys' st') (bl : BucketKinds l) (hrun : ∀ q ∈ st.rUn, q ∈ r.kwo) (hlim : Limbo9 l r)
    (P : ZPos (l.pos ++ l.pok) (r.pos ++ r.pok) c (x :: xs) ys) (hc : Kept l r c st) : Kept l r (c + 1) st' := by
  have hx := List.mem_append.1 P.mem
  induction h with
  | pull y cf _ _ hp => exact hc.keep (P.answered (.inl (List.cons_ne_nil _ _))) (mlen_snoc_pos rfl rfl)
  | keepP _ hva hp => exact hc.keep (P.answered (.inr hva)) (mlen_snoc_pos rfl rfl)
  | goneP _ hva => exact hc.gone (P.unanswered hva) rfl
  | limbo q hk hq => exact hc.gone (P.unanswered (hlim.hit bl hx (hk k) hrun hq).2) rfl
  | keepQ _ _ hva => exact hc.keep (P.answered (.inr hva)) (mlen_snoc_pok rfl rfl)
  | own _ _ hva => exact hc.gone (P.unanswered hva) rfl
  | flushQ _ _ hva => exact hc.keep (P.answered (.inr hva)) (mlen_flush rfl rfl)
  | goneQ _ _ hva => exact hc.gone (P.unanswered hva) rfl

theorem Kept.zstep (k : K) {c : Nat} {xs ys xs' ys' : List Param} {st st' : MState}
    (bl : BucketKinds l) (br : BucketKinds r) (hlim : Limbo9 l r) (hlim' : Limbo9 r l)
    (h : ZStep K l r xs ys st xs' ys' st') (hs : ZSub l r st) (P : ZPos (l.pos ++ l.pok) (r.pos ++ r.pok) c xs ys)
    (hc : Kept l r c st) : Kept l r (c + 1) st' := by
  induction h with
  | pair a c xs ys st _ _ hp =>
    exact hc.keep (P.answered (.inl (List.cons_ne_nil _ _))) (mlen_snoc_pos rfl rfl)
  | same a c xs ys st =>
    exact hc.keep (P.answered (.inl (List.cons_ne_nil _ _))) (mlen_snoc_pok rfl rfl)
  | diff a c xs ys st =>
    exact hc.keep (P.answered (.inl (List.cons_ne_nil _ _))) (mlen_flush rfl rfl)
  | left x xs ys ys' st st' h => exact hc.zone k h bl hs.run hlim P
  | right x xs xs' ys st st' h => exact (hc.flip.zone k h br hs.lun hlim' P.flip).flip

theorem ZPos.done {c : Nat} (P : ZPos (l.pos ++ l.pok) (r.pos ++ r.pok) c [] []) : cap9 l r ≤ c := by
  cases hv : r.va.isSome
  · exact P.unanswered hv
  · rw [cap9_comm]
    cases hv' : l.va.isSome
    · exact P.flip.unanswered hv'
    · rw [cap9, hv, hv']; exact Nat.max_le.2 ⟨lenP9_eq r ▸ P.le, lenP9_eq l ▸ P.flip.le⟩

theorem Kept.init : Kept l r 0 (stK l r) := by rw [Kept, stK_mlen, Nat.zero_min]

end Pos

theorem le_cap9 {n : Nat} (cl : n ≤ lenP9 l ∨ l.va.isSome = true) (cr : n ≤ lenP9 r ∨ r.va.isSome = true) :
    n ≤ cap9 l r ∨ (l.va.isSome && r.va.isSome) = true := by
  rcases cl with l1 | l1
  · exact .inl (le_keep9 l1 cr)
  · rcases cr with r1 | r1
    · exact .inl (cap9_comm ▸ le_keep9 r1 (.inr l1))
    · exact .inr (by rw [l1, r1]; rfl)

end SV
