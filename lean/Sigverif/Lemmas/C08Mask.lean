/-
  Lemmas/C08Mask.lean — provenance through `mask` (plain mode), read entry by entry from `mask_lost`:
  the sources map of the result is the input's map restricted to the parameters that are left;
  then through `forwards` with either `partial` flag: `partial=True` first gives the inner signature's named
  parameters the default `None`, which touches neither its names nor its provenance map nor its `+depths`.
-/
import Sigverif.Lemmas.C03Src
import Sigverif.Lemmas.C08EmbedFold
import Sigverif.Lemmas.C04Partial
namespace SV

theorem dget_srcVa (va : Option Param) (d : Srcs) (x : Nat) :
    dget (srcVa va d) x = if (∃ a, va = some a ∧ a.name = x) then none else dget d x := by
  cases va with
  | none => simp [srcVa]
  | some a =>
    simp only [srcVa, dget_dpop]
    by_cases h : x = a.name
    · subst h; simp
    · have : ¬ a.name = x := fun e => h e.symm
      simp [h, this]

theorem mem_names_sOf {pos : List Param} {vk : Option Param} {st : KState} {k : Nat} :
    k ∈ names (sOf pos vk st).all ↔
      k ∈ names pos ∨ k ∈ names st.pok ∨ (∃ a, st.va = some a ∧ a.name = k) ∨ k ∈ names st.kwo ∨
        (∃ v, vk = some v ∧ v.name = k) := by
  rw [names_sOf_all]
  simp only [List.mem_append, mem_names_toList]

theorem nodup_sOf {pos : List Param} {vk : Option Param} {st : KState} (h : (names (sOf pos vk st).all).Nodup) :
    (names pos ++ (names st.pok ++ (names st.va.toList ++ (names st.kwo ++ names vk.toList)))).Nodup := by
  rwa [names_sOf_all] at h

theorem mask_srcFor {sig R : USig} (hwf : WF sig.params) (hkeys : ∀ k, dhas sig.src k = true → k ∈ names sig.params)
    {n : Nat} {nms : List Nat} {h : HideFlags} (hR : mask sig n nms h = .ok R) (k : Nat) :
    dget R.src k = if k ∈ names R.params then dget sig.src k else none := by
  refine (mask_lost hwf hR).dget ((pairwise_VR_iff _).1 ((validate_ok_iff _).1 hwf.validate)).2.1 (fun k hk => ?_) k
  cases hd : dget sig.src k with
  | none => rfl
  | some v => exact absurd (hkeys k (by simp [dhas, hd])) hk

theorem mask_depths {sig R : USig} (hwf : WF sig.params) {n : Nat} {nms : List Nat} {h : HideFlags}
    (hR : mask sig n nms h = .ok R) : R.depths = sig.depths := by
  obtain ⟨c, pos, pok, st, -, -, -, -, rfl⟩ := mask_ok hwf hR
  rfl

theorem KeysND.removeFromSrc {d : Srcs} (h : KeysND d) (ns : List Nat) : KeysND (removeFromSrc d ns) := by
  unfold SV.removeFromSrc
  induction ns generalizing d with
  | nil => exact h
  | cons n t ih => exact ih (h.dpop n)

/-- `mask` only pops keys, so a map without repeated keys stays one -/
theorem mask_nd {sig R : USig} (hwf : WF sig.params) (hnd : KeysND sig.src)
    {n : Nat} {nms : List Nat} {h : HideFlags} (hR : mask sig n nms h = .ok R) : KeysND R.src := by
  obtain ⟨G, e, -⟩ := mask_lost hwf hR
  rw [e]
  exact hnd.removeFromSrc G

theorem c08n_partialSig_src (i : USig) : (partialSig i).src = i.src := rfl
theorem c08n_partialSig_depths (i : USig) : (partialSig i).depths = i.depths := rfl

theorem mask_prov {sig R : USig} {n : Nat} {nms : List Nat} {h : HideFlags}
    (hwf : WF sig.params) (hp : ProvWF1 sig) (hR : mask sig n nms h = .ok R) :
    ProvWF1 R ∧ ∀ P, sig.src.All P → R.src.All P := by
  have hsrc := mask_srcFor hwf (fun k hk => (hp.keys k).1 hk) hR
  refine ⟨⟨provWF_iff.2 ?_, mask_nd hwf hp.nd hR⟩, fun _ hP => hP.restrict hsrc⟩
  rw [mask_depths hwf hR]
  exact (provWF_iff.1 hp.toProvWF).restrict (mask_names_subset hwf hR) hsrc

theorem forwards_prov {P : Nat → Nat → Prop} {o i R : USig} {n : Nat} {nms : List Nat} {ha hk uva uvk : Bool}
    (p : Bool) (ho : WF o.params) (hi : WF i.params) (po : ProvWF1 o) (pi : ProvWF1 i)
    (hPo : o.src.All P) (hPi : i.src.All P) (hR : forwards o i n nms ha hk uva uvk p = .ok R) :
    ProvWF1 R ∧ R.src.All P := by
  obtain ⟨i', M, hi', eN, eS, eD, hM, hE⟩ := forwards_ok p hi hR
  have pi' : ProvWF1 i' := ⟨by rw [provWF_iff, eN, eS, eD, ← provWF_iff]; exact pi.toProvWF, eS ▸ pi.nd⟩
  obtain ⟨pM, aM⟩ := mask_prov hi' pi' hM
  exact embed_prov ho po hPo
    (List.forall_mem_singleton.2 ⟨mask_wf i' M n nms _ hi' hM, pM.toProvWF, aM P (eS ▸ hPi)⟩) hE

theorem forwards_depths_of {o i R : USig} {n : Nat} {nms : List Nat} {ha hk uva uvk : Bool}
    (p : Bool) (hi : WF i.params) (hid : KeysND i.depths) (hR : forwards o i n nms ha hk uva uvk p = .ok R)
    (f : Nat) : dget R.depths f = minDepth (dget o.depths f) ((dget i.depths f).map (· + 1)) := by
  obtain ⟨i', M, hi', -, -, eD, hM, hE⟩ := forwards_ok p hi hR
  have eM := (mask_depths hi' hM).trans eD
  rw [(embed_depths_of (List.forall_mem_singleton.2 (eM ▸ hid)) hE).1 f, embed_nary_two, eM]

end SV
