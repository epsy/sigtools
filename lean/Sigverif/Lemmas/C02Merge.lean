/-
  Lemmas/C02Merge.lean — closed form of `mergeStep inner r` when `r` has only star parameters
  (the merge performed by `_embed`); for a bare `(*a, **k)` without annotations it gives back the
  buckets of `inner`.
-/
import Sigverif.Lemmas.Core.Sort
import Sigverif.Lemmas.Core.Except
import Sigverif.Lemmas.MergePhases
namespace SV

theorem phaseK1_stars (l r : Sorted) (hr : r.kwo = []) (ps : List Param) (st : MState) :
    phaseK1 l r ps st = { st with lUn := pupdate st.lUn ps } := by
  induction ps generalizing st with
  | nil => rfl
  | cons p ps ih =>
    simp only [phaseK1, hr, pget, List.find?_nil]
    rw [ih]
    rfl

def srcFold (l : Sorted) (ls : List Param) (src : Srcs) : Srcs :=
  ls.foldl (fun acc p => addSources acc p.name [l.src]) src

theorem phaseP_L_some (l r : Sorted) (hva : r.va.isSome = true) (ls il : List Param) (st : MState) :
    phaseP l r ls [] il [] st =
      .ok ({ st with pos := st.pos ++ ls, src := srcFold l ls st.src,
                     vaR := st.vaR && ls.isEmpty }, il, []) := by
  induction ls generalizing st with
  | nil => cases st; simp [phaseP, srcFold]
  | cons p ls ih =>
    simp only [phaseP, unbalancedPos, hva, if_true, bind, Except.bind]
    rw [ih]; simp [srcFold]

theorem phaseP_L_none (l r : Sorted) (hva : r.va = none) (ls il : List Param) (st : MState) :
    phaseP l r ls [] il [] st =
      if ls.any (·.dflt.isNone) then .error .valueError else .ok (st, il, []) := by
  induction ls generalizing st with
  | nil => simp [phaseP]
  | cons p ls ih =>
    simp only [phaseP, unbalancedPos, hva, bind, Except.bind, List.any_cons]
    by_cases hd : p.dflt.isNone = true <;> simp [ih, hd]

theorem phaseQ_L_TT (l r : Sorted) (hva : r.va.isSome = true) (hvk : r.vk.isSome = true)
    (ls : List Param) (st : MState) (hun : st.rUn = []) :
    phaseQ l r ls [] st = .ok { st with pok := st.pok ++ ls, src := srcFold l ls st.src } := by
  induction ls generalizing st with
  | nil => cases st; simp [phaseQ, srcFold]
  | cons p ls ih =>
    obtain ⟨pos, pok, kwo, src, vaL, vaR, vkL, vkR, lUn, rUn⟩ := st
    simp only at hun; subst hun
    simp only [phaseQ, unbalancedPok, pget, List.find?_nil, hva, hvk, Bool.and_self, if_true,
      bind, Except.bind]
    rw [ih _ rfl]; simp [srcFold]

theorem phaseQ_L_FT (l r : Sorted) (hva : r.va = none) (hvk : r.vk.isSome = true)
    (ls : List Param) (st : MState) (hun : st.rUn = []) :
    phaseQ l r ls [] st =
      .ok { st with kwo := pupdate st.kwo (ls.map (·.withKind .ko)),
                    src := srcFold l ls st.src } := by
  induction ls generalizing st with
  | nil => cases st; simp [phaseQ, pupdate_nil, srcFold]
  | cons p ls ih =>
    obtain ⟨pos, pok, kwo, src, vaL, vaR, vkL, vkR, lUn, rUn⟩ := st
    simp only at hun; subst hun
    simp only [phaseQ, unbalancedPok, pget, List.find?_nil, hva, hvk, bind, Except.bind]
    simp only [Option.isSome_none, Bool.false_and, Bool.false_eq_true, if_false, if_true]
    rw [ih _ rfl]; simp [pupdate_cons, srcFold]

theorem phaseQ_L_TF (l r : Sorted) (hva : r.va.isSome = true) (hvk : r.vk = none)
    (ls : List Param) (st : MState) (hun : st.rUn = []) (hpok : st.pok = []) :
    phaseQ l r ls [] st =
      .ok { st with pos := st.pos ++ ls.map (·.withKind .po), src := srcFold l ls st.src } := by
  induction ls generalizing st with
  | nil => cases st; simp [phaseQ, srcFold]
  | cons p ls ih =>
    obtain ⟨pos, pok, kwo, src, vaL, vaR, vkL, vkR, lUn, rUn⟩ := st
    simp only at hun hpok; subst hun; subst hpok
    simp only [phaseQ, unbalancedPok, pget, List.find?_nil, hva, hvk, bind, Except.bind]
    simp only [Option.isSome_none, Bool.and_false, Bool.false_eq_true, if_false, if_true,
      List.map_nil, List.append_nil]
    rw [ih _ rfl rfl]; simp [srcFold]

theorem phaseQ_L_FF (l r : Sorted) (hva : r.va = none) (hvk : r.vk = none)
    (ls : List Param) (st : MState) (hun : st.rUn = []) :
    phaseQ l r ls [] st =
      if ls.any (·.dflt.isNone) then .error .valueError else .ok st := by
  induction ls generalizing st with
  | nil => simp [phaseQ]
  | cons p ls ih =>
    obtain ⟨pos, pok, kwo, src, vaL, vaR, vkL, vkR, lUn, rUn⟩ := st
    simp only at hun; subst hun
    simp only [phaseQ, unbalancedPok, pget, List.find?_nil, hva, hvk, bind, Except.bind,
      List.any_cons]
    by_cases hd : p.dflt.isNone = true <;> simp [ih, hd]

/-- the star parameter that `_add_starargs` yields when the left one is still wanted -/
def starOf (l r : Option Param) (w : Bool) : Option Param :=
  match l, r with
  | some lp, some rp => some (if w then concile lp rp else lp)
  | _, _ => none

@[simp] theorem starOf_none (l : Option Param) (w : Bool) : starOf l none w = none := by
  cases l <;> rfl

theorem starOf_eq_mergedStar (l r : Option Param) (w : Bool) :
    starOf l r w = mergedStar l.isSome w l r := by
  cases l <;> cases r <;> cases w <;> rfl

theorem starOf_isSome (l r : Option Param) (w : Bool) :
    (starOf l r w).isSome = (l.isSome && r.isSome) := by
  rw [starOf_eq_mergedStar, mergedStar_isSome]

theorem starOf_name {l r : Option Param} {w : Bool} {p : Param} (h : starOf l r w = some p) :
    ∃ lp, l = some lp ∧ p.name = lp.name := by
  cases l with
  | none => cases h
  | some lp =>
    cases r with
    | none => cases h
    | some rp =>
      cases Option.some.inj h
      exact ⟨lp, rfl, by cases w <;> rfl⟩

/-- closed form (buckets only) of `mergeStep I {va := sva, vk := svk}` -/
def mergeStars (I : Sorted) (sva svk : Option Param) : Except Err Sorted :=
  let un := pupdate [] I.kwo
  if sva.isSome then
    if svk.isSome then
      .ok { pos := I.pos, pok := I.pok, kwo := pupdate [] un,
            va := starOf I.va sva I.pos.isEmpty, vk := starOf I.vk svk un.isEmpty }
    else if un.any (·.dflt.isNone) then .error .valueError
    else .ok { pos := I.pos ++ I.pok.map (·.withKind .po), pok := [], kwo := [],
               va := starOf I.va sva I.pos.isEmpty, vk := none }
  else if I.pos.any (·.dflt.isNone) then .error .valueError
  else if svk.isSome then
    .ok { pos := [], pok := [], kwo := pupdate (pupdate [] (I.pok.map (·.withKind .ko))) un,
          va := none, vk := starOf I.vk svk un.isEmpty }
  else if I.pok.any (·.dflt.isNone) then .error .valueError
  else if un.any (·.dflt.isNone) then .error .valueError
  else .ok { pos := [], pok := [], kwo := [], va := none, vk := none }

theorem mergeStars_some_some (I : Sorted) (a k : Param) :
    mergeStars I (some a) (some k) =
      .ok { pos := I.pos, pok := I.pok, kwo := pupdate [] (pupdate [] I.kwo),
            va := starOf I.va (some a) I.pos.isEmpty,
            vk := starOf I.vk (some k) (pupdate [] I.kwo).isEmpty } := rfl

theorem mergeStars_some_none (I : Sorted) (a : Param) :
    mergeStars I (some a) none =
      if (pupdate [] I.kwo).any (·.dflt.isNone) then .error .valueError
      else .ok { pos := I.pos ++ I.pok.map (·.withKind .po), pok := [], kwo := [],
                 va := starOf I.va (some a) I.pos.isEmpty, vk := none } := rfl

theorem mergeStars_none_some (I : Sorted) (k : Param) :
    mergeStars I none (some k) =
      if I.pos.any (·.dflt.isNone) then .error .valueError
      else .ok { pos := [], pok := [],
                 kwo := pupdate (pupdate [] (I.pok.map (·.withKind .ko))) (pupdate [] I.kwo),
                 va := none, vk := starOf I.vk (some k) (pupdate [] I.kwo).isEmpty } := rfl

theorem mergeStars_none_none (I : Sorted) :
    mergeStars I none none =
      if I.pos.any (·.dflt.isNone) then .error .valueError
      else if I.pok.any (·.dflt.isNone) then .error .valueError
      else if (pupdate [] I.kwo).any (·.dflt.isNone) then .error .valueError
      else .ok { pos := [], pok := [], kwo := [], va := none, vk := none } := rfl

theorem starOf_eq_none (l : Option Param) {r : Option Param} (w : Bool) (h : ¬ r.isSome = true) :
    starOf l r w = none := by
  cases r with
  | none => exact starOf_none l w
  | some _ => exact absurd rfl h

theorem mergeStars_stars {I r : Sorted} {sva svk : Option Param} (h : mergeStars I sva svk = .ok r) :
    r.va = starOf I.va sva I.pos.isEmpty ∧ r.vk = starOf I.vk svk (pupdate [] I.kwo).isEmpty := by
  revert r
  fun_cases mergeStars I sva svk <;> rintro _ ⟨⟩
  · exact ⟨rfl, rfl⟩
  · exact ⟨rfl, (starOf_eq_none _ _ ‹_›).symm⟩
  · exact ⟨(starOf_eq_none _ _ ‹_›).symm, rfl⟩
  · exact ⟨(starOf_eq_none _ _ ‹_›).symm, (starOf_eq_none _ _ ‹_›).symm⟩

theorem concile_eq_left (v a : Param) (hd : v.dflt = none) (ha : a.ann = none)
    (hu : v.ann = none → v.uann = .empty) : concile v a = v := by
  obtain ⟨n, k, d, an, ua⟩ := v
  simp only at hd hu
  subst hd
  unfold concile
  simp only [ha]
  cases an with
  | none => simp [hu rfl]
  | some x => rfl

theorem starOf_eq_left (l : Option Param) (a : Param) (w : Bool) (ha : a.ann = none)
    (h : ∀ v, l = some v → v.dflt = none ∧ (v.ann = none → v.uann = .empty)) :
    starOf l (some a) w = l := by
  cases l with
  | none => rfl
  | some v =>
    obtain ⟨h1, h2⟩ := h v rfl
    simp only [starOf, concile_eq_left v a h1 ha h2, ite_self]

theorem sortParams_bare (bare : USig) (a k : Param) (ha : a.kind = .vp) (hk : k.kind = .vk)
    (hb : bare.params = [a, k]) :
    sortParams bare = { va := some a, vk := some k, src := bare.src, depths := bare.depths } := by
  simp [sortParams, sortGo, hb, ha, hk, copyDepths_zero]

/-- A bare `(*a, **k)` without annotations is neutral on the right: `_concile_meta` gives back a star parameter of `I`
    that has no default and, when it has no annotation, the empty upgraded annotation (`hS`; true of what `inspect`
    builds, not implied by `WF`). -/
theorem mergeStars_bare {I : Sorted} (bk : BucketKinds I) (hn : (names I.kwo).Nodup) {a k : Param}
    (ha : a.ann = none) (hk : k.ann = none)
    (hS : ∀ p ∈ I.all, (p.kind = .vp ∨ p.kind = .vk) → p.dflt = none ∧ (p.ann = none → p.uann = .empty)) :
    mergeStars I (some a) (some k) = .ok { pos := I.pos, pok := I.pok, va := I.va, kwo := I.kwo, vk := I.vk } := by
  have hu : pupdate [] I.kwo = I.kwo := pupdate_of_nodup [] I.kwo hn
  rw [mergeStars_some_some, hu, hu,
    starOf_eq_left _ a _ ha fun v hv => hS v (mem_all_va hv) (.inl (bk.va v hv)),
    starOf_eq_left _ k _ hk fun v hv => hS v (mem_all_vk hv) (.inr (bk.vk v hv))]

theorem addStarargs_fst (l r : Sorted) (wR : Bool) (left right : Option Param) (src : Srcs) :
    (addStarargs l r left.isSome wR left right src).fst = starOf left right wR :=
  (addStarargs_param ..).trans (starOf_eq_mergedStar ..).symm

-- `hl` is not needed
set_option linter.unusedVariables false in
theorem addStarargs_L (l r : Sorted) (wR : Bool) (left right : Option Param) (src : Srcs)
    (hl : left.isSome = true ∨ right = none) :
    ∃ src', addStarargs l r left.isSome wR left right src = (starOf left right wR, src') :=
  ⟨_, Prod.ext (addStarargs_fst l r wR left right src) rfl⟩

theorem phaseK2_nil (l : Sorted) (st : MState) : phaseK2 l [] st = st := rfl

theorem mergeUnmatched_L_some (l r : Sorted) (hvk : r.vk.isSome = true) (st : MState) :
    mergeUnmatched .L l r st =
      .ok { st with kwo := pupdate st.kwo st.lUn, src := addAllSources st.src st.lUn l.src,
                    vkR := st.vkR && st.lUn.isEmpty } := by
  obtain ⟨pos, pok, kwo, src, vaL, vaR, vkL, vkR, lUn, rUn⟩ := st
  cases lUn with
  | nil => simp [mergeUnmatched, pupdate_nil, addAllSources]
  | cons p t => simp [mergeUnmatched, hvk]

theorem mergeUnmatched_L_none (l r : Sorted) (hvk : r.vk = none) (st : MState) :
    mergeUnmatched .L l r st =
      if st.lUn.any (·.dflt.isNone) then .error .valueError else .ok st := by
  obtain ⟨pos, pok, kwo, src, vaL, vaR, vkL, vkR, lUn, rUn⟩ := st
  cases lUn with
  | nil => simp [mergeUnmatched]
  | cons p t => simp [mergeUnmatched, hvk]

theorem mergeUnmatched_R_nil (l r : Sorted) (st : MState) (h : st.rUn = []) :
    mergeUnmatched .R l r st = .ok st := by
  simp [mergeUnmatched, h]

theorem bind_ite_error {α β : Type} {c : Prop} [Decidable c] {e : Err} {x : Except Err α}
    {f : α → Except Err β} :
    ((if c then .error e else x) >>= f) = if c then .error e else x >>= f := by
  split <;> rfl

theorem ok_bind {α β : Type} (a : α) (f : α → Except Err β) :
    ((.ok a : Except Err α) >>= f) = f a := rfl

theorem exists_map_ite {c : Prop} [Decidable c] {e : Err} {x y : Except Err Sorted}
    {g : Srcs → Sorted → Sorted} (h : ∃ s, x = y.map (g s)) :
    ∃ s, (if c then .error e else x) = (if c then .error e else y).map (g s) := by
  obtain ⟨s, h⟩ := h
  refine ⟨s, ?_⟩
  split
  · rfl
  · exact h

theorem mergeStep_stars (I r : Sorted) (hpos : r.pos = []) (hpok : r.pok = []) (hkwo : r.kwo = []) :
    ∃ src, mergeStep I r =
      (mergeStars I r.va r.vk).map
        (fun x => { x with src := src, depths := mergeDepths I.depths r.depths }) := by
  obtain ⟨rpos, rpok, sva, rkwo, svk, rsrc, rdep⟩ := r
  cases hpos
  cases hpok
  cases hkwo
  unfold mergeStep
  simp only [phaseK1_stars I { va := sva, vk := svk, src := rsrc, depths := rdep } rfl, phaseK2_nil]
  -- in each case the one-sided forms of the phases leave the chain of guards of `mergeStars`
  cases sva with
  | some a =>
    simp only [phaseP_L_some I { va := some a, vk := svk, src := rsrc, depths := rdep } rfl, ok_bind]
    cases svk with
    | some k =>
      simp only [phaseQ_L_TT I { va := some a, vk := some k, src := rsrc, depths := rdep } rfl rfl, ok_bind,
        mergeUnmatched_L_some I { va := some a, vk := some k, src := rsrc, depths := rdep } rfl, mergeUnmatched_R_nil,
        addStarargs_fst, mergeStars_some_some]
      exact ⟨_, rfl⟩
    | none =>
      simp only [phaseQ_L_TF I { va := some a, vk := none, src := rsrc, depths := rdep } rfl rfl, ok_bind,
        mergeUnmatched_L_none I { va := some a, vk := none, src := rsrc, depths := rdep } rfl, bind_ite_error,
        mergeUnmatched_R_nil, addStarargs_fst, starOf_none, mergeStars_some_none]
      exact exists_map_ite ⟨_, rfl⟩
  | none =>
    simp only [phaseP_L_none I { va := none, vk := svk, src := rsrc, depths := rdep } rfl, bind_ite_error, ok_bind]
    cases svk with
    | some k =>
      simp only [phaseQ_L_FT I { va := none, vk := some k, src := rsrc, depths := rdep } rfl rfl, ok_bind,
        mergeUnmatched_L_some I { va := none, vk := some k, src := rsrc, depths := rdep } rfl, mergeUnmatched_R_nil,
        addStarargs_fst, starOf_none, mergeStars_none_some]
      exact exists_map_ite ⟨_, rfl⟩
    | none =>
      simp only [phaseQ_L_FF I { va := none, vk := none, src := rsrc, depths := rdep } rfl rfl, bind_ite_error, ok_bind,
        mergeUnmatched_L_none I { va := none, vk := none, src := rsrc, depths := rdep } rfl, mergeUnmatched_R_nil,
        addStarargs_fst, starOf_none, mergeStars_none_none]
      exact exists_map_ite (exists_map_ite (exists_map_ite ⟨_, rfl⟩))

theorem map_eq_ok {α β : Type} {x : Except Err α} {g : α → β} {b : β} (h : x.map g = .ok b) :
    ∃ a, x = .ok a ∧ g a = b := by
  cases x with
  | error e => cases h
  | ok a => exact ⟨a, rfl, Except.ok.inj h⟩

theorem map_eq_error {α β : Type} {x : Except Err α} {g : α → β} {e : Err}
    (h : x.map g = .error e) : x = .error e := by
  cases x with
  | error e' => exact congrArg _ (Except.error.inj h)
  | ok a => cases h

theorem mergeStep_stars_ok {I r i : Sorted} (hpos : r.pos = []) (hpok : r.pok = []) (hkwo : r.kwo = [])
    (h : mergeStep I r = .ok i) :
    ∃ b src, mergeStars I r.va r.vk = .ok b ∧
      i = { b with src := src, depths := mergeDepths I.depths r.depths } := by
  obtain ⟨src, e⟩ := mergeStep_stars I r hpos hpok hkwo
  obtain ⟨b, hb, rfl⟩ := map_eq_ok (e.symm.trans h)
  exact ⟨b, src, hb, rfl⟩

theorem mergeStep_stars_error {I r : Sorted} {e : Err} (hpos : r.pos = []) (hpok : r.pok = [])
    (hkwo : r.kwo = []) (h : mergeStep I r = .error e) : mergeStars I r.va r.vk = .error e := by
  obtain ⟨src, e'⟩ := mergeStep_stars I r hpos hpok hkwo
  exact map_eq_error (e'.symm.trans h)

end SV
