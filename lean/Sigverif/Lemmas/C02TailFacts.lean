/-
  Lemmas/C02TailFacts.lean — what the concatenation part of `_embed` does to the binding views
  (`embedRes_facts`), from facts about names / required names.
-/
import Sigverif.Lemmas.C02MergeFacts
namespace SV

theorem rq_clearDefaults (l : List Param) : rq (clearDefaults l) = names l := by
  have h : (clearDefaults l).filter (·.required) = clearDefaults l :=
    List.filter_eq_self.2 fun p hp => by
      obtain ⟨q, -, rfl⟩ := List.mem_map.1 hp
      rfl
  rw [rq, h, names_clearDefaults]

theorem rq_cdIf_of {c : Bool} {l : List Param} {x : Nat} (h : x ∈ rq l) : x ∈ rq (cdIf c l) := by
  cases c
  · exact h
  · rw [cdIf, if_pos rfl, rq_clearDefaults]
    exact rq_subset_names h

theorem rq_cdIf_inv {c : Bool} {l : List Param} {x : Nat} (h : x ∈ rq (cdIf c l)) :
    x ∈ rq l ∨ (c = true ∧ ∃ p ∈ l, p.dflt.isSome = true) := by
  cases c
  · exact .inl h
  · rw [cdIf, if_pos rfl, rq_clearDefaults] at h
    obtain ⟨p, hp, rfl⟩ := mem_names.1 h
    cases hd : p.dflt with
    | none => exact .inl (mem_rq.2 ⟨p, hp, by simp [Param.required, hd], rfl⟩)
    | some v => exact .inr ⟨rfl, p, hp, by simp [hd]⟩

theorem rq_cdIf_append_map (c : Bool) (a b : List Param) (k : Kind) :
    rq (cdIf c (a ++ b.map (·.withKind k))) = rq (cdIf c (a ++ b)) := by
  cases c
  · simp [cdIf]
  · simp [cdIf, rq_clearDefaults]

/-- Required names do not see kinds, so the two shapes of the positional part of the result
    (inner positional-only parameters present or not) need not be told apart. -/
theorem rq_ePosC_ePokC (O i : Sorted) :
    rq (ePosC O i ++ ePokC O i) =
      rq (cdIf (innerFirstRequired i) (O.pos ++ O.pok)) ++ rq (i.pos ++ i.pok) := by
  rw [ePosC_append_ePokC, rq_append]
  split
  · rfl
  · rw [rq_cdIf_append_map]

theorem innerFirstRequired_nonempty {i : Sorted} (h : innerFirstRequired i = true) :
    names (i.pos ++ i.pok) ≠ [] := by
  unfold innerFirstRequired at h
  cases hp : i.pos with
  | cons a t => simp
  | nil =>
    rw [hp] at h
    cases hq : i.pok with
    | cons a t => simp
    | nil => rw [hq] at h; simp at h

theorem named_of_positional {S : Sorted} {x : Nat} (h : x ∈ names (S.pos ++ S.pok)) :
    x ∈ names (S.pos ++ S.pok ++ S.kwo) := by
  rw [names_append]
  exact List.mem_append_left _ h

theorem named_of_keyword {S : Sorted} {x : Nat} (h : x ∈ names (S.pok ++ S.kwo)) :
    x ∈ names (S.pos ++ S.pok ++ S.kwo) := by
  simp only [names_append, List.mem_append] at h ⊢
  exact h.elim (fun h => .inl (.inr h)) .inr

theorem tail_disj {O i : Sorted} {uva uvk : Bool} {c : List Nat}
    (hc : checkAll (tailLists O i uva uvk) [] = .ok c) :
    ∀ x ∈ names (O.pos ++ O.pok ++ O.kwo), x ∉ names (i.pos ++ i.pok ++ i.kwo) := by
  -- `i.pos`, `i.pok`, `O.kwo`, `i.kwo` are each checked against the lists in front of them
  have d3 := checkAll_fresh hc (pre := [O.pos, O.pok]) rfl
  have d4 := checkAll_fresh hc (pre := [O.pos, O.pok, i.pos]) rfl
  have d5 := checkAll_fresh hc (pre := [O.pos, O.pok, i.pos, i.pok]) rfl
  have d6 := checkAll_fresh hc (pre := [O.pos, O.pok, i.pos, i.pok, O.kwo]) rfl
  simp only [List.flatten_cons, List.flatten_nil, names_append, List.nil_append, List.append_nil,
    List.mem_append, not_or] at d3 d4 d5 d6
  simp only [names_append, List.mem_append]
  rintro x ((hx | hx) | hx) ((hi | hi) | hi)
  · exact (d3 x hi).1 hx
  · exact (d4 x hi).1 hx
  · exact (d6 x hi).1 hx
  · exact (d3 x hi).2 hx
  · exact (d4 x hi).2.1 hx
  · exact (d6 x hi).2.1 hx
  · exact (d5 x hx).2.2.1 hi
  · exact (d5 x hx).2.2.2 hi
  · exact (d6 x hi).2.2.2.2 hx

/-- `embedRes O i'` read on binding views, for any `i'` that passes the name checks: the positional names are the
    outer's, then the inner's; a keyword-passable name comes from one of the two, which share none; the required names
    are those of the two, and others only where a defaulted positional parameter of the outer one precedes positional
    parameters of the inner one. -/
theorem embedRes_facts {O i' : Sorted} {uva uvk : Bool} {c : List Nat} (d : Nat)
    (hnO : (names (O.pos ++ O.pok ++ O.kwo)).Nodup)
    (hni : (names (i'.pos ++ i'.pok ++ i'.kwo)).Nodup)
    (hc : checkAll (tailLists O i' uva uvk) [] = .ok c) :
    EmbedFacts (sview O) (sview i') (sview (embedRes O i' uva uvk d)) uva uvk
      (∃ p ∈ O.pos ++ O.pok, p.dflt.isSome = true) := by
  have hd := tail_disj hc
  have hkwo : pupdate (pupdate [] O.kwo) i'.kwo = O.kwo ++ i'.kwo := by
    simp only [names_append] at hnO hni
    have h1 : pupdate [] O.kwo = O.kwo := by
      simpa using pupdate_of_nodup [] O.kwo (by simpa using (List.nodup_append.1 hnO).2.1)
    rw [h1]
    apply pupdate_of_nodup
    simp only [names_append]
    rw [List.nodup_append]
    refine ⟨(List.nodup_append.1 hnO).2.1, (List.nodup_append.1 hni).2.1, ?_⟩
    intro a ha b hb hab
    subst hab
    exact hd a (by simp [ha]) (by simp [hb])
  unfold embedRes
  rw [hkwo]
  refine ⟨names_ePosC_ePokC O i', by cases uva <;> rfl, by cases uvk <;> rfl, ?_, ?_, ?_, ?_, ?_⟩
  · intro x hx
    simp only [sview, ePokC, names_append, List.mem_append] at hx ⊢
    rcases hx with (hx | hx) | hx | hx
    · split at hx
      · simp only [names_cdIf] at hx; exact .inl (.inl hx)
      · simp at hx
    · exact .inr (.inl hx)
    · exact .inl (.inr hx)
    · exact .inr (.inr hx)
  · intro x hx
    have hx := hd x (hx.elim named_of_positional (·.elim named_of_keyword rq_subset_names))
    exact ⟨fun h => hx (named_of_positional h), fun h => hx (named_of_keyword h), fun h => hx (rq_subset_names h)⟩
  · intro x (hx : x ∈ rq _)
    show x ∈ rq _
    rw [rq_append, rq_ePosC_ePokC]
    rw [rq_append] at hx
    simp only [rq_append, List.mem_append] at hx ⊢
    rcases hx with hx | hx
    · exact .inl (.inl (rq_cdIf_of (rq_append _ _ ▸ List.mem_append.2 hx)))
    · exact .inr (.inl hx)
  · intro x (hx : x ∈ rq _)
    show x ∈ rq _
    rw [rq_append, rq_ePosC_ePokC]
    simp only [rq_append, List.mem_append] at hx ⊢
    rcases hx with hx | hx
    · exact .inl (.inr hx)
    · exact .inr (.inr hx)
  · intro x (hx : x ∈ rq _)
    show x ∈ rq _ ∨ x ∈ rq _ ∨ _
    rw [rq_append, rq_ePosC_ePokC] at hx
    simp only [rq_append, List.mem_append] at hx ⊢
    rcases hx with (hx | hx) | hx | hx
    · rcases rq_cdIf_inv hx with h | ⟨hc, p, hp, hpd⟩
      · exact .inl (.inl (List.mem_append.1 (rq_append _ _ ▸ h)))
      · exact .inr (.inr ⟨⟨p, List.mem_append.1 hp, hpd⟩, innerFirstRequired_nonempty hc⟩)
    · exact .inr (.inl (.inl hx))
    · exact .inl (.inr hx)
    · exact .inr (.inl (.inr hx))

end SV
