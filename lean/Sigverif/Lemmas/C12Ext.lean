/-
  Lemmas/C12Ext.lean — the loop of `prepare` looks at `P`, `W` and the names still to be used only
  through membership.
-/
import Sigverif.Lemmas.C12Prep
namespace SV

/-- two states of the loop that differ at most in the order and repetitions of `toUse` -/
def tuEquiv (a b : PrepState) : Prop :=
  a.params = b.params ∧ a.kwoparams = b.kwoparams ∧ a.kwopos = b.kwopos ∧
  a.foundPok = b.foundPok ∧ a.foundKws = b.foundKws ∧ ∀ x, x ∈ a.toUse ↔ x ∈ b.toUse

def resEquiv : Except Err PrepState → Except Err PrepState → Prop
  | .ok a, .ok b => tuEquiv a b
  | .error e, .error e' => e = e'
  | _, _ => False

theorem contains_congr {P P' : List Nat} (h : ∀ x, x ∈ P ↔ x ∈ P') (x : Nat) :
    P.contains x = P'.contains x := by
  rw [Bool.eq_iff_iff]; simp [h]

theorem prepStep_congr {P P' W W' : List Nat} (hP : ∀ x, x ∈ P ↔ x ∈ P') (hW : ∀ x, x ∈ W ↔ x ∈ W')
    (st : PrepState) (i : Nat) (p : Param) : prepStep P W st i p = prepStep P' W' st i p := by
  simp only [prepStep, contains_congr hP, contains_congr hW]

theorem prepLoop_congr {P P' W W' : List Nat} (hP : ∀ x, x ∈ P ↔ x ∈ P') (hW : ∀ x, x ∈ W ↔ x ∈ W')
    (st : PrepState) (i : Nat) (ps : List Param) : prepLoop P W st i ps = prepLoop P' W' st i ps := by
  induction ps generalizing st i with
  | nil => rfl
  | cons p ps ih => simp only [prepLoop, prepStep_congr hP hW, ih]

theorem prepStep_equiv {P W : List Nat} {a b : PrepState} (h : tuEquiv a b) (i : Nat) (p : Param) :
    resEquiv (prepStep P W a i p) (prepStep P W b i p) := by
  obtain ⟨h1, h2, h3, h4, h5, h6⟩ := h
  have hc : stepCond P W a.foundPok a.toUse p ↔ stepCond P W b.foundPok b.toUse p := by
    simp only [stepCond, h4, h6]
  have he : stepErr P W a.foundPok a.toUse p = stepErr P W b.foundPok b.toUse p := by
    simp only [stepErr, h4, h6]
  rcases prepStep_cases P W a i p with ⟨ca, ea⟩ | ⟨ca, ea⟩ <;>
    rcases prepStep_cases P W b i p with ⟨cb, eb⟩ | ⟨cb, eb⟩
  · rw [ea, eb]
    exact ⟨by simp [stepRes, h1, h2], by simp [stepRes, h2], by simp [stepRes, h3],
      by simp [stepRes, h4], by simp [stepRes, h5], fun x => by simp only [mem_stepRes_toUse, h6]⟩
  · exact absurd (hc.1 ca) cb
  · exact absurd (hc.2 cb) ca
  · rw [ea, eb, he]
    rfl

theorem prepLoop_equiv {P W : List Nat} {a b : PrepState} (h : tuEquiv a b) (i : Nat)
    (ps : List Param) : resEquiv (prepLoop P W a i ps) (prepLoop P W b i ps) := by
  induction ps generalizing a b i with
  | nil => simpa [prepLoop, resEquiv] using h
  | cons p ps ih =>
    simp only [prepLoop, bind, Except.bind]
    have := prepStep_equiv (P := P) (W := W) h i p
    cases ha : prepStep P W a i p <;> cases hb : prepStep P W b i p <;> rw [ha, hb] at this <;>
      simp only [resEquiv] at this
    · subst this; simp [resEquiv]
    · exact ih this (i + 1)

theorem isEmpty_congr {u u' : List Nat} (h : ∀ x, x ∈ u ↔ x ∈ u') : u.isEmpty = u'.isEmpty := by
  rw [Bool.eq_iff_iff, List.isEmpty_iff, List.isEmpty_iff, List.eq_nil_iff_forall_not_mem,
    List.eq_nil_iff_forall_not_mem]
  simp only [h]

end SV
