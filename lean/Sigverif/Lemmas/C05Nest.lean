/-
  Lemmas/C05Nest.lean — the visitor on nested function definitions and lambdas: the body is visited at once, in a
  child namespace where its assignments land, and every Call node is put on the `to_revisit` list; `nonlocal s; s = …`
  rebinds the star in the MAIN namespace at once; after the main pass every deferred call is processed in its
  namespace, and names the nested function did not bind are found in the main namespace as it is at the END of the pass
-/
import Sigverif.Lemmas.C05FlatSim
namespace SV
namespace Flat

/-- a deferred Call node of a nested body -/
inductive DItem where
  | fwd (callee : Tree) (npos : Nat) (kws : List Nat) (uva uvk : Bool)
  | decoy (h : Nat) (k : Nat)

def DItem.tree (va vk : Nat) : DItem → Tree
  | .fwd callee npos kws uva uvk => callTree va vk callee npos kws uva uvk
  | .decoy h k => callTree va vk (.name h .load) k [] false false

def DItem.truth (t : Bool × Bool) : DItem → List FwdCall
  | .fwd callee npos kws uva uvk => mkFwd callee npos kws uva uvk t.1 t.2
  | .decoy _ _ => []

mutual
  def deferN : NStmt → List DItem
    | .fwd callee npos kws uva uvk _ => [.fwd callee npos kws uva uvk]
    | .decoy h k => [.decoy h k]
    | .unrelated _ => []
    | .block body => deferNL body
  def deferNL : NStmtList → List DItem
    | .nil => []
    | .cons s rest => deferN s ++ deferNL rest
end

mutual
  def assignedN : NStmt → List Nat
    | .fwd _ _ _ _ _ target => target.toList
    | .unrelated x => [x]
    | .block body => assignedNL body
    | .decoy _ _ => []
  def assignedNL : NStmtList → List Nat
    | .nil => []
    | .cons s rest => assignedN s ++ assignedNL rest
end

mutual
  theorem nestedN_eq (t : Bool × Bool) : (s : NStmt) → nestedN s t = (deferN s).flatMap (DItem.truth t)
    | .fwd callee npos kws uva uvk _ => by simp [nestedN, deferN, DItem.truth]
    | .decoy _ _ => by simp [nestedN, deferN, DItem.truth]
    | .unrelated _ => by simp [nestedN, deferN]
    | .block body => by simp only [nestedN, deferN]; exact nestedNL_eq t body
  theorem nestedNL_eq (t : Bool × Bool) : (l : NStmtList) → nestedNL l t = (deferNL l).flatMap (DItem.truth t)
    | .nil => by simp [nestedNL, deferNL]
    | .cons s rest => by
      simp only [nestedNL, deferNL, List.flatMap_append]
      rw [nestedN_eq t s, nestedNL_eq t rest]
end

theorem decoy_tree (va vk h k : Nat) :
    Tree.call (.name h .load) (plainConsts k .nil) .nil = callTree va vk (.name h .load) k [] false false := by
  simp [callTree, kwConsts]

/-- main namespace, the earlier children, and the child being filled (the last one, current) -/
def mkC (kids : List NS) (rev : List (Tree × Nat)) (n : List (Nat × Entry)) (i : List Nat) (cs : List CallRec)
    (child : NS) : VState :=
  { nss := { parent := none, names := n, nonlocals := [], imm := i } :: (kids ++ [child]), cur := kids.length + 1,
    calls := cs, revisit := rev, hasVa := true, hasVk := true }

section
variable (kids : List NS) (rev : List (Tree × Nat)) (n : List (Nat × Entry)) (i : List Nat) (cs : List CallRec)

theorem ns_mkC (child : NS) : (mkC kids rev n i cs child).ns (kids.length + 1) = child := by
  simp [mkC, VState.ns]

theorem setNs_mkC (child child' : NS) : (mkC kids rev n i cs child).setNs (kids.length + 1) child' = mkC kids rev n i cs child' := by
  simp [mkC, VState.setNs]

theorem assign_mkC (child : NS) (hnl : child.nonlocals = []) (x : Nat) (e : Entry) :
    (mkC kids rev n i cs child).assign x e =
      mkC kids rev n i cs { child with names := dset child.names x e, imm := child.imm.filter (· ≠ x) } := by
  unfold VState.assign
  have hc : (mkC kids rev n i cs child).cur = kids.length + 1 := rfl
  simp only [hc, ns_mkC, hnl, dget, Option.getD_none, setNs_mkC]

theorem visit_store_mkC (child : NS) (hnl : child.nonlocals = []) (x : Nat) :
    visit false (.name x .store) (mkC kids rev n i cs child) =
      mkC kids rev n i cs { child with names := dset child.names x { m := .unknown }, imm := child.imm.filter (· ≠ x) } := by
  simp only [visit, visitName]
  have : ((mkC kids rev n i cs child).isImm x && decide (Ctx.store = Ctx.load)) = false := by simp
  simp only [this, Bool.false_eq_true, if_false]
  exact assign_mkC kids rev n i cs child hnl x _

theorem visit_call_mkC (child : NS) (hp : child.parent.isSome = true) (f : Tree) (as : ArgList) (ks : KwList) :
    visit false (.call f as ks) (mkC kids rev n i cs child) =
      mkC kids (rev ++ [(.call f as ks, kids.length + 1)]) n i cs child := by
  have hc : (mkC kids rev n i cs child).cur = kids.length + 1 := rfl
  simp only [visit, hc, ns_mkC, hp, Bool.not_false, Bool.true_and, if_true]
  rfl

end

/-- the child namespace after the assignments `xs` -/
def childAfter (xs : List Nat) (child : NS) : NS :=
  xs.foldl (fun c x => { c with names := dset c.names x { m := .unknown }, imm := c.imm.filter (· ≠ x) }) child

theorem childAfter_nil (child : NS) : childAfter [] child = child := rfl
theorem childAfter_append (xs ys : List Nat) (child : NS) :
    childAfter (xs ++ ys) child = childAfter ys (childAfter xs child) := by
  simp [childAfter, List.foldl_append]
theorem childAfter_nonlocals (xs : List Nat) (child : NS) : (childAfter xs child).nonlocals = child.nonlocals := by
  induction xs generalizing child with
  | nil => rfl
  | cons x t ih => simp only [childAfter, List.foldl_cons] at ih ⊢; rw [ih]
theorem childAfter_parent (xs : List Nat) (child : NS) : (childAfter xs child).parent = child.parent := by
  induction xs generalizing child with
  | nil => rfl
  | cons x t ih => simp only [childAfter, List.foldl_cons] at ih ⊢; rw [ih]
theorem dget_childAfter (xs : List Nat) (child : NS) (y : Nat) (hy : y ∉ xs) :
    dget (childAfter xs child).names y = dget child.names y := by
  induction xs generalizing child with
  | nil => rfl
  | cons x t ih =>
    simp only [childAfter, List.foldl_cons] at ih ⊢
    simp only [List.mem_cons, not_or] at hy
    rw [ih _ hy.2, dget_dset]
    simp [hy.1]

def deferred (va vk : Nat) (id : Nat) (ds : List DItem) : List (Tree × Nat) := ds.map (fun d => (d.tree va vk, id))

mutual
  theorem visitN (va vk : Nat) (kids : List NS) (n : List (Nat × Entry)) (i : List Nat) (cs : List CallRec) :
      (s : NStmt) → ∀ (rev : List (Tree × Nat)) (child : NS), child.nonlocals = [] → child.parent.isSome = true →
      visit false (renderN va vk s) (mkC kids rev n i cs child) =
        mkC kids (rev ++ deferred va vk (kids.length + 1) (deferN s)) n i cs (childAfter (assignedN s) child)
    | .fwd callee npos kws uva uvk target, rev, child, hnl, hp => by
      cases target with
      | none =>
        simp only [renderN, stmtOf, visit_other_one, callTree, visit_call_mkC _ _ _ _ _ _ hp]
        simp [deferN, deferred, DItem.tree, callTree, assignedN, childAfter]
      | some x =>
        simp only [renderN, stmtOf, visit_other_two, visit_store_mkC _ _ _ _ _ _ hnl, callTree]
        rw [visit_call_mkC _ _ _ _ _ _ (by simpa using hp)]
        simp [deferN, deferred, DItem.tree, callTree, assignedN, childAfter]
    | .decoy h k, rev, child, hnl, hp => by
      simp only [renderN, stmtOf, visit_other_one, visit_call_mkC _ _ _ _ _ _ hp]
      simp [deferN, deferred, DItem.tree, callTree, kwConsts, assignedN, childAfter]
    | .unrelated x, rev, child, hnl, hp => by
      simp only [renderN, stmtOf, visit_other_two, visit_store_mkC _ _ _ _ _ _ hnl, visit_const]
      simp [deferN, deferred, assignedN, childAfter]
    | .block body, rev, child, hnl, hp => by
      simp only [renderN, visit, visitList_cons, visit_const]
      exact visitNL va vk kids n i cs body rev child hnl hp
  theorem visitNL (va vk : Nat) (kids : List NS) (n : List (Nat × Entry)) (i : List Nat) (cs : List CallRec) :
      (l : NStmtList) → ∀ (rev : List (Tree × Nat)) (child : NS), child.nonlocals = [] → child.parent.isSome = true →
      visitList (renderNL va vk l) (mkC kids rev n i cs child) =
        mkC kids (rev ++ deferred va vk (kids.length + 1) (deferNL l)) n i cs (childAfter (assignedNL l) child)
    | .nil, rev, child, _, _ => by simp [renderNL, visitList, deferNL, deferred, assignedNL, childAfter]
    | .cons s rest, rev, child, hnl, hp => by
      simp only [renderNL, visitList_cons]
      rw [visitN va vk kids n i cs s rev child hnl hp]
      rw [visitNL va vk kids n i cs rest _ _ (by rw [childAfter_nonlocals]; exact hnl) (by rw [childAfter_parent]; exact hp)]
      simp [deferNL, assignedNL, deferred, childAfter_append, List.append_assoc]
end

section
variable (kids : List NS) (rev : List (Tree × Nat)) (n : List (Nat × Entry)) (i : List Nat) (cs : List CallRec)

theorem enter_child :
    processParams { mk kids rev n i cs with nss := (mk kids rev n i cs).nss ++ [{ parent := some (mk kids rev n i cs).cur }],
                                            cur := (mk kids rev n i cs).nss.length } [] [] [] none none false =
      mkC kids rev n i cs { parent := some 0 } := by
  simp [processParams, mk, mkC]

theorem leave_child (child : NS) : { mkC kids rev n i cs child with cur := 0 } = mk (kids ++ [child]) rev n i cs := by
  simp [mk, mkC]

theorem visit_nested (va vk : Nat) (body : NStmtList) :
    visit false (.fdef [] [] [] none none (renderNL va vk body)) (mk kids rev n i cs) =
      mk (kids ++ [childAfter (assignedNL body) { parent := some 0 }])
        (rev ++ deferred va vk (kids.length + 1) (deferNL body)) n i cs := by
  have hcur : (mk kids rev n i cs).cur = 0 := rfl
  simp only [visit]
  rw [enter_child, visitNL va vk kids n i cs body rev _ rfl rfl]
  simp only [hcur]
  exact leave_child _ _ _ _ _ _

theorem visit_nonlocalRebind (s : Nat) (hs : dhas n s = true) :
    visit false (.fdef [] [] [] none none (.cons (.nonloc [s]) (.cons (stmtOf (some s) constT) .nil)))
        (mk kids rev n i cs) =
      mk (kids ++ [{ parent := some 0, nonlocals := [(s, 0)] }]) rev
        (dset n s { m := .unknown }) (i.filter (· ≠ s)) cs := by
  simp only [visit]
  rw [enter_child]
  simp only [visitList, visit, List.foldl_cons, List.foldl_nil, stmtOf, visit_const]
  -- add_nonlocal finds the name in the main namespace
  have h1 : (mkC kids rev n i cs { parent := some 0 }).addNonlocal s =
      mkC kids rev n i cs { parent := some 0, nonlocals := [(s, 0)] } := by
    unfold VState.addNonlocal
    have hc : (mkC kids rev n i cs { parent := some 0 }).cur = kids.length + 1 := rfl
    have h0 : (mkC kids rev n i cs { parent := some 0 }).ns 0 = { parent := none, names := n, nonlocals := [], imm := i } := by
      simp [mkC, VState.ns]
    have hl : (mkC kids rev n i cs { parent := some 0 }).nss.length + 1 = (kids.length + 2) + 1 := by simp [mkC]
    simp only [hc, ns_mkC, hl, addNonlocalGo, h0, hs, if_true, setNs_mkC]
    simp [dset]
  rw [h1]
  -- the assignment goes to the owner: the main namespace
  have h2 : visitName (mkC kids rev n i cs { parent := some 0, nonlocals := [(s, 0)] }) s .store =
      { mkC kids rev (dset n s { m := .unknown }) (i.filter (· ≠ s)) cs { parent := some 0, nonlocals := [(s, 0)] } with
        cur := kids.length + 1 } := by
    simp only [visitName]
    have : ((mkC kids rev n i cs { parent := some 0, nonlocals := [(s, 0)] }).isImm s && decide (Ctx.store = Ctx.load)) = false := by
      simp
    simp only [this, Bool.false_eq_true, if_false]
    simp [VState.assign, mkC, VState.ns, VState.setNs, dget]
  rw [h2]
  simp [mk, mkC]

end

mutual
  def rootsN : NStmt → List Nat
    | .fwd callee _ _ _ _ _ => (calleeRoot callee).toList
    | .decoy h _ => [h]             -- helper functions called inside nested bodies are never assignment targets
    | .block body => rootsNL body
    | _ => []
  def rootsNL : NStmtList → List Nat
    | .nil => []
    | .cons s rest => rootsN s ++ rootsNL rest
end

mutual
  /-- names assigned anywhere, nested bodies included -/
  def assignedAllS : Stmt → List Nat
    | .nested body => assignedNL body
    | .block body => assignedAllSL body
    | s => assignedS s
  def assignedAllSL : StmtList → List Nat
    | .nil => []
    | .cons s rest => assignedAllS s ++ assignedAllSL rest
end

mutual
  def rootsAllS : Stmt → List Nat
    | .nested body => rootsNL body
    | .block body => rootsAllSL body
    | s => rootsS s
  def rootsAllSL : StmtList → List Nat
    | .nil => []
    | .cons s rest => rootsAllS s ++ rootsAllSL rest
end

mutual
  /-- the child namespaces the main pass creates, in order -/
  def kidsS (va vk : Nat) : Stmt → List NS
    | .nested body => [childAfter (assignedNL body) { parent := some 0 }]
    | .nonlocalRebind .A => [{ parent := some 0, nonlocals := [(va, 0)] }]
    | .nonlocalRebind .K => [{ parent := some 0, nonlocals := [(vk, 0)] }]
    | .block body => kidsSL va vk body
    | _ => []
  def kidsSL (va vk : Nat) : StmtList → List NS
    | .nil => []
    | .cons s rest => kidsS va vk s ++ kidsSL va vk rest
end

mutual
  /-- the deferred calls, each with the index of its namespace (`start` = index of the next child) -/
  def deferS (va vk : Nat) (start : Nat) : Stmt → List (Tree × Nat)
    | .nested body => deferred va vk start (deferNL body)
    | .block body => deferSL va vk start body
    | _ => []
  def deferSL (va vk : Nat) (start : Nat) : StmtList → List (Tree × Nat)
    | .nil => []
    | .cons s rest => deferS va vk start s ++ deferSL va vk (start + (kidsS va vk s).length) rest
end

theorem dhas_star {p : Prog} {roots : List Nat} {tA tK : Bool} {n : List (Nat × Entry)} {i : List Nat}
    (h : FInv p roots tA tK n i) (s : Star) : dhas n (p.star s) = true := by
  obtain ⟨e, he, _⟩ := h.star_entry s
  simp [dhas, he]

mutual
  theorem nsimS (p : Prog) (roots A : List Nat) (c : Clean p roots A) :
      (s : Stmt) → okS [p.va, p.vk] s = true →
      (∀ x ∈ assignedAllS s, x ∈ A) → (∀ r ∈ rootsAllS s, r ∈ roots) →
      ∀ (kids : List NS) (rev : List (Tree × Nat)) (tA tK : Bool) (n : List (Nat × Entry)) (i : List Nat)
        (cs : List CallRec), FInv p roots tA tK n i →
      NSimRes kids rev p roots (renderS p.va p.vk s) n i cs (truthS s (tA, tK)).1 (truthS s (tA, tK)).2.1
        (truthS s (tA, tK)).2.2 (kidsS p.va p.vk s) (deferS p.va p.vk (kids.length + 1) s)
    | s, hok, hA, hR, kids, rev, tA, tK, n, i, cs, h => by
      cases s with
      | block body =>
        obtain ⟨n', i', recs, e, hf, hr⟩ := nsimSL p roots A c body (by simpa [okS] using hok) hA hR kids rev tA tK n i cs h
        refine ⟨n', i', recs, ?_, by simpa [truthS] using hf, by simpa [truthS] using hr⟩
        simp only [renderS, visit, visitList_cons, visit_const, kidsS, deferS] at e ⊢
        exact e
      | nested body =>
        refine ⟨n, i, [], ?_, by simpa [truthS, taintsNow] using h, by simp [truthS, forwarding]⟩
        simp only [renderS, kidsS, deferS, List.append_nil]
        exact visit_nested kids rev n i cs p.va p.vk body
      | nonlocalRebind st =>
        refine ⟨_, _, [], ?_, h.kill c st, by simp [truthS, forwarding]⟩
        cases st
        · simp only [renderS, kidsS, deferS, List.append_nil]
          exact visit_nonlocalRebind kids rev n i cs p.va (dhas_star h .A)
        · simp only [renderS, kidsS, deferS, List.append_nil]
          exact visit_nonlocalRebind kids rev n i cs p.vk (dhas_star h .K)
      | _ => exact simS p roots A c _ rfl (fun _ e => by cases e) hok hA hR tA tK n i cs h

  theorem nsimSL (p : Prog) (roots A : List Nat) (c : Clean p roots A) :
      (l : StmtList) → okSL [p.va, p.vk] l = true →
      (∀ x ∈ assignedAllSL l, x ∈ A) → (∀ r ∈ rootsAllSL l, r ∈ roots) →
      ∀ (kids : List NS) (rev : List (Tree × Nat)) (tA tK : Bool) (n : List (Nat × Entry)) (i : List Nat)
        (cs : List CallRec), FInv p roots tA tK n i →
      NSimRes kids rev p roots (.other (renderSL p.va p.vk l)) n i cs (truthSL l (tA, tK)).1 (truthSL l (tA, tK)).2.1
        (truthSL l (tA, tK)).2.2 (kidsSL p.va p.vk l) (deferSL p.va p.vk (kids.length + 1) l)
    | .nil, _, _, _, kids, rev, tA, tK, n, i, cs, h => by
      exact ⟨n, i, [], by simp [renderSL, visit, visitList, kidsSL, deferSL], by simpa [truthSL] using h,
        by simp [truthSL, forwarding]⟩
    | .cons s rest, hok, hA, hR, kids, rev, tA, tK, n, i, cs, h => by
      simp only [okSL, Bool.and_eq_true] at hok
      simp only [assignedAllSL, List.forall_mem_append] at hA
      simp only [rootsAllSL, List.forall_mem_append] at hR
      obtain ⟨n1, i1, r1, e1, h1, f1⟩ := nsimS p roots A c s hok.1 hA.1 hR.1 kids rev tA tK n i cs h
      obtain ⟨n2, i2, r2, e2, h2, f2⟩ := nsimSL p roots A c rest hok.2 hA.2 hR.2
        (kids ++ kidsS p.va p.vk s) (rev ++ deferS p.va p.vk (kids.length + 1) s)
        (truthS s (tA, tK)).2.1 (truthS s (tA, tK)).2.2 n1 i1 (cs ++ r1) h1
      refine ⟨n2, i2, r1 ++ r2, ?_, ?_, ?_⟩
      · simp only [visit] at e2
        simp only [renderSL, visit, visitList_cons, e1, e2, List.append_assoc, kidsSL, deferSL, List.length_append]
        have : kids.length + (kidsS p.va p.vk s).length + 1 = kids.length + 1 + (kidsS p.va p.vk s).length := by omega
        rw [this]
      · simpa [truthSL] using h2
      · rw [forwarding_append, f1, f2]
        simp [truthSL]
end

/-- namespace `c` is a nested function's own namespace in which none of the names `X` is bound -/
def PlainChild (kids : List NS) (c : Nat) (X : List Nat) : Prop :=
  ∃ c' child, c = c' + 1 ∧ kids[c']? = some child ∧ child.parent = some 0 ∧ child.nonlocals = [] ∧
    ∀ x ∈ X, dget child.names x = none

theorem PlainChild.mono {kids : List NS} {c : Nat} {X Y : List Nat} (h : PlainChild kids c X) (hs : ∀ y ∈ Y, y ∈ X) :
    PlainChild kids c Y := by
  obtain ⟨c', child, e, hk, hp, hn, hx⟩ := h
  exact ⟨c', child, e, hk, hp, hn, fun y hy => hx y (hs y hy)⟩

theorem PlainChild.mainName {kids : List NS} {c : Nat} {X : List Nat} (hpc : PlainChild kids c X) {x : Nat}
    (hx : x ∈ X) : MainName kids c x := by
  intro rev n i cs
  obtain ⟨c', child, rfl, hk, hp, hn, hX⟩ := hpc
  have hns : (mkAt (c' + 1) kids rev n i cs).ns (c' + 1) = child := by
    simp [mkAt, VState.ns, List.getD, hk]
  have hns0 : (mkAt (c' + 1) kids rev n i cs).ns 0 = { parent := none, names := n, nonlocals := [], imm := i } := by
    simp [mkAt, VState.ns]
  have hl : (mkAt (c' + 1) kids rev n i cs).nss.length + 1 = (kids.length + 1) + 1 := by simp [mkAt]
  have hc : (mkAt (c' + 1) kids rev n i cs).cur = c' + 1 := rfl
  unfold VState.lookup
  rw [hl, hc]
  simp only [nsLookup, hns, hn, dget, Option.getD_none, hX x hx, hp]
  have hk1 : kids.length = (kids.length - 1) + 1 := by
    have : c' < kids.length := by
      rcases List.getElem?_eq_some_iff.1 hk with ⟨h, _⟩; exact h
    omega
  rw [hk1]
  simp only [hns0, dget, Option.getD_none]
  cases dget n x <;> rfl

def DItem.callee : DItem → Tree
  | .fwd callee _ _ _ _ => callee
  | .decoy h _ => .name h .load
def DItem.npos : DItem → Nat
  | .fwd _ npos _ _ _ => npos
  | .decoy _ k => k
def DItem.kws : DItem → List Nat
  | .fwd _ _ kws _ _ => kws
  | .decoy _ _ => []
def DItem.uva : DItem → Bool
  | .fwd _ _ _ uva _ => uva
  | .decoy _ _ => false
def DItem.uvk : DItem → Bool
  | .fwd _ _ _ _ uvk => uvk
  | .decoy _ _ => false

theorem DItem.tree_eq (va vk : Nat) (d : DItem) :
    d.tree va vk = callTree va vk d.callee d.npos d.kws d.uva d.uvk := by
  cases d <;> rfl

theorem DItem.truth_eq (t : Bool × Bool) (d : DItem) :
    d.truth t = mkFwd d.callee d.npos d.kws d.uva d.uvk t.1 t.2 := by
  cases d with
  | fwd => rfl
  | decoy h k => simp [DItem.truth, mkFwd, DItem.uva, DItem.uvk]

def ItemOk (roots : List Nat) (d : DItem) : Prop :=
  isCalleeTree d.callee = true ∧ ∀ r, calleeRoot d.callee = some r → r ∈ roots

mutual
  def itemsS (start : Nat) : Stmt → List (DItem × Nat)
    | .nested body => (deferNL body).map (fun d => (d, start))
    | .block body => itemsSL start body
    | _ => []
  def itemsSL (start : Nat) : StmtList → List (DItem × Nat)
    | .nil => []
    | .cons s rest => itemsS start s ++ itemsSL (start + (kidsS 0 0 s).length) rest
end

mutual
  theorem kidsS_length (va vk : Nat) : (s : Stmt) → (kidsS va vk s).length = (kidsS 0 0 s).length
    | .block body => by simp only [kidsS]; exact kidsSL_length va vk body
    | .nonlocalRebind .A => rfl
    | .nonlocalRebind .K => rfl
    | .nested _ | .fwd _ _ _ _ _ _ | .rebind _ | .mutate _ _ | .delete _ | .handOver _ _ | .decoy _ _
    | .unrelated _ => rfl
  theorem kidsSL_length (va vk : Nat) : (l : StmtList) → (kidsSL va vk l).length = (kidsSL 0 0 l).length
    | .nil => rfl
    | .cons s rest => by simp only [kidsSL, List.length_append, kidsS_length va vk s, kidsSL_length va vk rest]
end

def treeOf (va vk : Nat) (x : DItem × Nat) : Tree × Nat := (x.1.tree va vk, x.2)

mutual
  theorem deferS_eq (va vk : Nat) (start : Nat) : (s : Stmt) → deferS va vk start s = (itemsS start s).map (treeOf va vk)
    | .nested body => by simp [deferS, itemsS, deferred, treeOf, Function.comp_def]
    | .block body => by simp only [deferS, itemsS]; exact deferSL_eq va vk start body
    | .nonlocalRebind _ | .fwd _ _ _ _ _ _ | .rebind _ | .mutate _ _ | .delete _ | .handOver _ _ | .decoy _ _
    | .unrelated _ => rfl
  theorem deferSL_eq (va vk : Nat) (start : Nat) : (l : StmtList) → deferSL va vk start l = (itemsSL start l).map (treeOf va vk)
    | .nil => rfl
    | .cons s rest => by
      simp only [deferSL, itemsSL, List.map_append, deferS_eq va vk start s, kidsS_length va vk s]
      rw [deferSL_eq va vk _ rest]
end

mutual
  theorem nestedS_items (t : Bool × Bool) (start : Nat) : (s : Stmt) →
      nestedS s t = (itemsS start s).flatMap (fun x => x.1.truth t)
    | .nested body => by
      simp only [nestedS, itemsS, nestedNL_eq, List.flatMap_map]
    | .block body => by simp only [nestedS, itemsS]; exact nestedSL_items t start body
    | .nonlocalRebind _ | .fwd _ _ _ _ _ _ | .rebind _ | .mutate _ _ | .delete _ | .handOver _ _ | .decoy _ _
    | .unrelated _ => rfl
  theorem nestedSL_items (t : Bool × Bool) (start : Nat) : (l : StmtList) →
      nestedSL l t = (itemsSL start l).flatMap (fun x => x.1.truth t)
    | .nil => by simp [nestedSL, itemsSL]
    | .cons s rest => by
      simp only [nestedSL, itemsSL, List.flatMap_append]
      rw [nestedS_items t start s, nestedSL_items t _ rest]
end

theorem revisit_item (p : Prog) (roots A : List Nat) (c : Clean p roots A) (K : List NS) (id : Nat)
    (hpc : PlainChild K id (roots ++ [p.va, p.vk])) (d : DItem) (hd : ItemOk roots d)
    (R : List (Tree × Nat)) (tA tK : Bool) (n : List (Nat × Entry)) (i : List Nat) (cs : List CallRec)
    (h : FInv p roots tA tK n i) :
    ∃ n' r, visit true (d.tree p.va p.vk) (mkAt id K R n i cs) = mkAt id K R n' i (cs ++ [r]) ∧
      FInv p roots tA tK n' i ∧ forwarding [r] = (d.truth (tA, tK)).map (FwdCall.toRec p) := by
  rw [DItem.tree_eq, DItem.truth_eq]
  exact sim_call p roots A c (fun x hx => hpc.mainName hx) true d.callee d.npos d.kws d.uva d.uvk hd.1 hd.2
    tA tK n i cs h rfl

theorem revisit_items (p : Prog) (roots A : List Nat) (c : Clean p roots A) (K : List NS) (tA tK : Bool) (i : List Nat) :
    ∀ (items : List (DItem × Nat)) (pre : List (Tree × Nat)) (cur : Nat) (n : List (Nat × Entry)) (cs : List CallRec)
      (fuel : Nat),
    FInv p roots tA tK n i →
    (∀ x ∈ items, ItemOk roots x.1 ∧ PlainChild K x.2 (roots ++ [p.va, p.vk])) → items.length ≤ fuel →
    ∃ n' cur' recs,
      revisitLoop fuel pre.length (mkAt cur K (pre ++ items.map (treeOf p.va p.vk)) n i cs) =
        some (mkAt cur' K (pre ++ items.map (treeOf p.va p.vk)) n' i (cs ++ recs)) ∧
      FInv p roots tA tK n' i ∧
      forwarding recs = (items.flatMap (fun x => x.1.truth (tA, tK))).map (FwdCall.toRec p)
  | [], pre, cur, n, cs, fuel, h, _, _ => by
    exact ⟨n, cur, [], by rw [revisitLoop_done (by simp [mkAt]), List.append_nil], h, by simp [forwarding]⟩
  | (d, id) :: rest, pre, cur, n, cs, fuel, h, hall, hf => by
    cases fuel with
    | zero => simp at hf
    | succ f =>
      have hget : (mkAt cur K (pre ++ ((d, id) :: rest).map (treeOf p.va p.vk)) n i cs).revisit[pre.length]? =
          some (d.tree p.va p.vk, id) := by
        simp [mkAt, treeOf]
      obtain ⟨hok, hpc⟩ := hall (d, id) (by simp)
      obtain ⟨n1, r1, e1, h1, f1⟩ := revisit_item p roots A c K id hpc d hok
        (pre ++ ((d, id) :: rest).map (treeOf p.va p.vk)) tA tK n i cs h
      have hR : pre ++ ((d, id) :: rest).map (treeOf p.va p.vk) =
          (pre ++ [(d.tree p.va p.vk, id)]) ++ rest.map (treeOf p.va p.vk) := by
        simp [treeOf]
      obtain ⟨n2, cur2, r2, e2, h2, f2⟩ := revisit_items p roots A c K tA tK i rest (pre ++ [(d.tree p.va p.vk, id)]) id n1
        (cs ++ [r1]) f h1 (fun x hx => hall x (by simp [hx])) (by simpa using hf)
      refine ⟨n2, cur2, r1 :: r2, ?_, h2, ?_⟩
      · rw [revisitLoop_step hget, mkAt_cur, e1, hR]
        have hl : pre.length + 1 = (pre ++ [(d.tree p.va p.vk, id)]).length := by simp
        rw [hl, e2]
        simp
      · have : r1 :: r2 = [r1] ++ r2 := rfl
        rw [this, forwarding_append, f1, f2]
        simp

mutual
  theorem deferN_ok (roots : List Nat) (reserved : List Nat) : (s : NStmt) → okN reserved s = true →
      (∀ r ∈ rootsN s, r ∈ roots) → ∀ d ∈ deferN s, ItemOk roots d
    | .fwd callee npos kws uva uvk target, hok, hr, d, hd => by
      simp only [deferN, List.mem_singleton] at hd
      subst hd
      simp only [okN, Bool.and_eq_true] at hok
      exact ⟨hok.1.1, fun r h => hr r (Option.mem_toList.2 h)⟩
    | .decoy h k, _, hr, d, hd => by
      simp only [deferN, List.mem_singleton] at hd
      subst hd
      exact ⟨rfl, fun r h' => hr r (List.mem_singleton.2 (Option.some.inj h').symm)⟩
    | .unrelated _, _, _, d, hd => by simp [deferN] at hd
    | .block body, hok, hr, d, hd => by
      simp only [deferN] at hd
      exact deferNL_ok roots reserved body (by simpa [okN] using hok) hr d hd
  theorem deferNL_ok (roots : List Nat) (reserved : List Nat) : (l : NStmtList) → okNL reserved l = true →
      (∀ r ∈ rootsNL l, r ∈ roots) → ∀ d ∈ deferNL l, ItemOk roots d
    | .nil, _, _, d, hd => by simp [deferNL] at hd
    | .cons s rest, hok, hr, d, hd => by
      simp only [okNL, Bool.and_eq_true] at hok
      simp only [rootsNL, List.forall_mem_append] at hr
      simp only [deferNL, List.mem_append] at hd
      rcases hd with hd | hd
      · exact deferN_ok roots reserved s hok.1 hr.1 d hd
      · exact deferNL_ok roots reserved rest hok.2 hr.2 d hd
end

/-- an item is "well placed" relative to the children created by the same statement(s) -/
def Placed (roots : List Nat) (va vk : Nat) (start : Nat) (ks : List NS) (x : DItem × Nat) : Prop :=
  ItemOk roots x.1 ∧ ∃ off child, x.2 = start + off ∧ ks[off]? = some child ∧ child.parent = some 0 ∧
    child.nonlocals = [] ∧ ∀ y ∈ roots ++ [va, vk], dget child.names y = none

mutual
  theorem itemsS_placed (p : Prog) (roots A : List Nat) (c : Clean p roots A) : (s : Stmt) →
      okS [p.va, p.vk] s = true → (∀ x ∈ assignedAllS s, x ∈ A) → (∀ r ∈ rootsAllS s, r ∈ roots) →
      ∀ start, ∀ x ∈ itemsS start s, Placed roots p.va p.vk start (kidsS p.va p.vk s) x
    | .nested body, hok, hA, hR, start, x, hx => by
      simp only [itemsS, List.mem_map] at hx
      obtain ⟨d, hd, rfl⟩ := hx
      refine ⟨deferNL_ok roots _ body (by simpa [okS] using hok) hR d hd,
        0, childAfter (assignedNL body) { parent := some 0 }, rfl, by simp [kidsS], by rw [childAfter_parent],
        by rw [childAfter_nonlocals], ?_⟩
      intro y hy
      have hyA : y ∉ assignedNL body := by
        intro hmem
        obtain ⟨a1, a2, _, a4⟩ := c.asg y (hA y hmem)
        simp only [List.mem_append, List.mem_cons, List.not_mem_nil, or_false] at hy
        rcases hy with hy | hy | hy
        · exact a4 hy
        · exact a1 hy
        · exact a2 hy
      rw [dget_childAfter _ _ _ hyA]
      rfl
    | .block body, hok, hA, hR, start, x, hx => by
      simp only [itemsS] at hx
      exact itemsSL_placed p roots A c body (by simpa [okS] using hok) hA hR start x hx
    | .nonlocalRebind _, _, _, _, _, x, hx | .fwd _ _ _ _ _ _, _, _, _, _, x, hx | .rebind _, _, _, _, _, x, hx
    | .mutate _ _, _, _, _, _, x, hx | .delete _, _, _, _, _, x, hx | .handOver _ _, _, _, _, _, x, hx
    | .decoy _ _, _, _, _, _, x, hx | .unrelated _, _, _, _, _, x, hx => by simp [itemsS] at hx
  theorem itemsSL_placed (p : Prog) (roots A : List Nat) (c : Clean p roots A) : (l : StmtList) →
      okSL [p.va, p.vk] l = true → (∀ x ∈ assignedAllSL l, x ∈ A) → (∀ r ∈ rootsAllSL l, r ∈ roots) →
      ∀ start, ∀ x ∈ itemsSL start l, Placed roots p.va p.vk start (kidsSL p.va p.vk l) x
    | .nil, _, _, _, _, x, hx => by simp [itemsSL] at hx
    | .cons s rest, hok, hA, hR, start, x, hx => by
      simp only [okSL, Bool.and_eq_true] at hok
      simp only [assignedAllSL, List.forall_mem_append] at hA
      simp only [rootsAllSL, List.forall_mem_append] at hR
      simp only [itemsSL, List.mem_append] at hx
      rcases hx with hx | hx
      · obtain ⟨ok, off, child, e, hk, h1, h2, h3⟩ := itemsS_placed p roots A c s hok.1 hA.1 hR.1 start x hx
        refine ⟨ok, off, child, e, ?_, h1, h2, h3⟩
        simp only [kidsSL]
        have hlt : off < (kidsS p.va p.vk s).length := (List.getElem?_eq_some_iff.1 hk).1
        rw [List.getElem?_append_left hlt]
        exact hk
      · obtain ⟨ok, off, child, e, hk, h1, h2, h3⟩ := itemsSL_placed p roots A c rest hok.2 hA.2 hR.2 _ x hx
        refine ⟨ok, (kidsS p.va p.vk s).length + off, child, ?_, ?_, h1, h2, h3⟩
        · rw [e, kidsS_length p.va p.vk s]; omega
        · simp only [kidsSL]
          rw [List.getElem?_append_right (by omega)]
          simpa using hk
end

theorem callTree_size_pos (va vk : Nat) (callee : Tree) (npos : Nat) (kws : List Nat) (uva uvk : Bool) :
    1 ≤ (callTree va vk callee npos kws uva uvk).size := by
  simp [callTree, Tree.size]

theorem stmtOf_size (target : Option Nat) (e : Tree) : e.size ≤ (stmtOf target e).size := by
  cases target <;> simp [stmtOf, Tree.size, TreeList.size] <;> omega

mutual
  theorem deferN_size (va vk : Nat) : (s : NStmt) → (deferN s).length ≤ (renderN va vk s).size
    | .fwd callee npos kws uva uvk target => by
      simp only [deferN, List.length_singleton, renderN]
      exact Nat.le_trans (callTree_size_pos _ _ _ _ _ _ _) (stmtOf_size _ _)
    | .decoy h k => by
      simp only [deferN, List.length_singleton, renderN]
      refine Nat.le_trans ?_ (stmtOf_size _ _)
      simp [Tree.size]
    | .unrelated _ => by simp [deferN]
    | .block body => by
      simp only [deferN, renderN, Tree.size, TreeList.size]
      have := deferNL_size va vk body
      omega
  theorem deferNL_size (va vk : Nat) : (l : NStmtList) → (deferNL l).length ≤ (renderNL va vk l).size
    | .nil => by simp [deferNL]
    | .cons s rest => by
      simp only [deferNL, List.length_append, renderNL, TreeList.size]
      have := deferN_size va vk s
      have := deferNL_size va vk rest
      omega
end

mutual
  theorem itemsS_size (va vk : Nat) (start : Nat) : (s : Stmt) → (itemsS start s).length ≤ (renderS va vk s).size
    | .nested body => by
      simp only [itemsS, List.length_map, renderS, Tree.size]
      have := deferNL_size va vk body
      omega
    | .block body => by
      simp only [itemsS, renderS, Tree.size, TreeList.size]
      have := itemsSL_size va vk start body
      omega
    | .nonlocalRebind _ | .fwd _ _ _ _ _ _ | .rebind _ | .mutate _ _ | .delete _ | .handOver _ _ | .decoy _ _
    | .unrelated _ => by simp [itemsS]
  theorem itemsSL_size (va vk : Nat) (start : Nat) : (l : StmtList) → (itemsSL start l).length ≤ (renderSL va vk l).size
    | .nil => by simp [itemsSL]
    | .cons s rest => by
      simp only [itemsSL, List.length_append, renderSL, TreeList.size]
      have := itemsS_size va vk start s
      have := itemsSL_size va vk (start + (kidsS 0 0 s).length) rest
      omega
end

end Flat
end SV
