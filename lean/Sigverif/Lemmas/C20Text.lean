/-
  Lemmas/C20Text.lean — the string layer of `support` (Model/ReadSig.lean): the model of the `def` grammar.  `parseDef` reads back the
  text of every well-formed signature: the positional-only prefix with its `/` first, then one parameter at a time.
-/
import Sigverif.Model.ReadSig
import Sigverif.Lemmas.C20
import Sigverif.Lemmas.Core.Sort
namespace SV

/-- the item a piece becomes in the native spelling (no option set) -/
def Piece.toItem : Piece → Item
  | .slash => .slash
  | .bare => .bare
  | .chev n a d => .par 0 n a d
  | .star two n a d => .par (if two then 2 else 1) n a d
  | .plain n a d => .par 0 n a d

def pieceOf (p : Param) : Piece :=
  match p.kind with
  | .vp => .star false p.name p.ann p.dflt
  | .vk => .star true p.name p.ann p.dflt
  | _ => .plain p.name p.ann p.dflt

/-- what a `def` can say about a parameter: everything but the upgraded annotation -/
def Param.bare (p : Param) : Param := { p with uann := .empty }

theorem piecesAux_cons (prev : Option Kind) (p : Param) (ps : List Param) :
    piecesAux prev (p :: ps) =
      (if prev = some .po && p.kind ≠ .po then [Piece.slash] else []) ++
      (if p.kind = .ko && prev ≠ some .vp && prev ≠ some .ko then [Piece.bare] else []) ++
      pieceOf p :: piecesAux (some p.kind) ps := by
  simp only [piecesAux, pieceOf]
  cases p.kind <;> rfl

theorem defLoop_append (st : DefSt) (a b : List Item) :
    defLoop st (a ++ b) = (defLoop st a >>= fun st' => defLoop st' b) := by
  induction a generalizing st with
  | nil => simp [defLoop]; rfl
  | cons x xs ih =>
    simp only [List.cons_append, defLoop]
    cases h : defStep st x with
    | error e => rfl
    | ok st' => simp only [bind, Except.bind] at ih ⊢; exact ih st'

/-- the state of `defLoop` after a parameter of kind `prev` (at the start: `none`, also after the `/`) -/
def Fits (prev : Option Kind) (st : DefSt) : Prop :=
  st.needKw = false ∧
  match prev with
  | none | some .pk => st.phase ≤ 1
  | some .vp | some .ko => st.phase = 2
  | some .vk => st.phase = 3
  | some .po => False

/-- `p` may stand right after a parameter of kind `prev`: the kinds do not go down and `*args`, `**kwargs` are not
    repeated -/
def After (prev : Option Kind) (p : Param) : Prop :=
  p.kind ≠ .po ∧ ∀ k, prev = some k → k.rank ≤ p.kind.rank ∧ ((k = .vp ∨ k = .vk) → k ≠ p.kind)

/-- `VR` together with "at most one `*args`, at most one `**kwargs`" -/
def Before (p q : Param) : Prop := VR p q ∧ ((p.kind = .vp ∨ p.kind = .vk) → p.kind ≠ q.kind)

theorem Before.after {p q : Param} (h : Before p q) (hp : p.kind ≠ .po) : After (some p.kind) q := by
  refine ⟨fun hq => ?_, fun k hk => ?_⟩
  · have := h.1.1
    rw [hq] at this
    exact hp (Kind.rank_inj.1 (Nat.le_zero.1 this))
  · cases hk
    exact ⟨h.1.1, h.2⟩

theorem pairwise_before (s : List Param) (hpw : s.Pairwise VR)
    (hvp : (s.filter (fun p => p.kind = .vp)).length ≤ 1) (hvk : (s.filter (fun p => p.kind = .vk)).length ≤ 1) :
    s.Pairwise Before := by
  induction s with
  | nil => exact List.Pairwise.nil
  | cons p ps ih =>
    rw [List.pairwise_cons] at hpw ⊢
    have hle : ∀ k, ((p :: ps).filter (fun p => p.kind = k)).length ≤ 1 → (ps.filter (fun p => p.kind = k)).length ≤ 1 :=
      fun k h => Nat.le_trans (List.Sublist.length_le ((List.sublist_cons_self p ps).filter _)) h
    refine ⟨fun q hq => ⟨hpw.1 q hq, ?_⟩, ih hpw.2 (hle _ hvp) (hle _ hvk)⟩
    -- a second parameter of the kind of `p` would make two in the filtered list
    have two : ∀ k, p.kind = k → q.kind = k → ((p :: ps).filter (fun p => p.kind = k)).length ≤ 1 → False := by
      intro k hpk hqk h
      rw [List.filter_cons_of_pos (by simpa using hpk)] at h
      have : q ∈ ps.filter (fun p => p.kind = k) := by simp [List.mem_filter, hq, hqk]
      have := List.length_pos_of_mem this
      simp only [List.length_cons] at h
      omega
    rintro (hk | hk) hpq
    · exact two _ hk (hpq ▸ hk) hvp
    · exact two _ hk (hpq ▸ hk) hvk

theorem Fits.phase {prev : Option Kind} {st : DefSt} {p : Param} (hf : Fits prev st) (ha : After prev p) :
    (p.kind.rank ≤ 2 → st.phase ≤ 1) ∧ st.phase ≠ 3 ∧
    (if prev = some .vp ∨ prev = some .ko then st.phase = 2 else st.phase ≤ 1) := by
  obtain ⟨_, hph⟩ := hf
  rcases prev with _ | k
  · exact ⟨fun _ => hph, by simp only at hph; omega, hph⟩
  · have hr := ha.2 k rfl
    cases k
    · exact hph.elim
    · exact ⟨fun _ => hph, by simp only at hph; omega, hph⟩
    · -- behind `*args` the rank goes up
      refine ⟨fun h => ?_, by simp only at hph; omega, by simpa using hph⟩
      exact absurd (Kind.rank_inj.1 (Nat.le_antisymm hr.1 h)) (hr.2 (Or.inl rfl))
    · have e : Kind.ko.rank = 3 := rfl
      exact ⟨fun h => by have := hr.1; omega, by simp only at hph; omega, by simpa using hph⟩
    · -- nothing can stand behind `**kwargs`
      exact absurd (Kind.rank_inj.1 (Nat.le_antisymm hr.1 (Kind.rank_le_four _))) (hr.2 (Or.inr rfl))

theorem defLoop_cons_ok {st st1 : DefSt} {it : Item} (its : List Item) (h : defStep st it = .ok st1) :
    defLoop st (it :: its) = defLoop st1 its := by
  simp only [defLoop, h, bind, Except.bind]

theorem defLoop_one {st st1 : DefSt} {it : Item} (h : defStep st it = .ok st1) : defLoop st [it] = .ok st1 :=
  defLoop_cons_ok [] h

theorem defStep_plain_low {st : DefSt} (n : Nat) (a d : Option Nat) (hph : st.phase ≤ 1)
    (hd : st.seenDflt = true → d.isSome = true) :
    defStep st (.par 0 n a d) =
      .ok { st with out := st.out ++ [⟨n, .pk, d, a, .empty⟩], seenDflt := st.seenDflt || d.isSome } := by
  have : (d.isNone && st.seenDflt) = false := by
    cases hs : st.seenDflt
    · exact Bool.and_false _
    · cases d
      · cases hd hs
      · rfl
  simp only [defStep, hph, this, if_true, Bool.false_eq_true, if_false]

theorem defStep_plain_two {st : DefSt} (n : Nat) (a d : Option Nat) (hph : st.phase = 2) :
    defStep st (.par 0 n a d) = .ok { st with out := st.out ++ [⟨n, .ko, d, a, .empty⟩], needKw := false } := by
  simp [defStep, hph]

theorem defStep_bare {st : DefSt} (hph : st.phase ≤ 1) :
    defStep st .bare = .ok { st with phase := 2, needKw := true } := by
  simp only [defStep, hph, if_true]

theorem defStep_star {st : DefSt} (n : Nat) (a : Option Nat) (hph : st.phase ≤ 1) :
    defStep st (.par 1 n a none) = .ok { st with out := st.out ++ [⟨n, .vp, none, a, .empty⟩], phase := 2 } := by
  simp [defStep, Nat.not_lt.2 hph]

theorem defStep_star2 {st : DefSt} (n : Nat) (a : Option Nat) (hph : st.phase ≠ 3) (hnk : st.needKw = false) :
    defStep st (.par 2 n a none) = .ok { st with out := st.out ++ [⟨n, .vk, none, a, .empty⟩], phase := 3 } := by
  simp [defStep, hph, hnk]

theorem defLoop_param (prev : Option Kind) (st : DefSt) (p : Param) (hf : Fits prev st) (ha : After prev p)
    (hstar : (p.kind = .vp ∨ p.kind = .vk) → p.dflt = none)
    (hsd : st.seenDflt = true → isPositional p = true → p.dflt.isSome = true) :
    ∃ st1, defLoop st (((if p.kind = .ko && prev ≠ some .vp && prev ≠ some .ko then [Piece.bare] else []) ++
        [pieceOf p]).map Piece.toItem) = .ok st1 ∧ Fits (some p.kind) st1 ∧ st1.out = st.out ++ [p.bare] ∧
      (st1.seenDflt = true → st.seenDflt = true ∨ isPositional p = true ∧ p.dflt.isSome = true) := by
  obtain ⟨hlow, hne3, hko⟩ := hf.phase ha
  have hnk := hf.1
  have hpo := ha.1
  clear hf ha
  obtain ⟨n, k, d, a, u⟩ := p
  simp only at hpo hstar hsd hlow
  cases k with
  | po => exact absurd rfl hpo
  | pk =>
    have h1 : st.phase ≤ 1 := hlow (by decide)
    refine ⟨_, defLoop_one (defStep_plain_low n a d h1 (fun h => hsd h rfl)), ⟨hnk, h1⟩, rfl, fun h => ?_⟩
    simpa [isPositional] using h
  | vp =>
    cases hstar (Or.inl rfl)
    exact ⟨_, defLoop_one (defStep_star n a (hlow (by decide))), ⟨hnk, rfl⟩, rfl, Or.inl⟩
  | ko =>
    by_cases hb : prev = some .vp ∨ prev = some .ko
    · rw [if_pos hb] at hko
      rw [if_neg (by rcases hb with rfl | rfl <;> simp)]
      exact ⟨_, defLoop_one (defStep_plain_two n a d hko), ⟨rfl, hko⟩, rfl, Or.inl⟩
    · rw [if_neg hb] at hko
      rw [if_pos (by simpa [not_or] using hb)]
      exact ⟨_, (defLoop_cons_ok _ (defStep_bare hko)).trans (defLoop_one (defStep_plain_two n a d rfl)),
        ⟨rfl, rfl⟩, rfl, Or.inl⟩
  | vk =>
    cases hstar (Or.inr rfl)
    exact ⟨_, defLoop_one (defStep_star2 n a hne3 hnk), ⟨hnk, rfl⟩, rfl, Or.inl⟩

theorem defLoop_rest (rest : List Param) : ∀ (prev : Option Kind) (st : DefSt),
    rest.Pairwise Before → (∀ p ∈ rest, (p.kind = .vp ∨ p.kind = .vk) → p.dflt = none) →
    Fits prev st → (∀ q ∈ rest, After prev q) →
    (st.seenDflt = true → ∀ q ∈ rest, isPositional q = true → q.dflt.isSome = true) →
    ∃ st', defLoop st ((piecesAux prev rest).map Piece.toItem) = .ok st' ∧
      st'.out = st.out ++ rest.map Param.bare ∧ st'.needKw = false := by
  induction rest with
  | nil =>
    intro prev st _ _ hf _ _
    have : prev ≠ some .po := by rintro rfl; exact hf.2
    exact ⟨st, by simp [piecesAux, this, defLoop], by simp, hf.1⟩
  | cons p ps ih =>
    intro prev st hpw hstar hf ha hsd
    rw [List.pairwise_cons] at hpw
    have hnpo : prev ≠ some .po := by rintro rfl; exact hf.2
    obtain ⟨st1, e1, hf1, ho1, hs1⟩ := defLoop_param prev st p hf (ha p (by simp)) (hstar p (by simp))
      (fun h => hsd h p (by simp))
    obtain ⟨st', e2, ho2, hn2⟩ := ih (some p.kind) st1 hpw.2 (fun q hq => hstar q (List.mem_cons_of_mem _ hq)) hf1
      (fun q hq => (hpw.1 q hq).after (ha p (by simp)).1)
      (fun h q hq hqp => by
        rcases hs1 h with h | ⟨h1, h2⟩
        · exact hsd h q (List.mem_cons_of_mem _ hq) hqp
        · exact (hpw.1 q hq).1.2.1 h1 h2 hqp)
    refine ⟨st', ?_, by rw [ho2, ho1]; simp, hn2⟩
    rw [piecesAux_cons]
    have : (if (prev = some Kind.po && p.kind ≠ Kind.po) = true then [Piece.slash] else []) = [] := by simp [hnpo]
    rw [this, List.nil_append, List.append_cons, List.map_append, defLoop_append, e1]
    exact e2

theorem defLoop_po (L : List Param) : ∀ (st : DefSt), st.phase = 0 →
    (st.seenDflt = true → ∀ p ∈ L, p.dflt.isSome = true) → L.Pairwise VR → (∀ p ∈ L, p.kind = .po) →
    defLoop st (L.map (fun p => (pieceOf p).toItem)) =
      .ok { st with out := st.out ++ L.map (fun p => p.bare.withKind .pk),
                    seenDflt := st.seenDflt || L.any (·.dflt.isSome) } := by
  induction L with
  | nil => intro st _ _ _ _; simp [defLoop]
  | cons p L ih =>
    intro st hph hs hpw hk
    rw [List.pairwise_cons] at hpw
    have hkp := hk p (by simp)
    have e0 : (pieceOf p).toItem = Item.par 0 p.name p.ann p.dflt := by simp [pieceOf, hkp, Piece.toItem]
    rw [List.map_cons, e0,
      defLoop_cons_ok _ (defStep_plain_low _ _ _ (hph ▸ Nat.zero_le 1) (fun h => hs h p (by simp))),
      ih _ ?_ ?_ hpw.2 (fun q hq => hk q (List.mem_cons_of_mem _ hq))]
    · have e : (⟨p.name, .pk, p.dflt, p.ann, .empty⟩ : Param) = p.bare.withKind .pk := rfl
      simp [e, Bool.or_assoc]
    · exact hph
    · intro h q hq
      simp only [Bool.or_eq_true] at h
      rcases h with h | h
      · exact hs h q (List.mem_cons_of_mem _ hq)
      · exact (hpw.1 q hq).2.1 (by simp [isPositional, hkp]) h (by simp [isPositional, hk q (List.mem_cons_of_mem _ hq)])

theorem piecesAux_run (k : Kind) (L rest : List Param) (hk : ∀ p ∈ L, p.kind = k) :
    ∀ prev, (prev = some .po → k = .po) → (k = .ko → prev = some .vp ∨ prev = some .ko) →
    piecesAux prev (L ++ rest) = L.map pieceOf ++ piecesAux (if L = [] then prev else some k) rest := by
  induction L with
  | nil => intro prev _ _; simp
  | cons p L ih =>
    intro prev h1 h2
    have hkp := hk p (by simp)
    rw [List.cons_append, piecesAux_cons, hkp, ih (fun q hq => hk q (List.mem_cons_of_mem _ hq)) _
      (fun h => (Option.some.inj h)) (fun h => Or.inr (congrArg some h))]
    have e1 : (prev = some Kind.po && k ≠ Kind.po) = false := by
      cases hp : decide (prev = some Kind.po)
      · simp only [Bool.false_and]
      · simp [h1 (of_decide_eq_true hp)]
    have e2 : (decide (k = Kind.ko) && prev ≠ some Kind.vp && prev ≠ some Kind.ko) = false := by
      cases hko : decide (k = Kind.ko)
      · simp only [Bool.false_and]
      · rcases h2 (of_decide_eq_true hko) with h | h <;> simp [h]
    simp only [e1, e2, Bool.false_eq_true, if_false, List.nil_append, List.map_cons, List.cons_append,
      if_neg (List.cons_ne_nil _ _), ite_self]

theorem piecesAux_after_po (rest : List Param) (h : ∀ q ∈ rest, q.kind ≠ .po) :
    piecesAux (some .po) rest = Piece.slash :: piecesAux none rest := by
  cases rest with
  | nil => simp [piecesAux]
  | cons q qs =>
    have := h q (by simp)
    rw [piecesAux_cons, piecesAux_cons]
    simp [this]

theorem nodupNat_of_pairwise (l : List Nat) (h : l.Pairwise (· ≠ ·)) : nodupNat l = true := by
  induction l with
  | nil => rfl
  | cons x xs ih =>
    rw [List.pairwise_cons] at h
    simp only [nodupNat, Bool.and_eq_true, Bool.not_eq_true', ih h.2, and_true]
    cases hc : xs.contains x
    · rfl
    · exfalso
      have : x ∈ xs := by simpa using hc
      exact h.1 x this rfl

theorem pieces_po_prefix (L rest : List Param) (hL : ∀ p ∈ L, p.kind = .po) (hrest : ∀ q ∈ rest, q.kind ≠ .po) :
    pieces (L ++ rest) = (L.map pieceOf ++ (if L = [] then [] else [Piece.slash])) ++ piecesAux none rest := by
  unfold pieces
  rw [piecesAux_run .po L rest hL none (fun _ => rfl) (fun h => by cases h)]
  by_cases hLe : L = []
  · simp [hLe]
  · rw [if_neg hLe, if_neg hLe, piecesAux_after_po rest hrest, List.append_assoc]
    rfl

theorem defLoop_po_slash (L : List Param) (hpw : L.Pairwise VR) (hL : ∀ p ∈ L, p.kind = .po) :
    ∃ st1, defLoop {} ((L.map pieceOf ++ (if L = [] then [] else [Piece.slash])).map Piece.toItem) = .ok st1 ∧
      st1.out = L.map Param.bare ∧ Fits none st1 ∧ (st1.seenDflt = true → ∃ p ∈ L, p.dflt.isSome = true) := by
  by_cases hLe : L = []
  · subst hLe
    exact ⟨{}, rfl, rfl, ⟨rfl, Nat.zero_le 1⟩, fun h => by cases h⟩
  · have hne : (L.map (fun p => p.bare.withKind .pk)).isEmpty = false := by
      cases L with
      | nil => exact absurd rfl hLe
      | cons _ _ => rfl
    -- the `/` turns the parameters read so far, which `defLoop` took for positional-or-keyword, into positional-only ones
    have hmap : (L.map (fun p => p.bare.withKind .pk)).map (·.withKind .po) = L.map Param.bare := by
      rw [List.map_map]
      apply List.map_congr_left
      intro p hp
      have := hL p hp
      cases p; simp_all [Param.bare, Param.withKind]
    refine ⟨{ out := L.map Param.bare, phase := 1, seenDflt := false || L.any (·.dflt.isSome) }, ?_, rfl,
      ⟨rfl, Nat.le_refl 1⟩, fun h => by simpa using h⟩
    rw [if_neg hLe, List.map_append, defLoop_append, List.map_map]
    have h0 := defLoop_po L {} rfl (by intro h; cases h) hpw hL
    simp only [Function.comp_def] at h0 ⊢
    rw [h0]
    simp only [bind, Except.bind, List.map_cons, List.map_nil, Piece.toItem, defLoop, defStep, List.nil_append, ne_eq,
      not_true_eq_false, decide_false, hne, Bool.or_self, Bool.false_eq_true, if_false, hmap]

theorem exists_po_prefix (s : List Param) (hpw : s.Pairwise VR) :
    ∃ L rest, s = L ++ rest ∧ (∀ p ∈ L, p.kind = .po) ∧ (∀ q ∈ rest, q.kind ≠ .po) := by
  have h := rankSorted_split s (hpw.imp (fun h => h.1))
  refine ⟨_, _, by simpa only [List.append_assoc] using h, fun p hp => by simpa using (List.mem_filter.1 hp).2, fun q hq => ?_⟩
  simp only [List.mem_append, List.mem_filter, decide_eq_true_eq] at hq
  rcases hq with ⟨_, h⟩ | ⟨_, h⟩ | ⟨_, h⟩ | ⟨_, h⟩ <;> rw [h] <;> decide

theorem parseDef_eq {its : List Item} {st : DefSt} (h : defLoop {} its = .ok st) (hk : st.needKw = false)
    (hn : nodupNat (st.out.map (·.name)) = true) : parseDef its = .ok st.out := by
  simp only [parseDef, h, hk, hn, bind, Except.bind, Bool.false_eq_true, if_false, Bool.not_true]
  rfl

theorem parseDef_pieces' (s : List Param) (hwf : WF s)
    (hstar : ∀ p ∈ s, (p.kind = .vp ∨ p.kind = .vk) → p.dflt = none) :
    parseDef ((pieces s).map Piece.toItem) = .ok (s.map Param.bare) := by
  obtain ⟨hv, hvp, hvk⟩ := hwf
  have hpw := (validOk_iff s).1 hv
  obtain ⟨L, rest, rfl, hL, hrest⟩ := exists_po_prefix s hpw
  have hnames : nodupNat (((L ++ rest).map Param.bare).map (·.name)) = true := by
    apply nodupNat_of_pairwise
    rw [List.map_map, List.pairwise_map]
    exact hpw.imp (fun h => h.2.2)
  have hB := pairwise_before _ hpw hvp hvk
  rw [List.pairwise_append] at hB
  obtain ⟨hpL, hpR, hLR⟩ := hB
  obtain ⟨st1, e1, o1, f1, s1⟩ := defLoop_po_slash L (hpL.imp And.left) hL
  obtain ⟨st', e2, o2, n2⟩ := defLoop_rest rest none st1 hpR (fun p hp => hstar p (List.mem_append_right _ hp)) f1
    (fun q hq => ⟨hrest q hq, fun k hk => by cases hk⟩)
    (fun h q hq hqp => by
      obtain ⟨p, hp, hpd⟩ := s1 h
      exact (hLR p hp q hq).1.2.1 (by simp [isPositional, hL p hp]) hpd hqp)
  have e : defLoop {} ((pieces (L ++ rest)).map Piece.toItem) = .ok st' := by
    rw [pieces_po_prefix L rest hL hrest, List.map_append, defLoop_append, e1]
    exact e2
  rw [parseDef_eq e n2 (by rw [o2, o1, ← List.map_append]; exact hnames), o2, o1, List.map_append]

def Piece.chevFree : Piece → Bool
  | .chev _ _ _ => false
  | _ => true

/-- `default_index` after a piece -/
def newDfltIdx (st : RS) (i : Nat) (dflt : Option Nat) : Option Nat :=
  if dflt.isSome && st.dfltIdx.isNone then some (if st.foundStar then i - 1 else i) else st.dfltIdx

/-- `annotations[name] = annotation` (only with `use_modifiers_annotate`) -/
def annUpdRaw (ua : Bool) (anns : List (Nat × Nat)) (n : Nat) (ann : Option Nat) : List (Nat × Nat) :=
  match ann with
  | some a => if ua then dset anns n a else anns
  | none => anns

theorem rsMeta_raw (ua : Bool) (st : RS) (i stars n : Nat) (ann dflt : Option Nat) :
    rsMeta ua st i stars n ann dflt =
      ({ st with anns := annUpdRaw ua st.anns n ann, dfltIdx := newDfltIdx st i dflt },
       .par stars n (if ua then none else ann) dflt) := by
  -- once it is known whether this piece brings the first default, both sides compute to the same record
  by_cases h : (dflt.isSome && st.dfltIdx.isNone) = true <;> cases ann <;> cases ua <;>
    simp only [rsMeta, newDfltIdx, annUpdRaw, h, Bool.false_eq_true, if_false, if_true]

theorem mem_piecesAux {pc : Piece} (s : List Param) : ∀ {prev}, pc ∈ piecesAux prev s →
    (pc = .slash ∧ (prev = some .po ∨ ∃ q ∈ s, q.kind = .po)) ∨ pc = .bare ∨ ∃ q ∈ s, pc = pieceOf q := by
  induction s with
  | nil =>
    intro prev h
    simp only [piecesAux] at h
    split at h
    · exact Or.inl ⟨List.mem_singleton.1 h, Or.inl ‹_›⟩
    · cases h
  | cons p ps ih =>
    intro prev h
    rw [piecesAux_cons] at h
    simp only [List.mem_append, List.mem_cons] at h
    rcases h with (h | h) | h | h
    · split at h
      · rename_i hc
        simp only [Bool.and_eq_true, decide_eq_true_eq] at hc
        exact Or.inl ⟨List.mem_singleton.1 h, Or.inl hc.1⟩
      · cases h
    · split at h
      · exact Or.inr (Or.inl (List.mem_singleton.1 h))
      · cases h
    · exact Or.inr (Or.inr ⟨p, List.mem_cons_self, h⟩)
    · rcases ih h with ⟨h1, h2⟩ | h1 | ⟨q, hq, h1⟩
      · refine Or.inl ⟨h1, Or.inr ?_⟩
        rcases h2 with h2 | ⟨q, hq, h2⟩
        · exact ⟨p, List.mem_cons_self, Option.some.inj h2⟩
        · exact ⟨q, List.mem_cons_of_mem _ hq, h2⟩
      · exact Or.inr (Or.inl h1)
      · exact Or.inr (Or.inr ⟨q, List.mem_cons_of_mem _ hq, h1⟩)

theorem piecesAux_chevFree (s : List Param) : ∀ prev, ∀ p ∈ piecesAux prev s, p.chevFree = true := by
  intro prev pc h
  rcases mem_piecesAux s h with ⟨rfl, _⟩ | rfl | ⟨q, _, rfl⟩
  · rfl
  · rfl
  · simp only [pieceOf]; cases q.kind <;> rfl

theorem slash_not_mem_pieces (s : List Param) (hnpo : ∀ p ∈ s, p.kind ≠ .po) : Piece.slash ∉ pieces s := by
  intro h
  rcases mem_piecesAux s h with ⟨_, h | ⟨q, hq, hk⟩⟩ | h | ⟨q, _, h⟩
  · cases h
  · exact hnpo q hq hk
  · cases h
  · simp only [pieceOf] at h
    cases hk : q.kind <;> rw [hk] at h <;> cases h

/-- `annotations[name] = annotation` for one piece -/
def Piece.annUpd (ua : Bool) (anns : List (Nat × Nat)) : Piece → List (Nat × Nat)
  | .slash => anns
  | .bare => anns
  | .chev n a _ => annUpdRaw ua anns n a
  | .star _ n a _ => annUpdRaw ua anns n a
  | .plain n a _ => annUpdRaw ua anns n a

theorem rsNamed_frame (ukw : Bool) (st : RS) (n : Nat) (it : Item) (hd : Bool) :
    (rsNamed ukw st n it hd).chev = st.chev ∧ (rsNamed ukw st n it hd).poso = st.poso ∧
    (rsNamed ukw st n it hd).anns = st.anns ∧ (ukw = false → (rsNamed ukw st n it hd).kwo = st.kwo) := by
  fun_cases rsNamed ukw st n it hd <;> exact ⟨rfl, rfl, rfl, fun h => by simp_all⟩

theorem rsStep_frame (ua upo ukw : Bool) (st : RS) (i : Nat) (pc : Piece) (hch : st.chev = none)
    (hc : pc.chevFree = true) (hsl : upo = true → pc ≠ .slash) :
    (rsStep ua upo ukw st i pc).chev = none ∧ (rsStep ua upo ukw st i pc).poso = st.poso ∧
    (rsStep ua upo ukw st i pc).anns = pc.annUpd ua st.anns ∧
    (ukw = false → (rsStep ua upo ukw st i pc).kwo = st.kwo) := by
  cases pc with
  | slash =>
    cases upo
    · exact ⟨rfl, rfl, rfl, fun _ => rfl⟩
    · exact absurd rfl (hsl rfl)
  | chev n a d => cases hc
  | bare => cases ukw <;> simp [rsStep, rsChevFix, hch, Piece.annUpd]
  | star two n a d => cases two <;> simp [rsStep, rsMeta_raw, rsChevFix, hch, Piece.annUpd]
  | plain n a d =>
    simp only [rsStep, rsMeta_raw, Piece.annUpd]
    obtain ⟨h1, h2, h3, h4⟩ := rsNamed_frame ukw { st with anns := annUpdRaw ua st.anns n a, dfltIdx := newDfltIdx st i d } n
      (.par 0 n (if ua then none else a) d) d.isSome
    exact ⟨h1.trans hch, h2, h3, h4⟩

theorem rsLoop_frame (ua upo ukw : Bool) (ps : List Piece) : ∀ (st : RS) (i : Nat), st.chev = none →
    (∀ p ∈ ps, p.chevFree = true) → (upo = true → Piece.slash ∉ ps) →
    (rsLoop ua upo ukw st i ps).chev = none ∧ (rsLoop ua upo ukw st i ps).poso = st.poso ∧
    (rsLoop ua upo ukw st i ps).anns = ps.foldl (Piece.annUpd ua) st.anns ∧
    (ukw = false → (rsLoop ua upo ukw st i ps).kwo = st.kwo) := by
  induction ps with
  | nil => intro st i h _ _; exact ⟨h, rfl, rfl, fun _ => rfl⟩
  | cons p ps ih =>
    intro st i hch hs hsl
    obtain ⟨k1, k2, k3, k4⟩ := rsStep_frame ua upo ukw st i p hch (hs p List.mem_cons_self)
      (fun h e => hsl h (e ▸ List.mem_cons_self))
    obtain ⟨g1, g2, g3, g4⟩ := ih _ (i + 1) k1 (fun q hq => hs q (List.mem_cons_of_mem _ hq))
      (fun h hm => hsl h (List.mem_cons_of_mem _ hm))
    exact ⟨g1, g2.trans k2, g3.trans (by rw [k3]; rfl), fun h => (g4 h).trans (k4 h)⟩

end SV
