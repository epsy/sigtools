/-
  Lemmas/C08EmbedFold.lean — provenance through the fold of `embed`; and, apart from it because
  depths do not depend on provenance, the depth formula.
-/
import Sigverif.Lemmas.C08Embed
import Sigverif.Lemmas.C08Fold
import Sigverif.Lemmas.C02TailFacts
namespace SV

theorem starsApart_of_nodup (s : Sorted) (h : (names s.all).Nodup) : StarsApart s := by
  simp only [Sorted.all, names_append, List.nodup_append, List.mem_append] at h
  -- what is left of `h`: `pos ++ pok` against `va`, these against `kwo`, all four against `vk`
  obtain ⟨⟨⟨-, -, h1⟩, -, h2⟩, -, h3⟩ := h
  refine (starsApart_iff s).2 ⟨fun k hk => ⟨?_, ?_, ?_⟩, fun k hk => ⟨?_, ?_, ?_, ?_⟩⟩
  · exact fun hn => h1 k (.inl hn) k hk rfl
  · exact fun hn => h1 k (.inr hn) k hk rfl
  · exact fun hn => h2 k (.inr hk) k hn rfl
  · exact fun hn => h3 k (.inl (.inl (.inl hn))) k hk rfl
  · exact fun hn => h3 k (.inl (.inl (.inr hn))) k hk rfl
  · exact fun hn => h3 k (.inr hn) k hk rfl
  · exact fun hn => h3 k (.inl (.inr hn)) k hk rfl

structure ProvWF1 (u : USig) : Prop extends ProvWF u where
  nd : KeysND u.src

/-- the last two `_check_no_dupes` of `_embed`: the star parameters of the result are not named
    like any named parameter of the result, nor like each other -/
theorem embedRes_apart {O i : Sorted} {uva uvk : Bool} {c : List Nat} (d : Nat)
    (hc : checkAll (tailLists O i uva uvk) [] = .ok c) : StarsApart (embedRes O i uva uvk d) := by
  have d7 := checkAll_fresh hc (pre := [O.pos, O.pok, i.pos, i.pok, O.kwo, i.kwo]) rfl
  have d8 := checkAll_fresh hc (pre := [O.pos, O.pok, i.pos, i.pok, O.kwo, i.kwo,
    (if uva then i.va else O.va).toList]) rfl
  simp only [List.flatten_cons, List.flatten_nil, names_append, List.nil_append, List.append_nil,
    List.mem_append, not_or] at d7 d8
  -- the named parameters of the result come from the six lists that are checked first
  have named : ∀ k, (k ∉ names O.pos ∧ k ∉ names O.pok ∧ k ∉ names i.pos ∧ k ∉ names i.pok ∧
      k ∉ names O.kwo ∧ k ∉ names i.kwo) →
      k ∉ names (ePosC O i) ∧ k ∉ names (ePokC O i) ∧ k ∉ names (pupdate (pupdate [] O.kwo) i.kwo) := by
    intro k ⟨h1, h2, h3, h4, h5, h6⟩
    have hpp := mem_names_ePos_ePok O i k
    rw [List.mem_append] at hpp
    refine ⟨fun hk => ?_, fun hk => ?_, fun hk => ?_⟩
    · exact (hpp.1 (.inl hk)).elim (fun h => h.elim h1 h2) (fun h => h.elim h3 h4)
    · exact (hpp.1 (.inr hk)).elim (fun h => h.elim h1 h2) (fun h => h.elim h3 h4)
    · rw [mem_names_pupdate, mem_names_pupdate, names_nil] at hk
      exact hk.elim (fun h => h.elim (List.not_mem_nil) h5) h6
  refine (starsApart_iff _).2 ⟨fun k hk => named k (d7 k hk), fun k hk => ?_⟩
  obtain ⟨a1, a2, a3, a4, a5, a6, a7⟩ := d8 k hk
  have n := named k ⟨a1, a2, a3, a4, a5, a6⟩
  exact ⟨n.1, n.2.1, n.2.2, a7⟩

theorem embedStep_apart (O I R : Sorted) (uva uvk : Bool) (d : Nat)
    (h : embedStep O I uva uvk d = .ok R) : StarsApart R := by
  obtain ⟨i, c, -, hc, rfl⟩ := embedStep_ok_iff.1 h
  exact embedRes_apart d hc

/-- what the fold of `embed` maintains about its accumulator -/
structure EmbAcc (A : Sorted) : Prop where
  keys : ∀ k, dhas A.src k = true ↔ k ∈ names A.all
  ne : ∀ k, k ∈ names A.all → sget A.src k ≠ []
  nd : KeysND A.src
  apart : StarsApart A
  dep : DepOK A.src A.depths

theorem EmbAcc.prov {A : Sorted} (h : EmbAcc A) : A.Prov := ⟨h.keys, h.ne, h.dep⟩

theorem embAcc_first (o : USig) (ho : WF o.params) (po : ProvWF1 o) : EmbAcc (sortParams o) := by
  have p := (sortParams_prov ho).2 po.toProvWF
  refine ⟨p.keys, p.ne, (sortParams_src o).1 ▸ po.nd, starsApart_of_nodup _ ?_, p.dep⟩
  rw [sortParams_all ho]
  exact (WF_inv _ ho).2.1

theorem embedStep_depths {A A' : Sorted} {s : USig} {uva uvk : Bool} {d : Nat}
    (h : embedStep A (sortParams s) uva uvk d = .ok A') :
    A'.depths = mergeDepths A.depths (copyDepths s.depths d) := by
  obtain ⟨ii, c, hii, -, rfl⟩ := embedStep_ok_iff.1 h
  show mergeDepths A.depths (copyDepths ii.depths d) = _
  rw [mergeStep_depths _ _ _ hii, (sortParams_src s).2]
  rfl

theorem embAcc_step (A A' : Sorted) (s : USig) (uva uvk : Bool) (d : Nat)
    (hA : EmbAcc A) (hs : WF s.params) (ps : ProvWF s)
    (h : embedStep A (sortParams s) uva uvk d = .ok A') :
    EmbAcc A' ∧ (∀ k f, f ∈ sget A'.src k → f ∈ sget A.src k ∨ f ∈ sget s.src k) ∧
      A'.depths = mergeDepths A.depths (copyDepths s.depths d) := by
  obtain ⟨k1, k2, k3, k4⟩ := embedStep_src A (sortParams s) A' uva uvk d hA.keys hA.ne hA.nd hA.apart
    ((sortParams_prov hs).2 ps).srcWF.sourcedAll h
  rw [(sortParams_src s).1] at k3
  have hdep := embedStep_depths h
  exact ⟨⟨k1, k2, k4, embedStep_apart _ _ _ _ _ _ h,
    hdep ▸ Srcs.All.dep_merge k3 hA.dep (Srcs.All.mono ps.dep fun _ f hf => by rw [dhas_copyDepths, hf])⟩, k3, hdep⟩

/-- the depth `embed` records for `f`: the `j`-th input's depth plus `j`, the smallest one kept
    (`i` is the index of the head of the list) -/
def embedDepth : Nat → List USig → Nat → Option Nat
  | _, [], _ => none
  | i, s :: ss, f => minDepth ((dget s.depths f).map (· + i)) (embedDepth (i + 1) ss f)

theorem embedFold_depths {uva uvk : Bool} {ss : List USig} {A r : Sorted} {i : Nat}
    (hss : ∀ s ∈ ss, KeysND s.depths) (h : embedFold uva uvk A i ss = .ok r) :
    (∀ f, dget r.depths f = minDepth (dget A.depths f) (embedDepth i ss f)) ∧
      (KeysND A.depths → KeysND r.depths) := by
  induction ss generalizing A i with
  | nil =>
    cases h
    exact ⟨fun f => by simp only [embedDepth]; cases dget r.depths f <;> rfl, id⟩
  | cons s ss ih =>
    obtain ⟨A', hstep, h⟩ := embedFold_cons_ok h
    obtain ⟨d2, n2⟩ := ih (fun t ht => hss t (List.mem_cons_of_mem _ ht)) h
    have d1 := embedStep_depths hstep
    refine ⟨fun f => ?_, fun hA => n2 (d1 ▸ KeysND.mergeDepths _ _ hA)⟩
    rw [d2 f, d1, dget_mergeDepths_copy _ _ _ _ (hss s List.mem_cons_self), minDepth_assoc]
    rfl

theorem embedDepth_spec (ss : List USig) (i f : Nat) :
    (∀ j d, (ss[j]?).bind (fun s => dget s.depths f) = some d →
        ∃ m, embedDepth i ss f = some m ∧ m ≤ d + (i + j)) ∧
    (∀ m, embedDepth i ss f = some m →
        ∃ j d, (ss[j]?).bind (fun s => dget s.depths f) = some d ∧ m = d + (i + j)) := by
  induction ss generalizing i with
  | nil =>
    refine ⟨?_, ?_⟩
    · intro j d h; simp at h
    · intro m h; simp [embedDepth] at h
  | cons s ss ih =>
    obtain ⟨ih1, ih2⟩ := ih (i + 1)
    simp only [embedDepth]
    refine ⟨?_, ?_⟩
    · intro j d h
      cases j with
      | zero =>
        simp only [List.getElem?_cons_zero, Option.bind_some] at h
        exact minDepth_le_left (by rw [h]; rfl)
      | succ j =>
        simp only [List.getElem?_cons_succ] at h
        obtain ⟨m', hm', hle⟩ := ih1 j d h
        obtain ⟨m, hm, hle'⟩ := minDepth_le_right (a := (dget s.depths f).map (· + i)) hm'
        exact ⟨m, hm, by omega⟩
    · intro m h
      rcases minDepth_eq_some h with h' | h'
      · obtain ⟨a, ha, rfl⟩ := Option.map_eq_some_iff.1 h'
        exact ⟨0, a, by simp [ha], rfl⟩
      · obtain ⟨j, d, hj, e⟩ := ih2 m h'
        exact ⟨j + 1, d, by simpa using hj, by omega⟩

/-- for two inputs this is the formula of `embed_depths` -/
theorem embed_nary_two (o i : USig) (f : Nat) :
    embedDepth 0 [o, i] f = minDepth (dget o.depths f) ((dget i.depths f).map (· + 1)) := by
  simp only [embedDepth]
  cases dget o.depths f <;> cases dget i.depths f <;> simp [minDepth]

theorem embed_depths_of {uva uvk : Bool} {o : USig} {ss : List USig} {R : USig}
    (hss : ∀ s ∈ ss, KeysND s.depths) (h : embed uva uvk (o :: ss) = .ok R) :
    (∀ f, dget R.depths f = embedDepth 0 (o :: ss) f) ∧ (KeysND o.depths → KeysND R.depths) := by
  obtain ⟨r, hfold, h⟩ := bind_eq_ok h
  obtain ⟨-, -, e3⟩ := applyParams_fields h
  obtain ⟨d, n⟩ := embedFold_depths hss hfold
  rw [e3, (sortParams_src o).2] at *
  refine ⟨fun f => ?_, n⟩
  rw [d f]
  simp only [embedDepth]
  cases dget o.depths f <;> rfl

theorem embedFold_prov {P : Nat → Nat → Prop} {uva uvk : Bool} {ss : List USig} {A r : Sorted} {i : Nat}
    (hss : ∀ s ∈ ss, WF s.params ∧ ProvWF s ∧ s.src.All P) (hA : EmbAcc A ∧ A.src.All P)
    (h : embedFold uva uvk A i ss = .ok r) : EmbAcc r ∧ r.src.All P := by
  refine embedFold_inv (Inv := fun a => EmbAcc a ∧ a.src.All P) (fun l m s d hs ⟨el, al⟩ hm => ?_) hA h
  obtain ⟨hwf, hp, hP⟩ := hss s hs
  obtain ⟨em, mem, -⟩ := embAcc_step l m s uva uvk d el hwf hp hm
  exact ⟨em, .of_two mem al hP⟩

theorem embed_prov {P : Nat → Nat → Prop} {uva uvk : Bool} {o : USig} {ss : List USig} {R : USig}
    (ho : WF o.params) (po : ProvWF1 o) (hP : o.src.All P)
    (hss : ∀ s ∈ ss, WF s.params ∧ ProvWF s ∧ s.src.All P) (h : embed uva uvk (o :: ss) = .ok R) :
    ProvWF1 R ∧ R.src.All P := by
  obtain ⟨r, hfold, h⟩ := bind_eq_ok h
  obtain ⟨a, ar⟩ := embedFold_prov hss ⟨embAcc_first o ho po, (sortParams_src o).1 ▸ hP⟩ hfold
  have e2 := (applyParams_fields h).2.1
  exact ⟨⟨(applyParams_prov h).2 a.prov, e2 ▸ a.nd⟩, e2 ▸ ar⟩

end SV
