/-
  Lemmas/C09XFold.lean — completeness of `merge` on any number of name-aligned inputs.
  The intermediate records of the fold are NOT results of `merge`, so `nonColl` says nothing about them.  The
  invariant carried through the fold is therefore the weaker `accW9`: it does not say *how* a required positional
  parameter named by a keyword is bound, and it speaks about foreign keywords only.  `nonColl` is used once, on the
  final record.
-/
import Sigverif.Lemmas.C01RFinal
namespace SV

section

def Named9 (s : Sorted) (q : Param) : Prop := q ∈ s.pos ∨ q ∈ s.pok ∨ q ∈ s.kwo

theorem Named9.of_positional {s : Sorted} {q : Param} (h : q ∈ s.pos ∨ q ∈ s.pok) : Named9 s q :=
  h.elim Or.inl fun h => Or.inr (Or.inl h)

/-- name alignment of two bucketed signatures: same positional index, same name -/
def AL9 (l r : Sorted) : Prop :=
  ∀ (i : Nat) (a b : Param), (l.pos ++ l.pok)[i]? = some a → (r.pos ++ r.pok)[i]? = some b → a.name = b.name

variable {l r : Sorted}

theorem AL9_swap (h : AL9 l r) : AL9 r l := fun i a b ha hb => (h i b a hb ha).symm

end

variable {ρ : Roles} {IsIn : Nat → Prop}

theorem input_accB_of_accepts (s : USig) (hv : validate s.params = .ok ())
    (hri : RI ρ IsIn (sortParams s)) {n : Nat} {K : List Nat}
    (ha : accepts s.params n K = true) :
    accB (sortParams s) n K ∧ accG9 ρ (sortParams s) n K := by
  obtain ⟨h1, h2⟩ := result_accB hri (sortParams_all_valid s hv) ((accepts_sortParams s hv n K).symm.trans ha)
  refine ⟨h1, ?_⟩
  intro k hk hkm
  obtain ⟨c, hc, rfl⟩ := mem_names.1 hkm
  exact h2 _ hk (Or.inl hkm) (hri.kpok c hc)

def accW9 (ρ : Roles) (IsIn : Nat → Prop) (M : Sorted) (n : Nat) (K : List Nat) : Prop :=
  (n ≤ M.pos.length + M.pok.length ∨ M.va.isSome = true) ∧
  (∀ k ∈ K, ¬ IsIn k → M.vk.isSome = true) ∧
  (∀ (i : Nat) (p : Param), (M.pos ++ M.pok)[i]? = some p → p.required = true →
    i < n ∨ p.name ∈ K) ∧
  (∀ p ∈ M.kwo, p.required = true → p.name ∈ K) ∧
  (∀ k ∈ K, k ∈ names M.pok → n ≤ ρ.ι k)

theorem accW9_of_accB {M : Sorted} (hri : RI ρ IsIn M) {n : Nat} {K : List Nat}
    (h : accB M n K) (g : accG9 ρ M n K) : accW9 ρ IsIn M n K := by
  obtain ⟨a1, a2, a3, a4⟩ := h
  refine ⟨a1, ?_, ?_, a4, g⟩
  · intro k hk hni
    rcases a2 k hk with h' | h' | h'
    · obtain ⟨p, hp, rfl⟩ := mem_names.1 h'
      exact absurd (hri.isin p (Or.inr (Or.inl hp))) hni
    · obtain ⟨p, hp, rfl⟩ := mem_names.1 h'
      exact absurd (hri.isin p (Or.inr (Or.inr hp))) hni
    · exact h'
  · intro i p hi hr
    rcases a3 i p hi hr with h' | ⟨_, h'⟩
    · exact Or.inl h'
    · exact Or.inr h'

theorem accW9.named {M : Sorted} (hM : RI ρ IsIn M) {n : Nat} {K : List Nat}
    (w : accW9 ρ IsIn M n K) {q : Param} (hq : Named9 M q) (hr : q.required = true) :
    (ρ.ι q.name < n ∧ (ρ.κ q.name = .po ∨ ρ.κ q.name = .pk)) ∨ q.name ∈ K := by
  obtain ⟨-, -, w3, w4, -⟩ := w
  have pos : q ∈ M.pos ∨ q ∈ M.pok → ρ.ι q.name < n ∨ q.name ∈ K :=
    fun hq => w3 _ q (IdxOK_at ρ hM.idx (List.mem_append.2 hq)) hr
  rcases hq with hq | hq | hq
  · exact (pos (Or.inl hq)).imp_left fun h => ⟨h, hM.kpos q hq⟩
  · exact (pos (Or.inr hq)).imp_left fun h => ⟨h, Or.inr (hM.kpok q hq)⟩
  · exact Or.inr (w4 q hq hr)

/-- A required combination of parameters of the operands is bound by the call `(n, K)` that both operands take
    (`accW9`): by position, or by a keyword.  Two parameters conciled at one positional index have the same role
    index, so without keywords their names need not agree; with keywords, alignment says they do. -/
theorem Comb.bound {l r : Sorted} (hl : RI ρ IsIn l) (hr : RI ρ IsIn r) {n : Nat} {K : List Nat}
    (hal : AL9 l r ∨ K = []) (al : accW9 ρ IsIn l n K) (ar : accW9 ρ IsIn r n K) {x : Param}
    (h : Comb (l.pos ++ l.pok) (r.pos ++ r.pok) l.kwo r.kwo x) (hx : x.required = true) :
    (ρ.ι x.name < n ∧ (ρ.κ x.name = .po ∨ ρ.κ x.name = .pk)) ∨ x.name ∈ K := by
  -- a conciliation of two parameters of the same name
  have two : ∀ {M N : Sorted} {a b : Param}, RI ρ IsIn M → RI ρ IsIn N → accW9 ρ IsIn M n K → accW9 ρ IsIn N n K →
      Named9 M a → Named9 N b → b.name = a.name → (concile a b).required = true →
      (ρ.ι a.name < n ∧ (ρ.κ a.name = .po ∨ ρ.κ a.name = .pk)) ∨ a.name ∈ K := by
    intro M N a b hM hN wM wN ha hb e hc
    rw [concile_required, Bool.or_eq_true] at hc
    exact hc.elim (wM.named hM ha) fun hc => e ▸ wN.named hN hb hc
  -- … and of the two parameters at one index of the positional chains
  have zip : ∀ {M N : Sorted} {i : Nat} {a b : Param}, RI ρ IsIn M → RI ρ IsIn N → accW9 ρ IsIn M n K →
      accW9 ρ IsIn N n K → (AL9 M N ∨ K = []) → (M.pos ++ M.pok)[i]? = some a → (N.pos ++ N.pok)[i]? = some b →
      (concile a b).required = true →
      (ρ.ι a.name < n ∧ (ρ.κ a.name = .po ∨ ρ.κ a.name = .pk)) ∨ a.name ∈ K := by
    intro M N i a b hM hN wM wN hal ha hb hc
    have ma := List.mem_append.1 (List.mem_of_getElem? ha)
    have mb := List.mem_append.1 (List.mem_of_getElem? hb)
    rcases hal with hal | rfl
    · exact two hM hN wM wN (.of_positional ma) (.of_positional mb) (hal i a b ha hb).symm hc
    · rw [concile_required, Bool.or_eq_true] at hc
      rcases hc with hc | hc
      · exact wM.named hM (.of_positional ma) hc
      · rcases wN.named hN (.of_positional mb) hc with ⟨h1, -⟩ | h1
        · rw [IdxOK_getElem ρ hN.idx i b hb, ← IdxOK_getElem ρ hM.idx i a ha] at h1
          exact .inl ⟨h1, (hM.pp_role ma).1⟩
        · cases h1
  have inL : ∀ {q : Param}, q ∈ l.pos ++ l.pok → Named9 l q := fun h => .of_positional (List.mem_append.1 h)
  have inR : ∀ {q : Param}, q ∈ r.pos ++ r.pok → Named9 r q := fun h => .of_positional (List.mem_append.1 h)
  induction h with
  | @pair _ lp rp h1 h2 => exact zip (a := lp) hl hr al ar hal h1 h2 hx
  | @pairR _ lp rp h1 h2 _ => exact zip (a := rp) hr hl ar al (hal.imp_left AL9_swap) h2 h1 hx
  | onlyL h1 _ => exact al.named hl (inL (List.mem_of_getElem? h1)) hx
  | onlyR h2 _ => exact ar.named hr (inR (List.mem_of_getElem? h2)) hx
  | @limboL lp q h1 hq hqn => exact two (a := lp) hl hr al ar (inL h1) (.inr (.inr hq)) hqn hx
  | @limboR rp q h2 hq hqn => exact two (a := rp) hr hl ar al (inR h2) (.inr (.inr hq)) hqn hx
  | @kw lp q h1 hq hqn => exact two (a := lp) hl hr al ar (.inr (.inr h1)) (.inr (.inr hq)) hqn hx
  | kwL h1 _ => exact al.named hl (.inr (.inr h1)) hx
  | kwR h2 _ => exact ar.named hr (.inr (.inr h2)) hx

theorem mergeStep_pok_names {l r m : Sorted} (bl : BucketKinds l) (br : BucketKinds r) (h : mergeStep l r = .ok m) :
    ∀ p ∈ m.pok, p.name ∈ names l.pok ∨ p.name ∈ names r.pok := by
  intro p hp
  obtain ⟨q, hq, hn, hk⟩ := mergeStep_source bl br h (.inr (.inl hp))
  -- a kind that was restricted is no longer positional-or-keyword
  have hqk : q.kind = .pk := restricts_pk ((mergeStep_bk l r m bl br h).pok p hp ▸ hk)
  rcases hq with hq | hq | hq | hq
  · exact .inl (hn ▸ mem_names_of_mem (bl.mem_pok hq hqk))
  · rw [bl.kwo q hq] at hqk; cases hqk
  · exact .inr (hn ▸ mem_names_of_mem (br.mem_pok hq hqk))
  · rw [br.kwo q hq] at hqk; cases hqk

theorem step_completeW {l r m : Sorted} (hl : RI ρ IsIn l) (hr : RI ρ IsIn r) {n : Nat} {K : List Nat}
    (hal : AL9 l r ∨ K = []) (h : mergeStep l r = .ok m) (al : accW9 ρ IsIn l n K) (ar : accW9 ρ IsIn r n K) :
    RI ρ IsIn m ∧ accW9 ρ IsIn m n K := by
  have G := mergeStep_rfacts hl hr h
  have hm := G.ri
  have c1 : n ≤ m.pos.length + m.pok.length ∨ m.va.isSome = true := by
    have e : m.pos.length + m.pok.length = cap9 l r := G.len
    rw [G.va, e]; exact le_cap9 al.1 ar.1
  have named : ∀ p, Named9 m p → p.required = true →
      (ρ.ι p.name < n ∧ (ρ.κ p.name = .po ∨ ρ.κ p.name = .pk)) ∨ p.name ∈ K := by
    intro p hp hreq
    obtain ⟨x, hx, hxp⟩ := x10_mergeStep_orig l r m hl.bk hr.bk h p hp
    rw [hxp.name]
    exact hx.bound hl hr hal al ar (by rw [Param.required, ← hxp.same.1]; exact hreq)
  refine ⟨hm, c1, ?_, ?_, ?_, ?_⟩
  · intro k hk hni
    rw [G.vk, al.2.1 k hk hni, ar.2.1 k hk hni]; rfl
  · intro i p hi hreq
    have hidx := IdxOK_getElem ρ hm.idx i p hi
    rw [Nat.zero_add] at hidx
    exact hidx ▸ (named p (.of_positional (List.mem_append.1 (List.mem_of_getElem? hi))) hreq).imp_left (·.1)
  · intro p hp hreq
    exact (named p (.inr (.inr hp)) hreq).elim
      (fun ⟨hlt, κp⟩ => absurd (hm.kwo_beyond hp κp c1) (Nat.not_le.2 hlt)) id
  · intro k hk hkm
    obtain ⟨c, hc, rfl⟩ := mem_names.1 hkm
    rcases mergeStep_pok_names hl.bk hr.bk h c hc with h' | h'
    · exact al.2.2.2.2 _ hk h'
    · exact ar.2.2.2.2 _ hk h'

theorem accB_of_accW9 {M : Sorted} (hri : RI ρ IsIn M) {n : Nat} {K : List Nat}
    (w : accW9 ρ IsIn M n K)
    (hnc : ∀ k ∈ K, k ∈ names M.pok ∨ k ∈ names M.kwo ∨ ¬ IsIn k) :
    accB M n K ∧ accG9 ρ M n K := by
  obtain ⟨w1, w2, w3, w4, w5⟩ := w
  refine ⟨⟨w1, ?_, ?_, w4⟩, w5⟩
  · intro k hk
    rcases hnc k hk with h' | h' | h'
    · exact Or.inl h'
    · exact Or.inr (Or.inl h')
    · exact Or.inr (Or.inr (w2 k hk h'))
  · intro i p hi hreq
    rcases w3 i p hi hreq with h' | hk
    · exact Or.inl h'
    · right
      refine ⟨?_, hk⟩
      have hp := List.mem_of_getElem? hi
      rcases hnc p.name hk with h' | h' | h'
      · obtain ⟨p', hp', hn'⟩ := mem_names.1 h'
        exact eq_of_nodup_names (IdxOK.nodup hri.idx) (List.mem_append_right _ hp') hp hn' ▸ hp'
      · obtain ⟨c, hc, hcn⟩ := mem_names.1 h'
        exact absurd hcn.symm (hri.kwo_disj (List.mem_append.1 hp) hc)
      · exact absurd (hri.isin p ((List.mem_append.1 hp).imp_right .inl)) h'

theorem AL9_of_RI {ins : List (List Param)} (hal : aligned ins)
    (hρ : ∀ s ∈ ins, (∀ p ∈ s, p.kind = ρ.κ p.name) ∧ IdxOK ρ 0 (positionals s))
    {acc : Sorted} (hri : RI ρ (fun x => ∃ ps ∈ ins, x ∈ allNames ps) acc)
    (s : USig) (hs : s.params ∈ ins) (hv : validate s.params = .ok ()) :
    AL9 acc (sortParams s) := by
  intro i p q hp hq
  rw [← positionals_sort s hv] at hq
  have hpm := List.mem_append.1 (List.mem_of_getElem? hp)
  obtain ⟨t, ht, hx⟩ := hri.isin p (hpm.imp_right .inl)
  obtain ⟨p', hp', hpn⟩ := mem_names.1 hx
  -- the parameter of an input from which `p` has its name sits at index `i` there
  have hj := roles_at (hρ t ht) hp' (hpn ▸ (hri.pp_role hpm).1)
  rw [hpn, IdxOK_getElem ρ hri.idx i p hp, Nat.zero_add] at hj
  have := hal.2 t ht s.params hs i (List.getElem?_eq_some_iff.1 hj).1 (List.getElem?_eq_some_iff.1 hq).1
  rw [List.getElem?_map, List.getElem?_map, hj, hq] at this
  exact hpn ▸ Option.some.inj this

end SV
