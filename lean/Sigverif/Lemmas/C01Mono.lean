/-
  Lemmas/C01Mono.lean — the vocabulary of the soundness proof for `merge`.  `NInv ls rs st` is the name
  discipline (every `pset` into `st.kwo` is an append).
  `NInv` and `QMono` are symmetric under exchanging the operands together with the two lists
  of unmatched keyword-only parameters (`MState.flip`), so a step is proved for the left side only.
-/
import Sigverif.Lemmas.MergeRun
namespace SV

def reqCount (ps : List Param) : Nat := ps.countP (·.required)

@[simp] theorem reqCount_nil : reqCount [] = 0 := rfl
@[simp] theorem reqCount_append (a b : List Param) : reqCount (a ++ b) = reqCount a + reqCount b := by
  simp [reqCount]
theorem reqCount_cons (p : Param) (ps : List Param) :
    reqCount (p :: ps) = (if p.required then 1 else 0) + reqCount ps := by
  simp [reqCount, List.countP_cons]; omega
@[simp] theorem reqCount_singleton (p : Param) : reqCount [p] = if p.required then 1 else 0 := by
  simp [reqCount_cons]
@[simp] theorem reqCount_map_withKind (ps : List Param) (k : Kind) :
    reqCount (ps.map (·.withKind k)) = reqCount ps := by
  simp [reqCount, List.countP_map, Function.comp_def]

theorem reqCount_pos_of_mem {ps : List Param} {p : Param} (h : p ∈ ps) (hr : p.required = true) :
    0 < reqCount ps := by
  unfold reqCount; exact List.countP_pos_iff.2 ⟨p, h, hr⟩

theorem reqCount_eq_zero {ps : List Param} : reqCount ps = 0 ↔ ∀ p ∈ ps, p.required = false := by
  unfold reqCount; simp [List.countP_eq_zero]

theorem required_iff (p : Param) : p.required = true ↔ p.dflt.isSome = false := by
  unfold Param.required; cases p.dflt <;> simp


def hasReq (ps : List Param) (x : Nat) : Prop := ∃ p ∈ ps, p.name = x ∧ p.required = true
def anyReq (ps : List Param) : Prop := ∃ p ∈ ps, p.required = true

@[simp] theorem hasReq_nil (x : Nat) : hasReq [] x ↔ False := by simp [hasReq]
@[simp] theorem hasReq_cons (p : Param) (t : List Param) (x : Nat) :
    hasReq (p :: t) x ↔ (p.name = x ∧ p.required = true) ∨ hasReq t x := by simp [hasReq]
@[simp] theorem hasReq_append (a b : List Param) (x : Nat) :
    hasReq (a ++ b) x ↔ hasReq a x ∨ hasReq b x := by
  simp only [hasReq, List.mem_append, or_and_right, exists_or]
@[simp] theorem anyReq_nil : anyReq [] ↔ False := by simp [anyReq]
@[simp] theorem anyReq_cons (p : Param) (t : List Param) :
    anyReq (p :: t) ↔ p.required = true ∨ anyReq t := by simp [anyReq]
@[simp] theorem anyReq_append (a b : List Param) : anyReq (a ++ b) ↔ anyReq a ∨ anyReq b := by
  simp only [anyReq, List.mem_append, or_and_right, exists_or]
@[simp] theorem anyReq_map_withKind (ps : List Param) (k : Kind) :
    anyReq (ps.map (·.withKind k)) ↔ anyReq ps := by
  simp only [anyReq, List.mem_map]
  constructor
  · rintro ⟨p, ⟨a, ha, rfl⟩, hr⟩; exact ⟨a, ha, by simpa using hr⟩
  · rintro ⟨p, hp, hr⟩; exact ⟨_, ⟨p, hp, rfl⟩, by simpa using hr⟩
theorem hasReq_anyReq {ps : List Param} {x : Nat} (h : hasReq ps x) : anyReq ps := by
  obtain ⟨p, hp, _, hr⟩ := h; exact ⟨p, hp, hr⟩
theorem hasReq_mem_names {ps : List Param} {x : Nat} (h : hasReq ps x) : x ∈ names ps := by
  obtain ⟨p, hp, hx, _⟩ := h; exact mem_names.2 ⟨p, hp, hx⟩
theorem anyReq_iff_reqCount {ps : List Param} : anyReq ps ↔ 0 < reqCount ps := by
  unfold anyReq reqCount; rw [List.countP_pos_iff]

theorem hasReq_ppop {d : List Param} {k x : Nat} : hasReq (ppop d k) x ↔ hasReq d x ∧ x ≠ k := by
  simp only [hasReq, mem_ppop]
  constructor
  · rintro ⟨p, ⟨hp, hk⟩, rfl, hr⟩; exact ⟨⟨p, hp, rfl, hr⟩, hk⟩
  · rintro ⟨⟨p, hp, rfl, hr⟩, hk⟩; exact ⟨p, ⟨hp, hk⟩, rfl, hr⟩

theorem hasReq_of_pget {d : List Param} {k : Nat} {q : Param} (hn : (names d).Nodup)
    (hq : pget d k = some q) : hasReq d k ↔ q.required = true := by
  obtain ⟨hqm, hqn⟩ := pget_some hq
  constructor
  · rintro ⟨p, hp, hpn, hr⟩
    have : p = q := eq_of_nodup_names hn hp hqm (hpn.trans hqn.symm)
    exact this ▸ hr
  · intro hr; exact ⟨q, hqm, hqn, hr⟩

def Upd (st' : MState) (pos pok kwo lUn rUn : List Param) : Prop :=
  st'.pos = pos ∧ st'.pok = pok ∧ st'.kwo = kwo ∧ st'.lUn = lUn ∧ st'.rUn = rUn

/- exchanges the two limbo lists only; the symmetry the proofs use is `MState.flip`, which
   exchanges the star flags as well -/
def MState.swap (st : MState) : MState := { st with lUn := st.rUn, rUn := st.lUn }

theorem mergeUnmatched_inv {side : Side} {l r : Sorted} {st st' : MState}
    (h : mergeUnmatched side l r st = .ok st') :
    (side.pick st.lUn st.rUn = [] ∧ Upd st' st.pos st.pok st.kwo st.lUn st.rUn) ∨
    ((side.pick r.vk l.vk).isSome = true ∧
      Upd st' st.pos st.pok (pupdate st.kwo (side.pick st.lUn st.rUn)) st.lUn st.rUn) ∨
    ((∀ p ∈ side.pick st.lUn st.rUn, p.dflt.isSome = true) ∧
      Upd st' st.pos st.pok st.kwo st.lUn st.rUn) := by
  cases h ▸ mergeUnmatched_out side l r st with
  | none hun => exact .inl ⟨hun, rfl, rfl, rfl, rfl, rfl⟩
  | take _ hvk => exact .inr (.inl ⟨hvk, by cases side <;> exact ⟨rfl, rfl, rfl, rfl, rfl⟩⟩)
  | drop _ hd => exact .inr (.inr ⟨hd, rfl, rfl, rfl, rfl, rfl⟩)

theorem addStarargs_isSome (l r : Sorted) (wL wR : Bool) (a b : Option Param) (src : Srcs) :
    (addStarargs l r wL wR a b src).1.isSome = (a.isSome && b.isSome) := by
  rw [addStarargs_param, mergedStar_isSome]

def mlen (st : MState) : Nat := st.pos.length + st.pok.length
@[simp] theorem mlen_swap (st : MState) : mlen st.swap = mlen st := rfl
def wgt (st : MState) : Nat := reqCount st.pos + reqCount st.pok + reqCount st.kwo

/-- a required parameter named `x` is still "alive": either the result will have a required
    positional-only parameter, or a required keyword-passable parameter named `x` is in the state
    or still to be processed -/
def Wit (ls rs : List Param) (st : MState) (x : Nat) : Prop :=
  anyReq st.pos ∨ hasReq st.pok x ∨ hasReq st.kwo x ∨ hasReq ls x ∨ hasReq rs x

def WitK (st : MState) (x : Nat) : Prop :=
  hasReq st.kwo x ∨ hasReq st.lUn x ∨ hasReq st.rUn x

theorem Wit.flip {ls rs : List Param} {st : MState} {x : Nat} (h : Wit ls rs st x) :
    Wit rs ls st.flip x := by
  rcases h with h | h | h | h | h
  · exact Or.inl h
  · exact Or.inr (Or.inl h)
  · exact Or.inr (Or.inr (Or.inl h))
  · exact Or.inr (Or.inr (Or.inr (Or.inr h)))
  · exact Or.inr (Or.inr (Or.inr (Or.inl h)))

theorem WitK.flip {st : MState} {x : Nat} (h : WitK st x) : WitK st.flip x := by
  rcases h with h | h | h
  · exact Or.inl h
  · exact Or.inr (Or.inr h)
  · exact Or.inr (Or.inl h)

structure NInv (ls rs : List Param) (st : MState) : Prop where
  nl : (names ls ++ names st.pok ++ names st.kwo ++ names st.lUn).Nodup
  nr : (names rs ++ names st.pok ++ names st.kwo ++ names st.rUn).Nodup
  nu : ∀ x ∈ names st.lUn, x ∉ names st.rUn

theorem NInv.flip {ls rs : List Param} {st : MState} (h : NInv ls rs st) : NInv rs ls st.flip :=
  ⟨h.nr, h.nl, fun x hx hx' => h.nu x hx' hx⟩

theorem NInv.nodup_all {st : MState} (h : NInv [] [] st) :
    (names st.pok ++ names st.kwo ++ names st.lUn ++ names st.rUn).Nodup := by
  obtain ⟨nl, nr, nu⟩ := h
  rw [names_nil, List.nil_append] at nl nr
  obtain ⟨-, hr, hd⟩ := List.nodup_append.1 nr
  refine List.nodup_append.2 ⟨nl, hr, fun a ha b hb e => ?_⟩
  rcases List.mem_append.1 ha with ha | ha
  · exact hd a ha b hb e
  · exact nu a ha (e ▸ hb)

theorem NInv.fresh {x : Param} {ls rs : List Param} {st : MState} (h : NInv (x :: ls) rs st) :
    x.name ∉ names st.kwo := by
  intro hk
  have := h.nl
  rw [names_cons, List.cons_append, List.cons_append, List.cons_append, List.nodup_cons] at this
  exact this.1 (by simp [hk])

/-- from `(ls, rs, st)` to a later `(ls', rs', st')` (`ls`, `rs`: what the operands still have to hand over): the
    required parameters held or still to come do not become fewer, the positional entries held or still to come not
    more unless that operand has `*args`, and a required parameter that is alive stays alive. -/
structure QMono (l r : Sorted) (ls rs : List Param) (st : MState)
    (ls' rs' : List Param) (st' : MState) : Prop where
  wl : wgt st + reqCount ls ≤ wgt st' + reqCount ls'
  wr : wgt st + reqCount rs ≤ wgt st' + reqCount rs'
  lenl : mlen st' + ls'.length ≤ mlen st + ls.length ∨ l.va.isSome = true
  lenr : mlen st' + rs'.length ≤ mlen st + rs.length ∨ r.va.isSome = true
  pr : anyReq st.pos → anyReq st'.pos
  wit : ∀ x, Wit ls rs st x → Wit ls' rs' st' x
  witK : ∀ x, WitK st x → WitK st' x

theorem QMono.refl (l r : Sorted) (ls rs : List Param) (st : MState) : QMono l r ls rs st ls rs st :=
  ⟨Nat.le_refl _, Nat.le_refl _, Or.inl (Nat.le_refl _), Or.inl (Nat.le_refl _), id,
    fun _ h => h, fun _ h => h⟩

theorem QMono.trans {l r : Sorted} {ls rs ls' rs' ls'' rs'' : List Param} {st st' st'' : MState}
    (a : QMono l r ls rs st ls' rs' st') (b : QMono l r ls' rs' st' ls'' rs'' st'') :
    QMono l r ls rs st ls'' rs'' st'' := by
  exact ⟨Nat.le_trans a.wl b.wl, Nat.le_trans a.wr b.wr,
    a.lenl.elim (fun h => b.lenl.imp_left fun h' => by omega) Or.inr,
    a.lenr.elim (fun h => b.lenr.imp_left fun h' => by omega) Or.inr,
    fun h => b.pr (a.pr h), fun x h => b.wit x (a.wit x h), fun x h => b.witK x (a.witK x h)⟩

theorem QMono.flip {l r : Sorted} {ls rs ls' rs' : List Param} {st st' : MState}
    (h : QMono l r ls rs st ls' rs' st') : QMono r l rs ls st.flip rs' ls' st'.flip :=
  ⟨h.wr, h.wl, h.lenr, h.lenl, h.pr, fun x hx => (h.wit x hx.flip).flip,
    fun x hx => (h.witK x hx.flip).flip⟩

end SV
