/-
  Lemmas/C20Bridge.lean — from the character level of `read_sig` to the piece level: what `piecesOfText` and
  `toPiece` make of the parts of a well-formed text.
-/
import Sigverif.Lemmas.C20Chars
namespace SV

theorem mapM_of_forall {α β : Type} (f : α → Option β) (g : α → β) (l : List α) (h : ∀ x ∈ l, f x = some (g x)) :
    l.mapM f = some (l.map g) := by
  induction l with
  | nil => rfl
  | cons x xs ih =>
    simp [List.mapM_cons, h x (by simp), ih (fun y hy => h y (List.mem_cons_of_mem _ hy))]

theorem piecesOfText_parts (enc : List Char → Nat) (parts : List Part) (hne : parts ≠ []) (hs : ∀ p ∈ parts, p.Simple) :
    piecesOfText enc (joinComma (parts.map Part.text)) = parts.mapM (fun p => toPiece enc (p.arg, p.ann, p.dflt)) := by
  unfold piecesOfText
  rw [splitParams_simple parts hne hs, List.mapM_map,
    mapM_of_forall (id ∘ _) (fun p : Part => (p.arg, p.ann, p.dflt)) parts (fun _ _ => rfl)]
  exact List.mapM_map ..

theorem lstripStars_nostar (cs : List Char) (h : cs.head? ≠ some '*') : lstripStars cs = (0, cs) := by
  cases cs with
  | nil => rfl
  | cons c cs =>
    have : c ≠ '*' := by simpa using h
    unfold lstripStars
    split
    · rename_i heq; simp only [List.cons.injEq] at heq; exact absurd heq.1 this
    · rfl

theorem chevronInner_none (arg : List Char) (h : arg.head? ≠ some '<') : chevronInner arg = none := by
  cases arg with
  | nil => rfl
  | cons c cs =>
    have : c ≠ '<' := by simpa using h
    unfold chevronInner
    split
    · rename_i heq; simp only [List.cons.injEq] at heq; exact absurd heq.1 this
    · rfl

theorem toPiece_plain (enc : List Char → Nat) (name : List Char) (a d : Option (List Char))
    (h1 : name.head? ≠ some '*') (h2 : name.head? ≠ some '<') (h3 : name ≠ ['/']) :
    toPiece enc (name, a, d) = some (.plain (enc name) (a.map enc) (d.map enc)) := by
  simp [toPiece, chevronInner_none name h2, h3, lstripStars_nostar name h1]

theorem toPiece_star (enc : List Char → Nat) (name : List Char) (a d : Option (List Char))
    (h0 : name ≠ []) (h1 : name.head? ≠ some '*') :
    toPiece enc ('*' :: name, a, d) = some (.star false (enc name) (a.map enc) (d.map enc)) ∧
    toPiece enc ('*' :: '*' :: name, a, d) = some (.star true (enc name) (a.map enc) (d.map enc)) := by
  have hl := lstripStars_nostar name h1
  have hne : name.isEmpty = false := by cases name <;> simp_all
  constructor
  · have : lstripStars ('*' :: name) = (1, name) := by simp [lstripStars, hl]
    simp [toPiece, chevronInner, this, hne]
  · have : lstripStars ('*' :: '*' :: name) = (2, name) := by simp [lstripStars, hl]
    simp [toPiece, chevronInner, this, hne]

theorem toPiece_marks (enc : List Char → Nat) :
    toPiece enc (['*'], none, none) = some .bare ∧ toPiece enc (['/'], none, none) = some .slash := by
  constructor <;> simp [toPiece, chevronInner, lstripStars]

end SV
