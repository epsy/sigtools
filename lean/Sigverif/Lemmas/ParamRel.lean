/-
  Lemmas/ParamRel.lean — the algebra is parametric in the metadata of its parameters.
  The control flow of merge, embed, mask and forwards looks at names, kinds and defaults only, and
  all it does to a parameter is `_concile_meta`, `replace(kind=…)` and `replace(default=…)`.  So two runs on
  `ParamRel`-related inputs take the same branches and end in related results or in the same error.  The proofs
  split on the proof of relatedness, which takes both runs apart in lockstep.
-/
import Sigverif.Lemmas.C11TBasic
import Sigverif.Lemmas.Forall
import Sigverif.Lemmas.MergePhases
import Sigverif.Lemmas.C02Embed
import Sigverif.Lemmas.Core.Except
namespace SV

/-- a relation between parameters that the control flow of the algebra cannot tell apart
    (same name, kind, default) and that what the algebra does to a parameter keeps -/
structure ParamRel0 (R : Param → Param → Prop) : Prop where
  name : ∀ {a b}, R a b → b.name = a.name
  kind : ∀ {a b}, R a b → b.kind = a.kind
  dflt : ∀ {a b}, R a b → b.dflt = a.dflt
  withKind : ∀ {a a'} (k : Kind), R a a' → R (a.withKind k) (a'.withKind k)
  withDflt : ∀ {a a'} (d : Option Nat), R a a' → R (a.withDflt d) (a'.withDflt d)

/-- … and that `_concile_meta` keeps (what `merge` and `embed` need on top; `_mask` never conciliates) -/
structure ParamRel (R : Param → Param → Prop) : Prop extends ParamRel0 R where
  concile : ∀ {a a' b b'}, R a a' → R b b' → R (concile a b) (concile a' b')

inductive LRel (R : Param → Param → Prop) : List Param → List Param → Prop
  | nil : LRel R [] []
  | cons {a b : Param} {as bs : List Param} : R a b → LRel R as bs → LRel R (a :: as) (b :: bs)

section
variable {R R' : Param → Param → Prop}

theorem LRel.append {a a' b b' : List Param} (h : LRel R a a') (k : LRel R b b') :
    LRel R (a ++ b) (a' ++ b') := by
  induction h with
  | nil => exact k
  | cons x _ ih => exact .cons x ih

theorem LRel.one {a b : Param} (h : R a b) : LRel R [a] [b] := .cons h .nil

theorem LRel.map {g : Param → Param} (hg : ∀ {a b}, R a b → R (g a) (g b)) {a a' : List Param}
    (h : LRel R a a') : LRel R (a.map g) (a'.map g) := by
  induction h with
  | nil => exact .nil
  | cons x _ ih => exact .cons (hg x) ih

theorem LRel.filter {g : Param → Bool} (hg : ∀ {a b}, R a b → g b = g a) {a a' : List Param}
    (h : LRel R a a') : LRel R (a.filter g) (a'.filter g) := by
  induction h with
  | nil => exact .nil
  | cons x _ ih =>
    rw [List.filter_cons, List.filter_cons, hg x]
    split
    · exact .cons x ih
    · exact ih

theorem LRel.find? {g : Param → Bool} (hg : ∀ {a b}, R a b → g b = g a) {a a' : List Param}
    (h : LRel R a a') : Option.Rel R (a.find? g) (a'.find? g) := by
  induction h with
  | nil => exact .none
  | cons x _ ih =>
    rw [List.find?_cons, List.find?_cons, hg x]
    split
    · exact .some x
    · exact ih

theorem LRel.any {g : Param → Bool} (hg : ∀ {a b}, R a b → g b = g a) {a a' : List Param}
    (h : LRel R a a') : a'.any g = a.any g := by
  induction h with
  | nil => rfl
  | cons x _ ih => rw [List.any_cons, List.any_cons, hg x, ih]

theorem LRel.isEmpty {a a' : List Param} (h : LRel R a a') : a'.isEmpty = a.isEmpty := by
  cases h <;> rfl

theorem LRel.take {a a' : List Param} (h : LRel R a a') (n : Nat) : LRel R (a.take n) (a'.take n) := by
  induction h generalizing n with
  | nil => simp only [List.take_nil]; exact .nil
  | cons x _ ih => cases n with
    | zero => exact .nil
    | succ n => exact .cons x (ih n)

theorem LRel.drop {a a' : List Param} (h : LRel R a a') (n : Nat) : LRel R (a.drop n) (a'.drop n) := by
  induction h generalizing n with
  | nil => simp only [List.drop_nil]; exact .nil
  | cons x _ ih => cases n with
    | zero => exact .cons x ‹_›
    | succ n => exact ih n

theorem LRel.getD {a a' : List Param} (h : LRel R a a') {d d' : Param} (hd : R d d') (n : Nat) :
    R (a.getD n d) (a'.getD n d') := by
  induction h generalizing n with
  | nil => exact hd
  | cons x _ ih => cases n with
    | zero => exact x
    | succ n => exact ih n

theorem LRel.length {a a' : List Param} (h : LRel R a a') : a'.length = a.length := by
  induction h with
  | nil => rfl
  | cons _ _ ih => rw [List.length_cons, List.length_cons, ih]

theorem lrel_ite (c : Bool) {a a' b b' : List Param} (ha : LRel R a a') (hb : LRel R b b') :
    LRel R (if c then a else b) (if c then a' else b') := by
  cases c
  · exact hb
  · exact ha

theorem orel_isSome {o o' : Option Param} (h : Option.Rel R o o') : o'.isSome = o.isSome := by
  cases h <;> rfl

theorem orel_isNone {o o' : Option Param} (h : Option.Rel R o o') : o'.isNone = o.isNone := by
  cases h <;> rfl

theorem orel_toList {o o' : Option Param} (h : Option.Rel R o o') : LRel R o.toList o'.toList := by
  cases h with
  | none => exact .nil
  | some h => exact .one h

theorem orel_ite (c : Bool) {a a' b b' : Option Param} (ha : Option.Rel R a a') (hb : Option.Rel R b b') :
    Option.Rel R (if c then a else b) (if c then a' else b') := by
  cases c
  · exact hb
  · exact ha

theorem orel_match {β : Type} {ρ : β → β → Prop} {o o' : Option Param} (h : Option.Rel R o o') {a a' : Param → β}
    {b b' : β} (hs : ∀ x x', o = some x → o' = some x' → R x x' → ρ (a x) (a' x')) (hn : ρ b b') :
    ρ (match (motive := Option Param → β) o with | some x => a x | none => b)
      (match (motive := Option Param → β) o' with | some x => a' x | none => b') := by
  cases h with
  | some h => exact hs _ _ rfl rfl h
  | none => exact hn

variable (hR : ParamRel0 R)
include hR

theorem pget_rel {d d' : List Param} (h : LRel R d d') (k : Nat) : Option.Rel R (pget d k) (pget d' k) :=
  h.find? fun x => by rw [hR.name x]

theorem phas_rel {d d' : List Param} (h : LRel R d d') (k : Nat) : phas d' k = phas d k :=
  h.any fun x => by rw [hR.name x]

theorem ppop_rel {d d' : List Param} (h : LRel R d d') (k : Nat) : LRel R (ppop d k) (ppop d' k) :=
  h.filter fun x => by rw [hR.name x]

theorem pset_rel {d d' : List Param} {p p' : Param} (h : LRel R d d') (hp : R p p') :
    LRel R (pset d p) (pset d' p') := by
  induction h with
  | nil => exact .one hp
  | cons x _ ih =>
    rw [pset, pset, hR.name x, hR.name hp]
    split
    · exact .cons hp ‹_›
    · exact .cons x ih

theorem pupdate_rel {d d' e e' : List Param} (h : LRel R d d') (he : LRel R e e') :
    LRel R (pupdate d e) (pupdate d' e') := by
  induction he generalizing d d' with
  | nil => exact h
  | cons x _ ih => exact ih (pset_rel hR h x)

theorem names_rel {a a' : List Param} (h : LRel R a a') : names a' = names a := by
  induction h with
  | nil => rfl
  | cons x _ ih => simp only [names, List.map_cons, hR.name x] at ih ⊢; rw [ih]

omit hR

structure StRel (R : Param → Param → Prop) (st st' : MState) : Prop where
  pos : LRel R st.pos st'.pos
  pok : LRel R st.pok st'.pok
  kwo : LRel R st.kwo st'.kwo
  lUn : LRel R st.lUn st'.lUn
  rUn : LRel R st.rUn st'.rUn
  src : st'.src = st.src
  vaL : st'.vaL = st.vaL
  vaR : st'.vaR = st.vaR
  vkL : st'.vkL = st.vkL
  vkR : st'.vkR = st.vkR

structure SRel (R : Param → Param → Prop) (s s' : Sorted) : Prop where
  pos : LRel R s.pos s'.pos
  pok : LRel R s.pok s'.pok
  va : Option.Rel R s.va s'.va
  kwo : LRel R s.kwo s'.kwo
  vk : Option.Rel R s.vk s'.vk
  src : s'.src = s.src
  depths : s'.depths = s.depths

inductive ERel {α : Type} (Q : α → α → Prop) : Except Err α → Except Err α → Prop
  | ok {a b : α} : Q a b → ERel Q (.ok a) (.ok b)
  | error (e : Err) : ERel Q (.error e) (.error e)

theorem ERel.ite {α : Type} {Q : α → α → Prop} {c c' : Prop} [Decidable c] [Decidable c'] (hc : c' ↔ c)
    {a b a' b' : Except Err α} (ha : ERel Q a a') (hb : ERel Q b b') :
    ERel Q (if c then a else b) (if c' then a' else b') := by
  by_cases h : c
  · rw [if_pos h, if_pos (hc.2 h)]; exact ha
  · rw [if_neg h, if_neg (mt hc.1 h)]; exact hb

theorem ERel.ite_same {α : Type} {Q : α → α → Prop} {c : Prop} [Decidable c]
    {a b a' b' : Except Err α} (ha : ERel Q a a') (hb : ERel Q b b') :
    ERel Q (if c then a else b) (if c then a' else b') := by
  split
  · exact ha
  · exact hb

theorem ERel.bind {α β : Type} {Q : α → α → Prop} {Q' : β → β → Prop} {e e' : Except Err α}
    {k k' : α → Except Err β} (he : ERel Q e e') (hk : ∀ a a', Q a a' → ERel Q' (k a) (k' a')) :
    ERel Q' (e >>= k) (e' >>= k') := by
  cases he with
  | ok h => exact hk _ _ h
  | error e => exact .error e

theorem ERel.bind_eq {α β : Type} {Q : α → α → Prop} {Q' : β → β → Prop} {e e' : Except Err α}
    {k k' : α → Except Err β} (he : ERel Q e e')
    (hk : ∀ a a', e = .ok a → e' = .ok a' → Q a a' → ERel Q' (k a) (k' a')) : ERel Q' (e >>= k) (e' >>= k') := by
  cases he with
  | ok h => exact hk _ _ rfl rfl h
  | error e => exact .error e

theorem ERel.bind_same {α β : Type} {Q : β → β → Prop} {e : Except Err α} {k k' : α → Except Err β}
    (hk : ∀ a, ERel Q (k a) (k' a)) : ERel Q (e >>= k) (e >>= k') := by
  cases e with
  | ok a => exact hk a
  | error e => exact .error e

theorem LRel.flush (hR : ParamRel R) {ps ps' qs qs' : List Param} {p p' : Param} (h : LRel R ps ps')
    (hq : LRel R qs qs') (hp : R p p') :
    LRel R (ps ++ qs.map (·.withKind .po) ++ [p.withKind .po]) (ps' ++ qs'.map (·.withKind .po) ++ [p'.withKind .po]) :=
  (h.append (hq.map (hR.withKind _))).append (.one (hR.withKind _ hp))

theorem unbalancedPok_rel (hR : ParamRel R) (side : Side) {l l' r r' : Sorted} {ex ex' : Param} {st st' : MState}
    (hl : SRel R l l') (hr : SRel R r r') (hex : R ex ex') (hst : StRel R st st') :
    ERel (StRel R) (unbalancedPok side l r ex st) (unbalancedPok side l' r' ex' st') := by
  have hq : Option.Rel R (pget (side.pick st.rUn st.lUn) ex.name) (pget (side.pick st'.rUn st'.lUn) ex.name) := by
    cases side
    · exact pget_rel hR.1 hst.rUn _
    · exact pget_rel hR.1 hst.lUn _
  cases side <;>
    simp only [unbalancedPok, hR.name hex, hR.dflt hex, hl.src, hr.src, hst.src, orel_isSome hl.va, orel_isSome hr.va,
      orel_isSome hl.vk, orel_isSome hr.vk] <;>
    simp only [Side.pick_L, Side.pick_R] at hq <;>
    generalize pget _ ex.name = o at hq ⊢ <;>
    generalize pget _ ex.name = o' at hq ⊢ <;>
    cases hq
  case L.some q q' hq =>
    exact .ok { hst with src := rfl, kwo := pset_rel hR.1 hst.kwo (hR.withKind _ (hR.concile hex hq)), rUn := ppop_rel hR.1 hst.rUn _ }
  case R.some q q' hq =>
    exact .ok { hst with src := rfl, kwo := pset_rel hR.1 hst.kwo (hR.withKind _ (hR.concile hex hq)), lUn := ppop_rel hR.1 hst.lUn _ }
  all_goals
    exact .ite_same (.ok { hst with src := rfl, pok := hst.pok.append (.one hex) }) <|
      .ite_same (.ok { hst with src := rfl, kwo := pset_rel hR.1 hst.kwo (hR.withKind _ hex) }) <|
      .ite_same (.ok { hst with src := rfl, pos := LRel.flush hR hst.pos hst.pok hex, pok := .nil }) <|
      .ite_same (.error _) (.ok hst)

theorem phaseQ_rel (hR : ParamRel R) {l l' r r' : Sorted} (hl : SRel R l l') (hr : SRel R r r')
    {il il' ir ir' : List Param} {st st' : MState} (hil : LRel R il il') (hir : LRel R ir ir') (hst : StRel R st st') :
    ERel (StRel R) (phaseQ l r il ir st) (phaseQ l' r' il' ir' st') := by
  induction il, ir, st using phaseQ_ind l r generalizing il' ir' st' with
  | h1 st =>
    cases hil; cases hir
    rw [phaseQ, phaseQ]
    exact .ok hst
  | h2 lp ls rp rs st hn ih =>
    cases hil with | cons hp hil => ?_
    cases hir with | cons hq hir => ?_
    rw [phaseQ, phaseQ, if_pos hn, if_pos (by rw [hR.name hp, hR.name hq]; exact hn)]
    exact ih hil hir { hst with pok := hst.pok.append (.one (hR.concile hp hq)),
                                src := by simp only [hst.src, hR.name hp, hl.src, hr.src] }
  | h3 lp ls rp rs st hn ih =>
    cases hil with | cons hp hil => ?_
    cases hir with | cons hq hir => ?_
    rw [phaseQ, phaseQ, if_neg hn, if_neg (by rw [hR.name hp, hR.name hq]; exact hn)]
    exact ih hil hir { hst with pos := LRel.flush hR hst.pos hst.pok (hR.concile hp hq), pok := .nil,
                                src := by simp only [hst.src, hR.name hp, hl.src] }
  | h4 lp ls st ih =>
    cases hil with | cons hp hil => ?_
    cases hir
    rw [phaseQ, phaseQ]
    exact (unbalancedPok_rel hR .L hl hr hp hst).bind fun _ _ k => ih _ hil .nil k
  | h5 rp rs st ih =>
    cases hil
    cases hir with | cons hq hir => ?_
    rw [phaseQ, phaseQ]
    exact (unbalancedPok_rel hR .R hl hr hq hst).bind fun _ _ k => ih _ .nil hir k

theorem any_dflt_rel (hR : ParamRel0 R) {a a' : List Param} (h : LRel R a a') :
    a'.any (·.dflt.isNone) = a.any (·.dflt.isNone) :=
  h.any fun x => by rw [hR.dflt x]

theorem addAllSources_rel (hR : ParamRel0 R) {ps ps' : List Param} (h : LRel R ps ps') (ret frm : Srcs) :
    addAllSources ret ps' frm = addAllSources ret ps frm := by
  induction h generalizing ret with
  | nil => rfl
  | cons x _ ih => simp only [addAllSources, List.foldl_cons, hR.name x] at ih ⊢; exact ih _

theorem phaseK1_rel (hR : ParamRel R) {l l' r r' : Sorted} (hl : SRel R l l') (hr : SRel R r r')
    {ps ps' : List Param} {st st' : MState} (hps : LRel R ps ps') (hst : StRel R st st') :
    StRel R (phaseK1 l r ps st) (phaseK1 l' r' ps' st') := by
  induction hps generalizing st st' with
  | nil => exact hst
  | @cons p p' _ _ hp _ ih =>
    rw [phaseK1, phaseK1, hR.name hp]
    exact orel_match (ρ := StRel R) (pget_rel hR.1 hr.kwo p.name)
      (fun _ _ _ _ hq => ih { hst with kwo := pset_rel hR.1 hst.kwo (hR.concile hp hq),
                                       src := by simp only [hst.src, hl.src, hr.src] })
      (ih { hst with lUn := pset_rel hR.1 hst.lUn hp })

theorem phaseK2_rel (hR : ParamRel R) {l l' : Sorted} (hl : SRel R l l')
    {ps ps' : List Param} {st st' : MState} (hps : LRel R ps ps') (hst : StRel R st st') :
    StRel R (phaseK2 l ps st) (phaseK2 l' ps' st') := by
  induction hps generalizing st st' with
  | nil => exact hst
  | @cons p p' _ _ hp _ ih =>
    rw [phaseK2, phaseK2, hR.name hp, phas_rel hR.1 hl.kwo]
    split
    · exact ih hst
    · exact ih { hst with rUn := pset_rel hR.1 hst.rUn hp }

def StLRel (R : Param → Param → Prop) (x y : MState × List Param) : Prop := StRel R x.1 y.1 ∧ LRel R x.2 y.2
def StLLRel (R : Param → Param → Prop) (x y : MState × List Param × List Param) : Prop :=
  StRel R x.1 y.1 ∧ LRel R x.2.1 y.2.1 ∧ LRel R x.2.2 y.2.2

theorem unbalancedPos_rel (hR : ParamRel R) (side : Side) {l l' r r' : Sorted} {ex ex' : Param} {cf cf' : List Param}
    {st st' : MState} (hl : SRel R l l') (hr : SRel R r r') (hex : R ex ex') (hcf : LRel R cf cf')
    (hst : StRel R st st') :
    ERel (StLRel R) (unbalancedPos side l r ex cf st) (unbalancedPos side l' r' ex' cf' st') := by
  cases hcf with
  | cons ho hrest =>
    simp only [unbalancedPos, hR.name hex, hR.name ho, hl.src, hr.src, hst.src]
    exact .ok ⟨{ hst with src := rfl, pos := hst.pos.append (.one (hR.concile hex ho)) }, hrest⟩
  | nil =>
    cases side <;>
      simp only [unbalancedPos, hR.name hex, hR.dflt hex, hl.src, hr.src, hst.src, orel_isSome hl.va,
        orel_isSome hr.va]
    · exact .ite_same (.ok ⟨{ hst with src := rfl, vaR := rfl, pos := hst.pos.append (.one hex) }, .nil⟩)
        (.ite_same (.error _) (.ok ⟨hst, .nil⟩))
    · exact .ite_same (.ok ⟨{ hst with src := rfl, vaL := rfl, pos := hst.pos.append (.one hex) }, .nil⟩)
        (.ite_same (.error _) (.ok ⟨hst, .nil⟩))

theorem phaseP_rel (hR : ParamRel R) {l l' r r' : Sorted} (hl : SRel R l l') (hr : SRel R r r')
    {ls ls' rs rs' il il' ir ir' : List Param} {st st' : MState} (hls : LRel R ls ls') (hrs : LRel R rs rs')
    (hil : LRel R il il') (hir : LRel R ir ir') (hst : StRel R st st') :
    ERel (StLLRel R) (phaseP l r ls rs il ir st) (phaseP l' r' ls' rs' il' ir' st') := by
  induction ls, rs, il, ir, st using phaseP.induct l r generalizing ls' rs' il' ir' st' with
  | case1 il ir st =>
    cases hls; cases hrs
    rw [phaseP, phaseP]
    exact .ok ⟨hst, hil, hir⟩
  | case2 lp ls rp rs il ir st st1 =>
    rename_i ih
    cases hls with | cons hp hls => ?_
    cases hrs with | cons hq hrs => ?_
    rw [phaseP, phaseP]
    exact ih hls hrs hil hir { hst with pos := hst.pos.append (.one (hR.concile hp hq)),
                                        src := by simp only [st1, dite_eq_ite, hst.src, hR.name hp, hR.name hq, hl.src, hr.src] }
  | case3 lp ls il ir st ih =>
    cases hls with | cons hp hls => ?_
    cases hrs
    rw [phaseP, phaseP]
    exact (unbalancedPos_rel hR .L hl hr hp hir hst).bind fun (_, _) (_, _) k => ih _ _ hls .nil hil k.2 k.1
  | case4 rp rs il ir st ih =>
    cases hls
    cases hrs with | cons hq hrs => ?_
    rw [phaseP, phaseP]
    exact (unbalancedPos_rel hR .R hl hr hq hil hst).bind fun (_, _) (_, _) k => ih _ _ .nil hrs k.2 hir k.1

theorem mergeUnmatched_rel (hR : ParamRel R) (side : Side) {l l' r r' : Sorted} {st st' : MState}
    (hl : SRel R l l') (hr : SRel R r r') (hst : StRel R st st') :
    ERel (StRel R) (mergeUnmatched side l r st) (mergeUnmatched side l' r' st') := by
  cases side <;>
    simp only [mergeUnmatched, hst.lUn.isEmpty, hst.rUn.isEmpty, orel_isSome hl.vk, orel_isSome hr.vk,
      any_dflt_rel hR.1 hst.lUn, any_dflt_rel hR.1 hst.rUn, addAllSources_rel hR.1 hst.lUn, addAllSources_rel hR.1 hst.rUn,
      hst.src, hl.src, hr.src]
  · exact .ite_same (.ok hst) (.ite_same (.ok { hst with src := rfl, vkR := rfl, kwo := pupdate_rel hR.1 hst.kwo hst.lUn })
      (.ite_same (.error _) (.ok hst)))
  · exact .ite_same (.ok hst) (.ite_same (.ok { hst with src := rfl, vkL := rfl, kwo := pupdate_rel hR.1 hst.kwo hst.rUn })
      (.ite_same (.error _) (.ok hst)))

theorem addStarargs_prel (hR : ParamRel R) {l l' r r' : Sorted} (hl : SRel R l l') (hr : SRel R r r')
    {left left' right right' : Option Param} (h1 : Option.Rel R left left') (h2 : Option.Rel R right right')
    {wL wL' wR wR' : Bool} {src src' : Srcs} (eL : wL' = wL) (eR : wR' = wR) (es : src' = src) :
    Option.Rel R (addStarargs l r wL wR left right src).1 (addStarargs l' r' wL' wR' left' right' src').1 ∧
      (addStarargs l' r' wL' wR' left' right' src').2 = (addStarargs l r wL wR left right src).2 := by
  subst eL eR es
  cases h1 with
  | none => exact ⟨.none, rfl⟩
  | some h1 =>
    cases h2 with
    | none => exact ⟨.none, rfl⟩
    | some h2 =>
      simp only [addStarargs, hR.name h1, hR.name h2, concile_name, hl.src, hr.src]
      cases wL' <;> cases wR'
      · exact ⟨.some h2, rfl⟩
      · exact ⟨.some h2, rfl⟩
      · exact ⟨.some h1, rfl⟩
      · exact ⟨.some (hR.concile h1 h2), rfl⟩

theorem mergeStep_rel (hR : ParamRel R) {l l' r r' : Sorted} (hl : SRel R l l') (hr : SRel R r r') :
    ERel (SRel R) (mergeStep l r) (mergeStep l' r') := by
  have h0 : StRel R (mergeInit l r) (mergeInit l' r') :=
    ⟨.nil, .nil, .nil, .nil, .nil, rfl, orel_isSome hl.va, orel_isSome hr.va, orel_isSome hl.vk, orel_isSome hr.vk⟩
  unfold mergeStep
  exact (phaseP_rel hR hl hr hl.pos hr.pos hl.pok hr.pok
      (phaseK2_rel hR hl hr.kwo (phaseK1_rel hR hl hr hl.kwo h0))).bind fun (_, _, _) (_, _, _) k1 =>
    (phaseQ_rel hR hl hr k1.2.1 k1.2.2 k1.1).bind fun _ _ k2 =>
      (mergeUnmatched_rel hR .L hl hr k2).bind fun _ _ k3 =>
        (mergeUnmatched_rel hR .R hl hr k3).bind fun st4 st4' k4 => by
          have va := addStarargs_prel hR hl hr hl.va hr.va k4.vaL k4.vaR k4.src
          have vk := addStarargs_prel hR hl hr hl.vk hr.vk k4.vkL k4.vkR va.2
          exact .ok ⟨k4.pos, k4.pok, va.1, k4.kwo, vk.1, vk.2, by rw [hl.depths, hr.depths]⟩

theorem sortGo_rel (hR : ParamRel0 R) {ps ps' : List Param} {s s' : Sorted} (hps : LRel R ps ps') (hs : SRel R s s') :
    SRel R (sortGo ps s) (sortGo ps' s') := by
  induction hps generalizing s s' with
  | nil => exact hs
  | @cons p p' _ _ hp _ ih =>
    rw [sortGo, sortGo, hR.kind hp]
    cases p.kind
    · exact ih { hs with pos := hs.pos.append (.one hp) }
    · exact ih { hs with pok := hs.pok.append (.one hp) }
    · exact ih { hs with va := .some hp }
    · exact ih { hs with kwo := pset_rel hR hs.kwo hp }
    · exact ih { hs with vk := .some hp }

structure SigRel (R : Param → Param → Prop) (G : Option Nat × UAnn → Option Nat × UAnn → Prop) (s s' : USig) : Prop where
  params : LRel R s.params s'.params
  src : s'.src = s.src
  depths : s'.depths = s.depths
  ret : G (s.ret, s.uret) (s'.ret, s'.uret)

variable {G G' : Option Nat × UAnn → Option Nat × UAnn → Prop}

theorem sortParams_rel (hR : ParamRel0 R) {s s' : USig} (h : SigRel R G s s') : SRel R (sortParams s) (sortParams s') :=
  sortGo_rel hR h.params ⟨.nil, .nil, .none, .nil, .none, h.src, by rw [h.depths]⟩

theorem SRel.all {s s' : Sorted} (h : SRel R s s') : LRel R s.all s'.all := by
  have opt : ∀ {o o' : Option Param}, Option.Rel R o o' → LRel R o.toList o'.toList := by
    intro o o' h; cases h with
    | none => exact .nil
    | some h => exact .one h
  exact (((h.pos.append h.pok).append (opt h.va)).append h.kwo).append (opt h.vk)

theorem validateGo_rel (hR : ParamRel0 R) {ps ps' : List Param} (h : LRel R ps ps') (top : Nat) (sd : Bool)
    (seen : List Nat) : validateGo top sd seen ps' = validateGo top sd seen ps := by
  induction h generalizing top sd seen with
  | nil => rfl
  | cons x _ ih => simp only [validateGo, hR.name x, hR.kind x, hR.dflt x, ih]

theorem WF_rel (hR : ParamRel0 R) {ps ps' : List Param} (h : LRel R ps ps') (hw : WF ps) : WF ps' := by
  have e : ∀ k, (ps'.filter fun p => p.kind = k).length = (ps.filter fun p => p.kind = k).length :=
    fun k => (h.filter fun x => by rw [hR.kind x]).length
  unfold WF validOk validate at *
  rwa [validateGo_rel hR h, e, e]

theorem applyParams_rel (hR : ParamRel0 R) {sig sig' : USig} {s s' : Sorted} (hsig : SigRel R' G sig sig')
    (hs : SRel R s s') : ERel (SigRel R G) (applyParams sig s) (applyParams sig' s') := by
  unfold applyParams validate
  rw [validateGo_rel hR hs.all]
  cases validateGo 0 false [] s.all with
  | error e => exact .error e
  | ok _ => exact .ok ⟨hs.all, hs.src, hs.depths, hsig.ret⟩

inductive SigsRel (R : Param → Param → Prop) : List USig → List USig → Prop
  | nil : SigsRel R [] []
  | cons {s s' : USig} {ss ss' : List USig} : SigRel R (fun _ _ => True) s s' → SigsRel R ss ss' →
      SigsRel R (s :: ss) (s' :: ss')

theorem mergeFold_rel (hR : ParamRel R) {acc acc' : Sorted} {ss ss' : List USig} (hacc : SRel R acc acc')
    (hss : SigsRel R ss ss') : ERel (SRel R) (mergeFold acc ss) (mergeFold acc' ss') := by
  induction hss generalizing acc acc' with
  | nil => exact .ok hacc
  | cons hs _ ih =>
    rw [mergeFold, mergeFold]
    have h := mergeStep_rel hR hacc (sortParams_rel hR.1 hs)
    generalize mergeStep acc _ = e at h ⊢
    generalize mergeStep acc' _ = e' at h ⊢
    cases h with
    | ok h => exact ih h
    | error e => exact .error _

theorem merge_rel (hR : ParamRel R) {s s' : USig} {ss ss' : List USig} (hs : SigRel R G s s') (hss : SigsRel R ss ss') :
    ERel (SigRel R G) (merge (s :: ss)) (merge (s' :: ss')) :=
  (mergeFold_rel hR (sortParams_rel hR.1 hs) hss).bind fun _ _ k => applyParams_rel hR.1 hs k

theorem checkNoDupes_rel (hR : ParamRel0 R) {a a' : List Param} (h : LRel R a a') (c : List Nat) :
    checkNoDupes c a' = checkNoDupes c a := by
  unfold checkNoDupes; rw [names_rel hR h]

theorem LRel.cdIf (hR : ParamRel0 R) (c : Bool) {a a' : List Param} (h : LRel R a a') : LRel R (cdIf c a) (cdIf c a') := by
  cases c
  · exact h
  · exact h.map (hR.withDflt none)

theorem innerFirstRequired_rel (hR : ParamRel0 R) {i i' : Sorted} (hi : SRel R i i') :
    innerFirstRequired i' = innerFirstRequired i := by
  have h1 := hi.pos
  have h2 := hi.pok
  unfold innerFirstRequired
  generalize i.pos = a, i'.pos = a', i.pok = b, i'.pok = b' at h1 h2 ⊢
  cases h1 with
  | cons x _ => simp only [hR.dflt x]
  | nil =>
    cases h2 with
    | cons x _ => simp only [hR.dflt x]
    | nil => rfl

theorem dropStar_rel (hR : ParamRel0 R) (use : Bool) {v v' : Option Param} (h : Option.Rel R v v') (d : Srcs) :
    dropStar use v' d = dropStar use v d := by
  cases h with
  | none => rfl
  | some h => simp only [dropStar, hR.name h]

theorem ePosC_rel (hR : ParamRel0 R) {O O' i i' : Sorted} (hO : SRel R O O') (hi : SRel R i i') :
    LRel R (ePosC O i) (ePosC O' i') := by
  unfold ePosC
  rw [innerFirstRequired_rel hR hi, hi.pos.isEmpty]
  split
  · exact hO.pos.cdIf hR _
  · exact ((hO.pos.append (hO.pok.map (hR.withKind _))).cdIf hR _).append hi.pos

theorem ePokC_rel (hR : ParamRel0 R) {O O' i i' : Sorted} (hO : SRel R O O') (hi : SRel R i i') :
    LRel R (ePokC O i) (ePokC O' i') := by
  unfold ePokC
  rw [innerFirstRequired_rel hR hi, hi.pos.isEmpty]
  refine .append ?_ hi.pok
  split
  · exact hO.pok.cdIf hR _
  · exact .nil

theorem embedRes_rel (hR : ParamRel0 R) {O O' i i' : Sorted} (hO : SRel R O O') (hi : SRel R i i') (uva uvk : Bool)
    (d : Nat) : SRel R (embedRes O i uva uvk d) (embedRes O' i' uva uvk d) :=
  ⟨ePosC_rel hR hO hi, ePokC_rel hR hO hi, orel_ite uva hi.va hO.va, pupdate_rel hR (pupdate_rel hR .nil hO.kwo) hi.kwo,
    orel_ite uvk hi.vk hO.vk,
    by simp only [embedRes, outerSrc, hi.src, hO.src, dropStar_rel hR _ hO.va, dropStar_rel hR _ hO.vk],
    by simp only [embedRes, hO.depths, hi.depths]⟩

theorem embedStep_rel (hR : ParamRel R) {O O' I I' : Sorted} (hO : SRel R O O') (hI : SRel R I I') (uva uvk : Bool)
    (d : Nat) : ERel (SRel R) (embedStep O I uva uvk d) (embedStep O' I' uva uvk d) := by
  have hs : SRel R (stars O uva uvk) (stars O' uva uvk) :=
    ⟨.nil, .nil, orel_ite uva hO.va .none, .nil, orel_ite uvk hO.vk .none, rfl, rfl⟩
  rw [embedStep_closed, embedStep_closed]
  refine (mergeStep_rel hR hI hs).bind fun i i' hi => ?_
  -- the eight checks look at names only: both runs make the same ones
  have e : checkAll (tailLists O' i' uva uvk) [] = checkAll (tailLists O i uva uvk) [] := by
    simp only [tailLists, checkAll, checkNoDupes_rel hR.1 hO.pos, checkNoDupes_rel hR.1 hO.pok,
      checkNoDupes_rel hR.1 hO.kwo, checkNoDupes_rel hR.1 hi.pos, checkNoDupes_rel hR.1 hi.pok,
      checkNoDupes_rel hR.1 hi.kwo, checkNoDupes_rel hR.1 (orel_toList (orel_ite uva hi.va hO.va)),
      checkNoDupes_rel hR.1 (orel_toList (orel_ite uvk hi.vk hO.vk))]
  rw [e]
  cases checkAll (tailLists O i uva uvk) [] with
  | error e => exact .error e
  | ok _ => exact .ok (embedRes_rel hR.1 hO hi uva uvk d)

theorem embedFold_rel (hR : ParamRel R) (uva uvk : Bool) {acc acc' : Sorted} {ss ss' : List USig} (hacc : SRel R acc acc')
    (hss : SigsRel R ss ss') (n : Nat) : ERel (SRel R) (embedFold uva uvk acc n ss) (embedFold uva uvk acc' n ss') := by
  induction hss generalizing acc acc' n with
  | nil => exact .ok hacc
  | cons hs _ ih =>
    rw [embedFold, embedFold]
    have h := embedStep_rel hR hacc (sortParams_rel hR.1 hs) uva uvk n
    generalize embedStep acc _ uva uvk n = e at h ⊢
    generalize embedStep acc' _ uva uvk n = e' at h ⊢
    cases h with
    | ok h => exact ih h _
    | error e => exact .error _

theorem embed_rel (hR : ParamRel R) (uva uvk : Bool) {s s' : USig} {ss ss' : List USig} (hs : SigRel R G s s')
    (hss : SigsRel R ss ss') :
    ERel (SigRel R G) (embed uva uvk (s :: ss)) (embed uva uvk (s' :: ss')) :=
  (embedFold_rel hR uva uvk (sortParams_rel hR.1 hs) hss 1).bind fun _ _ k => applyParams_rel hR.1 hs k

end
end SV
