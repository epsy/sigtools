/-
  Lemmas/C05TotalBasic.lean — the `revisit` queue is only ever extended, and the small state
  operations do not touch it.
-/
import Sigverif.Model.Visitor
namespace SV
namespace C05T

def sz : List (Tree × Nat) → Nat
  | [] => 0
  | e :: l => e.1.size + sz l

@[simp] theorem sz_nil : sz [] = 0 := rfl
@[simp] theorem sz_cons (e : Tree × Nat) (l) : sz (e :: l) = e.1.size + sz l := rfl
@[simp] theorem sz_append (a b : List (Tree × Nat)) : sz (a ++ b) = sz a + sz b := by
  induction a with
  | nil => simp
  | cons e l ih => simp [ih]; omega

/-- `l'` extends `l` by queued nodes of total size at most `n` -/
def Ext (l l' : List (Tree × Nat)) (n : Nat) : Prop := ∃ new, l' = l ++ new ∧ sz new ≤ n

theorem Ext.refl (l : List (Tree × Nat)) (n : Nat) : Ext l l n := ⟨[], by simp, by simp⟩

theorem Ext.of_eq {l l' : List (Tree × Nat)} (h : l' = l) (n : Nat) : Ext l l' n := by
  subst h; exact Ext.refl _ _

theorem Ext.trans {a b c : List (Tree × Nat)} {n m : Nat} (h1 : Ext a b n) (h2 : Ext b c m) :
    Ext a c (n + m) := by
  obtain ⟨x, rfl, hx⟩ := h1
  obtain ⟨y, rfl, hy⟩ := h2
  exact ⟨x ++ y, by simp, by simp; omega⟩

theorem Ext.mono {a b : List (Tree × Nat)} {n m : Nat} (h : Ext a b n) (hnm : n ≤ m) : Ext a b m := by
  obtain ⟨x, rfl, hx⟩ := h
  exact ⟨x, rfl, by omega⟩

theorem Ext.trans_le {a b c : List (Tree × Nat)} {n m k : Nat} (h1 : Ext a b n) (h2 : Ext b c m)
    (h : n + m ≤ k) : Ext a c k := (h1.trans h2).mono h

theorem Tree.size_pos : ∀ t : Tree, 1 ≤ t.size
  | .name _ _ => by simp [Tree.size]
  | .attr _ _ => by simp [Tree.size]
  | .call _ _ _ => by simp [Tree.size]
  | .fdef _ _ _ _ _ _ => by simp [Tree.size]
  | .nonloc _ => by simp [Tree.size]
  | .other _ => by simp [Tree.size]

def plainSize : ArgList → Nat
  | .nil => 0
  | .plain t r => t.size + plainSize r
  | .starred _ r => plainSize r
def starSize : ArgList → Nat
  | .nil => 0
  | .plain _ r => starSize r
  | .starred t r => t.size + starSize r
theorem plain_add_star : ∀ as : ArgList, plainSize as + starSize as = as.size
  | .nil => rfl
  | .plain t r => by have := plain_add_star r; simp only [plainSize, starSize, ArgList.size]; omega
  | .starred t r => by have := plain_add_star r; simp only [plainSize, starSize, ArgList.size]; omega

def kwSize : KwList → Nat
  | .nil => 0
  | .kw _ v r => v.size + kwSize r
  | .dstar _ r => kwSize r
def dstarSize : KwList → Nat
  | .nil => 0
  | .kw _ _ r => dstarSize r
  | .dstar v r => v.size + dstarSize r
theorem kw_add_dstar : ∀ ks : KwList, kwSize ks + dstarSize ks = ks.size
  | .nil => rfl
  | .kw _ v r => by have := kw_add_dstar r; simp only [kwSize, dstarSize, KwList.size]; omega
  | .dstar v r => by have := kw_add_dstar r; simp only [kwSize, dstarSize, KwList.size]; omega

@[simp] theorem setNs_revisit (st : VState) (i : Nat) (n : NS) : (st.setNs i n).revisit = st.revisit := rfl

@[simp] theorem assign_revisit (st : VState) (name : Nat) (e : Entry) :
    (st.assign name e).revisit = st.revisit := rfl

@[simp] theorem setImm_revisit (st : VState) (name : Nat) : (st.setImm name).revisit = st.revisit := rfl

@[simp] theorem addNonlocal_revisit (st : VState) (name : Nat) :
    (st.addNonlocal name).revisit = st.revisit := by
  unfold VState.addNonlocal
  simp only []
  split <;> rfl

@[simp] theorem taint_revisit (st : VState) (name : Nat) : (st.taint name).revisit = st.revisit := by
  unfold VState.taint
  split <;> rfl

@[simp] theorem visitName_revisit (st : VState) (id : Nat) (ctx : Ctx) :
    (visitName st id ctx).revisit = st.revisit := by
  unfold visitName
  split <;> simp

theorem foldl_revisit {α : Type} (f : VState → α → VState)
    (hf : ∀ st a, (f st a).revisit = st.revisit) (l : List α) (st : VState) :
    (l.foldl f st).revisit = st.revisit := by
  induction l generalizing st with
  | nil => rfl
  | cons a l ih => simp [List.foldl, ih, hf]

@[simp] theorem processParams_revisit (st : VState) (po args kwo : List Nat) (va vk : Option Nat)
    (main : Bool) : (processParams st po args kwo va vk main).revisit = st.revisit := by
  unfold processParams
  have h1 : ((po ++ args ++ kwo).foldl
      (fun st n => st.assign n { m := if main then .arg n none else .unknown }) st).revisit
      = st.revisit :=
    foldl_revisit (fun st n => st.assign n { m := if main then .arg n none else .unknown })
      (fun _ _ => rfl) _ _
  generalize (po ++ args ++ kwo).foldl
      (fun st n => st.assign n { m := if main then .arg n none else .unknown }) st = st1 at h1 ⊢
  cases va <;> cases vk <;> cases main <;> simp [h1]

end C05T

theorem revisitLoop_done {i : Nat} {st : VState} (h : st.revisit.length ≤ i) (fuel : Nat) :
    revisitLoop fuel i st = some st := by
  cases fuel with
  | zero => rw [revisitLoop, if_neg (Nat.not_lt.2 h)]
  | succ f => rw [revisitLoop, List.getElem?_eq_none h]

theorem revisitLoop_step {i : Nat} {st : VState} {node : Tree} {ns : Nat}
    (h : st.revisit[i]? = some (node, ns)) (fuel : Nat) :
    revisitLoop (fuel + 1) i st = revisitLoop fuel (i + 1) (visit true node { st with cur := ns }) := by
  rw [revisitLoop, h]

/-- `self.namespace[instance.name].tainted = node` when the callee resolved to an Attribute marker -/
def taintStep (wrapped : RM) (st : VState) : VState :=
  match wrapped with
  | .attr _ _ => match wrapped.instance with
    | .arg n _ => st.taint n
    | _ => st
  | _ => st

/-- `get_starargs`: none → None; exactly one → `resolve_name(value, ro=True)`; several → Unknown -/
def starStep (as : ArgList) (st : VState) : Option RM × VState :=
  if as.starCount = 0 then (none, st)
  else if as.starCount = 1 then resolveOnlyStar as st
  else (some RM.unknown, st)

/-- `get_kwargs` -/
def dstarStep (ks : KwList) (st : VState) : Option RM × VState :=
  if ks.dstarCount = 0 then (none, st)
  else if ks.dstarCount = 1 then resolveOnlyDstar ks st
  else (some RM.unknown, st)

theorem visit_call_now (force : Bool) (f : Tree) (as : ArgList) (ks : KwList) (st : VState)
    (hnow : (!force && (st.ns st.cur).parent.isSome) = false) :
    visit force (.call f as ks) st =
      let r := resolveCore f true st
      let a := resolveArgs as (taintStep r.1.1 (if isNameNode f then r.2 else visit false f r.2))
      let k := resolveKws ks a.2
      let sa := starStep as k.2
      let sk := dstarStep ks sa.2
      { sk.2 with calls := sk.2.calls ++ [{ wrapped := r.1.1, args := a.1, kwargs := k.1,
                                            varargs := sa.1, varkwargs := sk.1,
                                            useVa := (hasHide sa.1 sk.2.hasVa .va).1,
                                            useVk := (hasHide sk.1 sk.2.hasVk .vk).1,
                                            hideA := (hasHide sa.1 sk.2.hasVa .va).2,
                                            hideK := (hasHide sk.1 sk.2.hasVk .vk).2 }] } := by
  simp only [visit, hnow, Bool.false_eq_true, if_false]
  rfl

namespace C05T

theorem taintStep_revisit (wrapped : RM) (st : VState) : (taintStep wrapped st).revisit = st.revisit := by
  unfold taintStep
  split
  · split <;> simp
  · rfl

end C05T
end SV
