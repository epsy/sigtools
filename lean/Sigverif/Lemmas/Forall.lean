/-
  Lemmas/Forall.lean — properties of single parameters that hold of every parameter of a list:
  `AllP P`, and `ClosedP P` for a property that `_concile_meta` and `replace(kind=…)` /
  `replace(default=…)` keep.  Such a property is kept by merge, embed, mask and forwards, for any
  number of inputs: Lemmas/ParamGraph.
-/
import Sigverif.Lemmas.Core.Sort
namespace SV

section
variable (P : Param → Prop)

structure ClosedP : Prop where
  concile : ∀ a b, P a → P b → P (concile a b)
  kind : ∀ a k, P a → P (a.withKind k)
  dflt : ∀ a d, P a → P (a.withDflt d)

def AllP (ps : List Param) : Prop := ∀ p ∈ ps, P p

variable {P}

theorem AllP.nil : AllP P [] := by intro p hp; cases hp
theorem AllP.tail {p : Param} {ps : List Param} (h : AllP P (p :: ps)) : AllP P ps :=
  fun q hq => h q (by simp [hq])
theorem AllP.head {p : Param} {ps : List Param} (h : AllP P (p :: ps)) : P p := h p (by simp)
theorem AllP.append {a b : List Param} (ha : AllP P a) (hb : AllP P b) : AllP P (a ++ b) := by
  intro p hp
  rcases List.mem_append.1 hp with h | h
  · exact ha p h
  · exact hb p h
theorem AllP.one {p : Param} (h : P p) : AllP P [p] := by
  intro q hq; simp only [List.mem_singleton] at hq; subst hq; exact h
theorem AllP.pset {ps : List Param} {p : Param} (h : AllP P ps) (hp : P p) : AllP P (pset ps p) := by
  intro q hq
  rcases mem_pset hq with hq | rfl
  · exact h q hq
  · exact hp
theorem AllP.pupdate {d e : List Param} (hd : AllP P d) (he : AllP P e) : AllP P (pupdate d e) := by
  intro q hq
  rcases mem_pupdate hq with h | h
  · exact hd q h
  · exact he q h

theorem true_closed : ClosedP (fun _ : Param => True) :=
  ⟨fun _ _ _ _ => trivial, fun _ _ _ => trivial, fun _ _ _ => trivial⟩

theorem allTrue (ps : List Param) : AllP (fun _ : Param => True) ps := fun _ _ => trivial

def OkAll {ε α : Type} (Q : α → Prop) (e : Except ε α) : Prop := ∀ x, e = .ok x → Q x

namespace OkAll
variable {ε α : Type} {Q : α → Prop}

theorem ok {a : α} (h : Q a) : OkAll Q (.ok a : Except ε α) := by
  intro x hx; cases hx; exact h

theorem error {e : ε} : OkAll Q (.error e : Except ε α) := by
  intro x hx; cases hx

theorem ite {c : Prop} [Decidable c] {a b : Except ε α} (ha : OkAll Q a) (hb : OkAll Q b) :
    OkAll Q (if c then a else b) := by
  split
  · exact ha
  · exact hb

end OkAll

theorem allP_all_iff (s : Sorted) :
    AllP P s.all ↔ AllP P s.pos ∧ AllP P s.pok ∧ (∀ p, s.va = some p → P p) ∧ AllP P s.kwo ∧
      (∀ p, s.vk = some p → P p) := by
  simp only [AllP, Sorted.all, List.mem_append, Option.mem_toList, or_imp, forall_and, and_assoc]

theorem sortParams_allP (u : USig) (h : AllP P u.params) : AllP P (sortParams u).all :=
  fun p hp => h p (mem_sortParams_all hp)

theorem popChain_all (n : Nat) (pos pok : List Param) (acc : List Nat)
    (h1 : AllP P pos) (h2 : AllP P pok) :
    AllP P (popChain n pos pok acc).2.1 ∧ AllP P (popChain n pos pok acc).2.2.1 := by
  fun_induction popChain n pos pok acc with
  | case1 pos pok acc => exact ⟨h1, h2⟩
  | case2 p pos pok acc => exact ⟨h1.tail, h2⟩
  | case3 n p pos pok acc hn ih => exact ih h1.tail h2
  | case4 p pok acc => exact ⟨AllP.nil, h2.tail⟩
  | case5 n p pok acc hn ih => exact ih AllP.nil h2.tail
  | case6 n acc => exact ⟨AllP.nil, AllP.nil⟩

/-- `P` holds of the keyword-only parameter `name=value` that partial mode creates -/
def FreshP (P : Param → Prop) : Prop := ∀ n v, P { name := n, kind := .ko, dflt := some v }

end
end SV
