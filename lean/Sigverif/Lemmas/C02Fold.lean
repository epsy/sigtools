/-
  Lemmas/C02Fold.lean — the buckets of `embedStep`/`embedFold` only depend on the buckets of
  the operands; the evaluable closed form `embedStepC`; bucket kinds are preserved.
-/
import Sigverif.Lemmas.C02Embed
import Sigverif.Lemmas.LawsKinds
namespace SV

def eraseMeta (s : Sorted) : Sorted := { s with src := [], depths := [] }

@[simp] theorem eraseMeta_all (s : Sorted) : (eraseMeta s).all = s.all := rfl

def embedStepC (O I : Sorted) (uva uvk : Bool) : Except Err Sorted :=
  (mergeStars I (if uva then O.va else none) (if uvk then O.vk else none)
    >>= fun i => embedTailC O i uva uvk).map eraseMeta

theorem exceptMap_map {ε α β γ : Type} (f : α → β) (g : β → γ) (x : Except ε α) :
    (x.map f).map g = x.map (g ∘ f) := by
  cases x <;> rfl

-- In the next two, once `eraseMeta` is pushed through the binds both sides are the same term.

theorem embedStep_erase (O I : Sorted) (uva uvk : Bool) (d : Nat) :
    (embedStep O I uva uvk d).map eraseMeta = embedStepC O I uva uvk := by
  obtain ⟨src, h⟩ := mergeStep_stars I (stars O uva uvk) rfl rfl rfl
  simp only [embedStep_closed, h, embedStepC, embedTailC_eq, exceptMap_bind, exceptBind_map, exceptMap_map]
  rfl

/-- `stars O` forgets provenance and depths of `O`, so the merge is literally the same call -/
theorem embedStep_erase_left (O I : Sorted) (uva uvk : Bool) (d : Nat) :
    (embedStep O I uva uvk d).map eraseMeta = (embedStep (eraseMeta O) I uva uvk 0).map eraseMeta := by
  simp only [embedStep_closed, exceptMap_bind, exceptMap_map]
  rfl

theorem embedStep_erase_congr {O O' : Sorted} (h : eraseMeta O = eraseMeta O') (I : Sorted) (uva uvk : Bool)
    (d d' : Nat) :
    (embedStep O I uva uvk d).map eraseMeta = (embedStep O' I uva uvk d').map eraseMeta := by
  rw [embedStep_erase_left O, embedStep_erase_left O', h]

theorem embedFold_erase_congr (uva uvk : Bool) (ss : List USig) {A A' : Sorted} (h : eraseMeta A = eraseMeta A')
    (d d' : Nat) :
    (embedFold uva uvk A d ss).map eraseMeta = (embedFold uva uvk A' d' ss).map eraseMeta := by
  induction ss generalizing A A' d d' with
  | nil => exact congrArg Except.ok h
  | cons s ss ih =>
    have e := embedStep_erase_congr h (sortParams s) uva uvk d d'
    unfold embedFold
    cases h1 : embedStep A (sortParams s) uva uvk d with
    | error e1 =>
      cases h2 : embedStep A' (sortParams s) uva uvk d' with
      | error e2 => rfl
      | ok r2 => rw [h1, h2] at e; cases e
    | ok r1 =>
      cases h2 : embedStep A' (sortParams s) uva uvk d' with
      | error e2 => rw [h1, h2] at e; cases e
      | ok r2 =>
        rw [h1, h2] at e
        exact ih (Except.ok.inj e) (d + 1) (d' + 1)

theorem bind_applyParams_params (x : Except Err Sorted) (s : USig) :
    (x >>= applyParams s).map (·.params) =
      x.map eraseMeta >>= fun r => (validate r.all).map (fun _ => r.all) := by
  cases x with
  | error e => rfl
  | ok r =>
    simp only [bind, Except.bind, Except.map, eraseMeta_all, applyParams]
    cases validate r.all <;> rfl

theorem append_kind {a b : List Param} {k : Kind} (ha : ∀ p ∈ a, p.kind = k)
    (hb : ∀ p ∈ b, p.kind = k) : ∀ p ∈ a ++ b, p.kind = k :=
  fun p hp => (List.mem_append.1 hp).elim (ha p) (hb p)

theorem mem_clearDefaults {l : List Param} {p : Param} (h : p ∈ clearDefaults l) :
    ∃ q ∈ l, p = q.withDflt none := by
  obtain ⟨q, hq, rfl⟩ := List.mem_map.1 h
  exact ⟨q, hq, rfl⟩

theorem cdIf_kind {c : Bool} {l : List Param} {k : Kind} (h : ∀ p ∈ l, p.kind = k) :
    ∀ p ∈ cdIf c l, p.kind = k := by
  intro p hp
  unfold cdIf at hp
  split at hp
  · obtain ⟨q, hq, rfl⟩ := mem_clearDefaults hp
    exact h q hq
  · exact h p hp

theorem BucketKinds.stars {O : Sorted} (h : BucketKinds O) (uva uvk : Bool) : BucketKinds (stars O uva uvk) := by
  refine ⟨AllKind.nil, AllKind.nil, ?_, AllKind.nil, ?_⟩
  · intro p hp
    cases uva
    · cases hp
    · exact h.va p hp
  · intro p hp
    cases uvk
    · cases hp
    · exact h.vk p hp

theorem embedRes_kinds {O i : Sorted} (hO : BucketKinds O) (hi : BucketKinds i) (uva uvk : Bool) (d : Nat) :
    BucketKinds (embedRes O i uva uvk d) := by
  refine ⟨?_, ?_, ?_, AllKind.pupdate (AllKind.pupdate AllKind.nil hO.kwo) hi.kwo, ?_⟩
  · show ∀ p ∈ ePosC O i, _
    unfold ePosC
    split
    · exact cdIf_kind hO.pos
    · exact append_kind (cdIf_kind (append_kind hO.pos mem_map_withKind)) hi.pos
  · show ∀ p ∈ ePokC O i, _
    unfold ePokC
    refine append_kind ?_ hi.pok
    split
    · exact cdIf_kind hO.pok
    · exact AllKind.nil
  · show ∀ p, (if uva = true then i.va else O.va) = some p → _
    cases uva
    · exact hO.va
    · exact hi.va
  · show ∀ p, (if uvk = true then i.vk else O.vk) = some p → _
    cases uvk
    · exact hO.vk
    · exact hi.vk

theorem embedStep_kinds {O I r : Sorted} {uva uvk : Bool} {d : Nat} (hO : BucketKinds O)
    (hI : BucketKinds I) (h : embedStep O I uva uvk d = .ok r) : BucketKinds r := by
  obtain ⟨i, c, hi, -, rfl⟩ := embedStep_ok_iff.1 h
  exact embedRes_kinds hO (mergeStep_bk _ _ _ hI (hO.stars uva uvk) hi) uva uvk d

end SV
