/-
  Lemmas/C03Steps.lean — the combinatorial core of C03: what one step of `_mask`
  (consuming positionals, naming a positional-or-keyword parameter, naming a keyword-only
  parameter, naming something that goes to **kwargs) does to the set of accepted calls, and
  that each step preserves well-formedness.  Everything is stated on bucketed signatures.
-/
import Sigverif.Lemmas.Core.Accepts
namespace SV

theorem accP_cons_foreign {s : Sorted} {x : Nat} (m : Nat) (K : List Nat)
    (h1 : x ∉ names s.pok) (h2 : x ∉ names s.kwo) :
    AccP s m (x :: K) ↔ s.vk.isSome = true ∧ AccP s m K := by
  have hx : ¬ (x ∈ names s.pok ∨ x ∈ names s.kwo) := fun h => h.elim h1 h2
  have h3 : ∀ p : Param, (p.name ∈ x :: K ∧ (p.name ∈ names s.pok ∨ p.name ∈ names s.kwo)) ↔
      (p.name ∈ K ∧ (p.name ∈ names s.pok ∨ p.name ∈ names s.kwo)) := by
    intro p
    refine and_congr_left fun hkw => ?_
    rw [List.mem_cons, or_iff_right]
    intro e
    exact hx (e ▸ hkw)
  unfold AccP
  simp only [List.forall_mem_cons, h3]
  constructor
  · rintro ⟨c1, ⟨cx, c2⟩, c3⟩
    exact ⟨cx.2 hx, c1, c2, c3⟩
  · rintro ⟨hv, c1, c2, c3⟩
    exact ⟨c1, ⟨⟨fun h => absurd h hx, fun _ => hv⟩, c2⟩, c3⟩

theorem accP_nokw {pos : List Param} {va : Option Param} {m : Nat} {K : List Nat} :
    AccP {pos := pos, pok := [], va := va, kwo := [], vk := none} m K ↔
      (m ≤ pos.length ∨ va.isSome = true) ∧ K = [] ∧
      ∀ p ∈ pos, p.required = true → p.name ∈ names (pos.take m) := by
  unfold AccP
  simp only [List.append_nil, names_nil, List.not_mem_nil, or_self, or_false, and_false, false_or,
    not_false_eq_true, forall_const, false_imp_iff, Option.isSome_none, Bool.false_eq_true, imp_false]
  exact and_congr_right fun _ => and_congr_left fun _ => List.eq_nil_iff_forall_not_mem.symm

theorem step_vk {s : Sorted} {x : Nat} (m : Nat) (K : List Nat)
    (h1 : x ∉ names s.pok) (h2 : x ∉ names s.kwo) (hv : s.vk.isSome = true) :
    AccP s m K ↔ AccP s m (x :: K) :=
  ((accP_cons_foreign m K h1 h2).trans (and_iff_right hv)).symm

theorem filter_ne_of_not_mem {x : Nat} {K : List Nat} (h : x ∉ K) : K.filter (fun k => decide (k ≠ x)) = K :=
  List.filter_eq_self.2 fun _ hk => decide_eq_true fun e => h (e ▸ hk)

theorem accP_take_out {pos pok kwo kwo' : List Param} {va vk : Option Param} {x : Nat}
    (hkwo : ∀ p, p ∈ kwo' ↔ p ∈ kwo ∧ p.name ≠ x) (hx : x ∉ names (pos ++ pok)) (hk : x ∈ names kwo)
    (m : Nat) (K : List Nat) :
    AccP { pos := pos, pok := pok, va := va, kwo := kwo, vk := vk } m K ↔
      ((∃ p ∈ kwo, p.name = x ∧ p.required = true) → x ∈ K) ∧
      AccP { pos := pos, pok := pok, va := va, kwo := kwo', vk := vk } m (K.filter (fun k => decide (k ≠ x))) := by
  have hnk : ∀ y, y ∈ names kwo' ↔ y ∈ names kwo ∧ y ≠ x := fun y => by
    simp only [mem_names, hkwo]
    exact ⟨fun ⟨p, hp, e⟩ => ⟨⟨p, hp.1, e⟩, e ▸ hp.2⟩, fun ⟨⟨p, hp, e⟩, hne⟩ => ⟨p, ⟨hp, e ▸ hne⟩, e⟩⟩
  have hT : x ∉ names ((pos ++ pok).take m) := fun h => hx (by rw [names_take] at h; exact List.mem_of_mem_take h)
  have hne : ∀ p, p ∈ pos ∨ p ∈ pok ∨ p ∈ kwo ∧ p.name ≠ x → p.name ≠ x := by
    rintro p (hp | hp | hp) e
    · exact hx (e ▸ mem_names_of_mem (List.mem_append_left _ hp))
    · exact hx (e ▸ mem_names_of_mem (List.mem_append_right _ hp))
    · exact hp.2 e
  have hkw : ∀ k, k ≠ x → ((k ∈ names pok ∨ k ∈ names kwo ∧ k ≠ x) ↔ (k ∈ names pok ∨ k ∈ names kwo)) :=
    fun k hk => or_congr_right (and_iff_left hk)
  unfold AccP
  simp only [hnk, hkwo, List.mem_filter, decide_eq_true_eq]
  constructor
  · rintro ⟨c1, c2, c3⟩
    refine ⟨?_, c1, fun k hk => ?_, fun p hp hr => ?_⟩
    · rintro ⟨p, hp, rfl, hr⟩
      exact ((c3 p (Or.inr (Or.inr hp)) hr).resolve_right hT).1
    · rw [hkw k hk.2]
      exact c2 k hk.1
    · rw [hkw _ (hne p hp)]
      exact (c3 p (hp.imp_right (Or.imp_right And.left)) hr).imp_left fun c => ⟨⟨c.1, hne p hp⟩, c.2⟩
  · rintro ⟨hreq, c1, c2, c3⟩
    refine ⟨c1, fun k hkK => ?_, fun p hp hr => ?_⟩
    · by_cases hkx : k = x
      · subst hkx
        exact ⟨fun _ => hT, fun h => absurd (Or.inr hk) h⟩
      · rw [← hkw k hkx]
        exact c2 k ⟨hkK, hkx⟩
    · by_cases hpx : p.name = x
      · have hp' : p ∈ kwo := hp.elim (fun h => absurd hpx (hne p (Or.inl h))) fun h =>
          h.elim (fun h => absurd hpx (hne p (Or.inr (Or.inl h)))) id
        exact Or.inl ⟨hpx ▸ hreq ⟨p, hp', hpx, hr⟩, Or.inr (hpx ▸ hk)⟩
      · have := c3 p (hp.imp_right (Or.imp_right fun h => ⟨h, hpx⟩)) hr
        rw [hkw _ hpx] at this
        exact this.imp_left fun c => ⟨c.1.1, c.2⟩

theorem step_kwo {pos pok kwo : List Param} {va vk : Option Param} {x : Nat} (m : Nat) (K : List Nat)
    (hx : x ∉ names (pos ++ pok)) (hK : x ∉ K) (hk : x ∈ names kwo) :
    AccP {pos := pos, pok := pok, va := va, kwo := ppop kwo x, vk := vk} m K ↔
    AccP {pos := pos, pok := pok, va := va, kwo := kwo, vk := vk} m (x :: K) := by
  rw [accP_take_out (fun _ => mem_ppop) hx hk m (x :: K), List.filter_cons_of_neg (by simp), filter_ne_of_not_mem hK]
  exact (and_iff_right fun _ => List.mem_cons_self).symm

theorem nodup_names_split {A C : List Param} {b : Param} (h : (names (A ++ b :: C)).Nodup) :
    b.name ∉ names A ∧ b.name ∉ names C := by
  simp only [names_append, names_cons, List.nodup_append, List.nodup_cons, List.mem_cons] at h
  obtain ⟨-, ⟨h2, -⟩, h3⟩ := h
  exact ⟨fun hA => h3 _ hA _ (Or.inl rfl) rfl, h2⟩

theorem accP_convert {pos before kwo : List Param} {va vk : Option Param} {m : Nat}
    (tail : List Param) (va' : Option Param) (K : List Nat) (hm : m ≤ (pos ++ before).length) :
    AccP {pos := pos, pok := before ++ tail, va := va, kwo := kwo, vk := vk} m K ↔
    AccP {pos := pos, pok := before, va := va', kwo := kwo ++ tail.map (·.withKind .ko), vk := vk} m K := by
  have hT : (pos ++ (before ++ tail)).take m = (pos ++ before).take m := by
    rw [← List.append_assoc, List.take_append_of_le_length hm]
  have hm' : m ≤ (pos ++ (before ++ tail)).length := by
    rw [← List.append_assoc, List.length_append]
    exact Nat.le_add_right_of_le hm
  have hkw : ∀ k, (k ∈ names (before ++ tail) ∨ k ∈ names kwo) ↔
      (k ∈ names before ∨ k ∈ names (kwo ++ tail.map (·.withKind .ko))) := by
    intro k
    simp only [names_append, names_map_withKind, List.mem_append]
    rw [or_assoc, or_comm (a := k ∈ names tail)]
  unfold AccP
  simp only [hT, hkw, hm, hm', true_or, true_and]
  refine and_congr_right fun _ => ⟨fun c3 p hp hr => ?_, fun c3 p hp hr => ?_⟩
  · rcases hp with h | h | h
    · exact c3 p (Or.inl h) hr
    · exact c3 p (Or.inr (Or.inl (List.mem_append_left _ h))) hr
    · rcases List.mem_append.1 h with h | h
      · exact c3 p (Or.inr (Or.inr h)) hr
      · obtain ⟨q, hq, rfl⟩ := List.mem_map.1 h
        exact c3 q (Or.inr (Or.inl (List.mem_append_right _ hq))) hr
  · rcases hp with h | h | h
    · exact c3 p (Or.inl h) hr
    · rcases List.mem_append.1 h with h | h
      · exact c3 p (Or.inr (Or.inl h)) hr
      · exact c3 (p.withKind .ko)
          (Or.inr (Or.inr (List.mem_append_right _ (List.mem_map.2 ⟨p, h, rfl⟩)))) hr
    · exact c3 p (Or.inr (Or.inr (List.mem_append_left _ h))) hr

theorem ppop_hit {kwo conv : List Param} {bp : Param} (h1 : bp.name ∉ names kwo) (h2 : bp.name ∉ names conv) :
    ppop (kwo ++ (bp :: conv).map (·.withKind .ko)) bp.name = kwo ++ conv.map (·.withKind .ko) := by
  unfold ppop
  rw [List.filter_append, List.map_cons, List.filter_cons_of_neg (by simp)]
  show ppop kwo bp.name ++ ppop (conv.map (·.withKind .ko)) bp.name = _
  rw [ppop_of_not_mem h1, ppop_of_not_mem (by rw [names_map_withKind]; exact h2)]

/-- naming a positional-or-keyword parameter: it and everything after it become keyword-only
    (`accP_convert`), then it is removed like a keyword-only parameter (`step_kwo`).  Only the
    named parameters need distinct names. -/
theorem step_hit_named {pos before conv kwo : List Param} {bp : Param} {va vk : Option Param}
    (m : Nat) (K : List Nat)
    (hnd : (names (pos ++ (before ++ bp :: conv) ++ kwo)).Nodup) (hK : bp.name ∉ K) :
    AccP {pos := pos, pok := before, va := none, kwo := kwo ++ conv.map (·.withKind .ko), vk := vk} m K ↔
    AccP {pos := pos, pok := before ++ bp :: conv, va := va, kwo := kwo, vk := vk} m (bp.name :: K) := by
  have e : pos ++ (before ++ bp :: conv) ++ kwo = (pos ++ before) ++ bp :: (conv ++ kwo) := by simp
  rw [e] at hnd
  obtain ⟨hA, hC⟩ := nodup_names_split hnd
  rw [names_append, List.mem_append, not_or] at hC
  by_cases hm : m ≤ (pos ++ before).length
  · rw [accP_convert (bp :: conv) none _ hm, ← ppop_hit hC.2 hC.1]
    exact step_kwo m K hA hK (by simp)
  · have hin : bp.name ∈ names ((pos ++ (before ++ bp :: conv)).take m) := by
      obtain ⟨k, hk⟩ : ∃ k, m - (pos ++ before).length = k + 1 := ⟨_, (Nat.succ_pred (by omega)).symm⟩
      rw [← List.append_assoc, List.take_append, hk]
      simp
    constructor
    · intro h
      exact absurd (h.1.resolve_right (by simp)) hm
    · intro h
      exact absurd hin ((h.2.1 bp.name (by simp)).1 (Or.inl (by simp)))

theorem step_hit {pos before conv kwo : List Param} {bp : Param} {va vk : Option Param}
    (m : Nat) (K : List Nat)
    (hnd : (names (Sorted.all {pos := pos, pok := before ++ bp :: conv, va := va, kwo := kwo, vk := vk})).Nodup)
    (hK : bp.name ∉ K) :
    AccP {pos := pos, pok := before, va := none, kwo := kwo ++ conv.map (·.withKind .ko), vk := vk} m K ↔
    AccP {pos := pos, pok := before ++ bp :: conv, va := va, kwo := kwo, vk := vk} m (bp.name :: K) := by
  refine step_hit_named m K (hnd.sublist ?_) hK
  simp only [Sorted.all, names_append, List.append_assoc]
  refine List.Sublist.append_left (List.Sublist.append_left (List.Sublist.append_left ?_ _) _) _
  exact (List.sublist_append_left _ _).trans (List.sublist_append_right _ _)

theorem mem_take_or_drop {α : Type} (l : List α) (n : Nat) (a : α) :
    a ∈ l ↔ a ∈ l.take n ∨ a ∈ l.drop n := by
  rw [← List.mem_append, List.take_append_drop]

/-- the sub-signature left after consuming `n` positionals -/
def popped (s : Sorted) (n : Nat) : Sorted :=
  { pos := s.pos.drop n, pok := s.pok.drop (n - s.pos.length), va := s.va, kwo := s.kwo, vk := s.vk }

theorem take_drop_disj {s : Sorted} (hs : SWF s) (n : Nat) :
    ∀ k, k ∈ names ((s.pos ++ s.pok).take n) →
      k ∉ names (s.pos.drop n) ∧ k ∉ names (s.pok.drop (n - s.pos.length)) ∧ k ∉ names s.kwo := by
  intro k hk
  have nd := hs.nodup_pp
  rw [← List.take_append_drop n (s.pos ++ s.pok), names_append, List.drop_append, names_append] at nd
  have hd := fun h => (List.nodup_append.1 nd).2.2 k hk k h rfl
  refine ⟨fun h => hd (List.mem_append_left _ h), fun h => hd (List.mem_append_right _ h), fun h => ?_⟩
  obtain ⟨p, hp, rfl⟩ := mem_names.1 h
  rw [names_take] at hk
  exact hs.kwo_disj p hp (List.mem_of_mem_take hk)

theorem step_pop {s : Sorted} (hs : SWF s) (n m : Nat) (K : List Nat)
    (hn : n ≤ (s.pos ++ s.pok).length ∨ s.va.isSome = true) :
    ((∀ k ∈ K, k ∉ names ((s.pos ++ s.pok).take n)) → AccP (popped s n) m K → AccP s (n + m) K) ∧
    (AccP s (n + m) K → AccP (popped s n) m K) := by
  have hdj := take_drop_disj hs n
  have eD : s.pos.drop n ++ s.pok.drop (n - s.pos.length) = (s.pos ++ s.pok).drop n := List.drop_append.symm
  have hsplit : ∀ p, (p ∈ s.pos ∨ p ∈ s.pok ∨ p ∈ s.kwo) →
      (p ∈ s.pos.drop n ∨ p ∈ s.pok.drop (n - s.pos.length) ∨ p ∈ s.kwo) ∨
        p.name ∈ names ((s.pos ++ s.pok).take n) := by
    intro p hp
    rw [← or_assoc, ← List.mem_append, ← List.take_append_drop n (s.pos ++ s.pok), List.mem_append, ← eD,
      List.mem_append] at hp
    rcases hp with (h | h) | h
    · exact Or.inr (mem_names_of_mem h)
    · exact Or.inl (or_assoc.1 (Or.inl h))
    · exact Or.inl (Or.inr (Or.inr h))
  have hleft : ∀ p, (p ∈ s.pos.drop n ∨ p ∈ s.pok.drop (n - s.pos.length) ∨ p ∈ s.kwo) →
      (p ∈ s.pos ∨ p ∈ s.pok ∨ p ∈ s.kwo) ∧ p.name ∉ names ((s.pos ++ s.pok).take n) := by
    rintro p (h | h | h)
    · exact ⟨Or.inl (List.mem_of_mem_drop h), fun c => (hdj _ c).1 (mem_names_of_mem h)⟩
    · exact ⟨Or.inr (Or.inl (List.mem_of_mem_drop h)), fun c => (hdj _ c).2.1 (mem_names_of_mem h)⟩
    · exact ⟨Or.inr (Or.inr h), fun c => (hdj _ c).2.2 (mem_names_of_mem h)⟩
  have hkw : ∀ x, (x ∈ names (s.pok.drop (n - s.pos.length)) ∨ x ∈ names s.kwo) ↔
      (x ∈ names s.pok ∨ x ∈ names s.kwo) ∧ x ∉ names ((s.pos ++ s.pok).take n) := by
    intro x
    constructor
    · intro h
      refine ⟨h.imp_left fun h => by rw [names_drop] at h; exact List.mem_of_mem_drop h, fun c => ?_⟩
      exact h.elim (hdj x c).2.1 (hdj x c).2.2
    · rintro ⟨h, c⟩
      refine h.imp_left fun h => ?_
      rw [← List.take_append_drop (n - s.pos.length) s.pok, names_append, List.mem_append] at h
      exact h.resolve_left fun h => c (by rw [List.take_append, names_append]; exact List.mem_append_right _ h)
  have hT : ∀ x, x ∈ names ((s.pos ++ s.pok).take (n + m)) ↔
      x ∈ names ((s.pos ++ s.pok).take n) ∨ x ∈ names (((s.pos ++ s.pok).drop n).take m) := fun x => by
    rw [List.take_add, names_append, List.mem_append]
  unfold AccP popped
  simp only [eD, List.length_drop, hkw, hT]
  constructor
  · rintro hK ⟨c1, c2, c3⟩
    refine ⟨?_, fun k hk => ?_, fun p hp hr => ?_⟩
    · rcases c1 with c1 | c1
      · exact hn.imp_left fun hn => Nat.add_le_of_le_sub' hn c1
      · exact Or.inr c1
    · have := c2 k hk
      simp only [hK k hk, not_false_eq_true, and_true, false_or] at this ⊢
      exact this
    · rcases hsplit p hp with h | h
      · have := c3 p h hr
        simp only [(hleft p h).2, not_false_eq_true, and_true, false_or] at this ⊢
        exact this
      · exact Or.inr (Or.inl h)
  · rintro ⟨c1, c2, c3⟩
    refine ⟨c1.imp_left Nat.le_sub_of_add_le', fun k hk => ⟨fun h => ?_, fun h => ?_⟩, fun p hp hr => ?_⟩
    · exact fun c => (c2 k hk).1 h.1 (Or.inr c)
    · -- a keyword that names a consumed parameter can only have gone to `**kwargs`
      refine (c2 k hk).2 fun h' => h ⟨h', fun c => (c2 k hk).1 h' (Or.inl c)⟩
    · obtain ⟨hp', hc⟩ := hleft p hp
      have := c3 p hp' hr
      simp only [hc, not_false_eq_true, and_true, false_or] at this ⊢
      exact this

theorem swf_hit {pos before conv kwo : List Param} {bp : Param} {va vk : Option Param}
    (h : SWF {pos := pos, pok := before ++ bp :: conv, va := va, kwo := kwo, vk := vk}) :
    SWF {pos := pos, pok := before, va := none, kwo := kwo ++ conv.map (·.withKind .ko), vk := vk} := by
  obtain ⟨bk, nd, df⟩ := h
  refine ⟨⟨bk.pos, fun p hp => bk.pok p (List.mem_append_left _ hp), ?_, ?_, bk.vk⟩, ?_, ?_⟩
  · intro p hp
    cases hp
  · intro p hp
    rcases List.mem_append.1 hp with hp | hp
    · exact bk.kwo p hp
    · obtain ⟨q, -, rfl⟩ := List.mem_map.1 hp
      rfl
  · -- the new names are a rearrangement of the old ones without `bp` and `*args`
    simp only [Sorted.all, names_append, names_cons, names_map_withKind, names_toList_none,
      List.nil_append, List.cons_append, List.append_assoc] at nd ⊢
    refine ((List.perm_append_comm_assoc _ _ _).append_left _ |>.append_left _).nodup_iff.2
      (nd.sublist ?_)
    refine List.Sublist.append_left (List.Sublist.append_left ?_ _) _
    exact List.Sublist.cons _ (List.Sublist.append_left (List.sublist_append_right _ _) _)
  · rw [← List.append_assoc] at df
    exact (List.pairwise_append.1 df).1

theorem swf_sub {s s' : Sorted} (h : SWF s)
    (hpp : (s'.pos ++ s'.pok).Sublist (s.pos ++ s.pok))
    (hpos : ∀ p ∈ s'.pos, p ∈ s.pos) (hpok : ∀ p ∈ s'.pok, p ∈ s.pok)
    (hva : s'.va = none ∨ s'.va = s.va) (hkwo : s'.kwo.Sublist s.kwo)
    (hvk : s'.vk = none ∨ s'.vk = s.vk) : SWF s' := by
  obtain ⟨bk, nd, df⟩ := h
  have sva : s'.va.toList.Sublist s.va.toList := by
    rcases hva with e | e <;> rw [e]
    · simp
    · exact List.Sublist.refl _
  have svk : s'.vk.toList.Sublist s.vk.toList := by
    rcases hvk with e | e <;> rw [e]
    · simp
    · exact List.Sublist.refl _
  refine ⟨⟨fun p hp => bk.pos p (hpos p hp), fun p hp => bk.pok p (hpok p hp), ?_,
    fun p hp => bk.kwo p (hkwo.subset hp), ?_⟩, ?_, df.sublist hpp⟩
  · intro p hp
    rcases hva with e | e
    · rw [e] at hp; cases hp
    · rw [e] at hp; exact bk.va p hp
  · intro p hp
    rcases hvk with e | e
    · rw [e] at hp; cases hp
    · rw [e] at hp; exact bk.vk p hp
  · refine nd.sublist ?_
    unfold names
    apply List.Sublist.map
    unfold Sorted.all
    exact ((hpp.append sva).append hkwo).append svk

theorem swf_kwo {pos pok kwo : List Param} {va vk : Option Param} (x : Nat)
    (h : SWF {pos := pos, pok := pok, va := va, kwo := kwo, vk := vk}) :
    SWF {pos := pos, pok := pok, va := va, kwo := ppop kwo x, vk := vk} :=
  swf_sub h (List.Sublist.refl _) (fun _ hp => hp) (fun _ hp => hp) (Or.inr rfl) (ppop_sublist kwo x)
    (Or.inr rfl)

theorem not_mem_names_toList {o : Option Param} {x : Nat} :
    x ∉ names o.toList ↔ ∀ a, o = some a → a.name ≠ x := by
  cases o with
  | none => simp
  | some a => simp [eq_comm]

theorem hit_fresh {pos before conv kwo : List Param} {bp : Param} {va vk : Option Param}
    (h : (names (Sorted.all {pos := pos, pok := before ++ bp :: conv, va := va, kwo := kwo, vk := vk})).Nodup) :
    bp.name ∉ names (Sorted.all
      {pos := pos, pok := before, va := none, kwo := kwo ++ conv.map (·.withKind .ko), vk := vk}) := by
  have e : Sorted.all {pos := pos, pok := before ++ bp :: conv, va := va, kwo := kwo, vk := vk} =
      (pos ++ before) ++ bp :: (conv ++ va.toList ++ kwo ++ vk.toList) := by
    simp only [Sorted.all, List.append_assoc, List.cons_append]
  rw [e, names_append, names_cons] at h
  have := (List.nodup_cons.1 ((List.perm_middle.nodup_iff).1 h)).1
  simp only [Sorted.all, names_append, names_map_withKind, names_toList_none, List.mem_append,
    List.append_nil, not_or] at this ⊢
  exact ⟨⟨⟨this.1.1, this.1.2⟩, this.2.1.2, this.2.1.1.1⟩, this.2.2⟩

theorem swf_snoc_kwo {pos pok kwo : List Param} {va vk : Option Param} {px : Param}
    (h : SWF {pos := pos, pok := pok, va := va, kwo := kwo, vk := vk}) (hk : px.kind = .ko)
    (hx : px.name ∉ names (Sorted.all {pos := pos, pok := pok, va := va, kwo := kwo, vk := vk})) :
    SWF {pos := pos, pok := pok, va := va, kwo := kwo ++ [px], vk := vk} := by
  obtain ⟨bk, nd, df⟩ := h
  refine ⟨⟨bk.pos, bk.pok, bk.va, ?_, bk.vk⟩, ?_, df⟩
  · intro p hp
    rcases List.mem_append.1 hp with hp | hp
    · exact bk.kwo p hp
    · rw [List.mem_singleton.1 hp]; exact hk
  · have e : Sorted.all {pos := pos, pok := pok, va := va, kwo := kwo ++ [px], vk := vk} =
        (pos ++ pok ++ va.toList ++ kwo) ++ px :: vk.toList := by
      simp only [Sorted.all, List.append_assoc, List.cons_append, List.nil_append]
    rw [e, names_append, names_cons]
    refine (List.perm_middle.nodup_iff).2 (List.nodup_cons.2 ⟨?_, ?_⟩)
    · rw [← names_append]; exact hx
    · rw [← names_append]; exact nd

theorem swf_pset_kwo {pos pok kwo : List Param} {va vk : Option Param} {px : Param}
    (h : SWF {pos := pos, pok := pok, va := va, kwo := kwo, vk := vk}) (hk : px.kind = .ko)
    (hx : px.name ∈ names kwo) :
    SWF {pos := pos, pok := pok, va := va, kwo := pset kwo px, vk := vk} := by
  obtain ⟨bk, nd, df⟩ := h
  refine ⟨⟨bk.pos, bk.pok, bk.va, ?_, bk.vk⟩, ?_, df⟩
  · intro p hp
    rcases mem_pset hp with hp | rfl
    · exact bk.kwo p hp
    · exact hk
  · simp only [Sorted.all, names_append, names_pset_of_mem hx] at nd ⊢
    exact nd

theorem mem_cons_filter_ne {x y : Nat} {K : List Nat} :
    y ∈ x :: K.filter (fun k => decide (k ≠ x)) ↔ y = x ∨ y ∈ K := by
  rw [List.mem_cons, List.mem_filter, decide_eq_true_eq]
  by_cases hy : y = x <;> simp [hy]

theorem accP_congr_K {s : Sorted} {m : Nat} {K K' : List Nat} (h : ∀ y, y ∈ K ↔ y ∈ K') :
    AccP s m K ↔ AccP s m K' := by
  unfold AccP
  simp only [h]

theorem accP_addopt {pos pok kwo kwo' : List Param} {va vk : Option Param} {px : Param}
    (hkwo : ∀ p, p ∈ kwo' ↔ p ∈ kwo ∨ p = px) (hreq : px.required = false)
    (hx1 : px.name ∉ names (pos ++ pok)) (hx2 : px.name ∉ names kwo) (m : Nat) (K : List Nat) :
    AccP { pos := pos, pok := pok, va := va, kwo := kwo', vk := vk } m K ↔
    AccP { pos := pos, pok := pok, va := va, kwo := kwo, vk := vk } m
      (K.filter (fun k => decide (k ≠ px.name))) := by
  have hne : ∀ p ∈ kwo, p.name ≠ px.name := fun p hp e => hx2 (e ▸ mem_names_of_mem hp)
  refine (accP_take_out (kwo' := kwo) (fun p => ?_) hx1 (mem_names_of_mem ((hkwo px).2 (Or.inr rfl))) m K).trans
    (and_iff_right ?_)
  · rw [hkwo]
    exact ⟨fun h => ⟨Or.inl h, hne p h⟩, fun h => h.1.resolve_right fun e => h.2 (e ▸ rfl)⟩
  · rintro ⟨p, hp, e, hr⟩
    rcases (hkwo p).1 hp with h | rfl
    · exact absurd e (hne p h)
    · rw [hreq] at hr
      cases hr

end SV
