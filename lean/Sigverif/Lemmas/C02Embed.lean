/-
  Lemmas/C02Embed.lean — `embedStep` = merge with the forwarded stars, then a "tail" that
  checks names and concatenates.  Its closed form (`embedStep_closed`): the name checks as one
  fold over the lists checked (`checkAll`), which succeeds exactly when no name is collected
  twice, then the record `embedRes`.
-/
import Sigverif.Lemmas.C02Merge
import Sigverif.Lemmas.Eval
namespace SV

def innerFirstRequired (i : Sorted) : Bool :=
  match i.pos with
  | ip0 :: _ => ip0.dflt.isNone
  | [] => match i.pok with
    | q0 :: _ => q0.dflt.isNone
    | [] => false

def cdIf (c : Bool) (l : List Param) : List Param := if c then clearDefaults l else l

@[simp] theorem names_cdIf (c : Bool) (l : List Param) : names (cdIf c l) = names l := by
  cases c <;> simp [cdIf]

def ePosC (O i : Sorted) : List Param :=
  if i.pos.isEmpty then cdIf (innerFirstRequired i) O.pos
  else cdIf (innerFirstRequired i) (O.pos ++ O.pok.map (·.withKind .po)) ++ i.pos

def ePokC (O i : Sorted) : List Param :=
  (if i.pos.isEmpty then cdIf (innerFirstRequired i) O.pok else []) ++ i.pok

theorem cdIf_append (c : Bool) (a b : List Param) : cdIf c (a ++ b) = cdIf c a ++ cdIf c b := by
  cases c
  · rfl
  · exact List.map_append

theorem ePosC_append_ePokC (O i : Sorted) :
    ePosC O i ++ ePokC O i =
      cdIf (innerFirstRequired i)
        (if i.pos.isEmpty then O.pos ++ O.pok else O.pos ++ O.pok.map (·.withKind .po)) ++ (i.pos ++ i.pok) := by
  unfold ePosC ePokC
  by_cases he : i.pos.isEmpty = true
  · rw [if_pos he, if_pos he, if_pos he, List.isEmpty_iff.1 he, cdIf_append, List.nil_append,
      List.append_assoc]
  · rw [if_neg he, if_neg he, if_neg he, List.nil_append, List.append_assoc]

theorem names_ePosC_ePokC (O i : Sorted) :
    names (ePosC O i ++ ePokC O i) = names (O.pos ++ O.pok) ++ names (i.pos ++ i.pok) := by
  rw [ePosC_append_ePokC, names_append, names_cdIf]
  split
  · rfl
  · rw [names_append, names_map_withKind, ← names_append]

/-- closed form (buckets only) of the part of `embedStep` after the merge -/
def embedTailC (O i : Sorted) (uva uvk : Bool) : Except Err Sorted := do
  let nm ← checkNoDupes [] O.pos
  let nm ← checkNoDupes nm O.pok
  let nm ← checkNoDupes nm i.pos
  let nm ← checkNoDupes nm i.pok
  let nm ← checkNoDupes nm O.kwo
  let nm ← checkNoDupes nm i.kwo
  let nm ← checkNoDupes nm (if uva then i.va else O.va).toList
  let _ ← checkNoDupes nm (if uvk then i.vk else O.vk).toList
  pure { pos := ePosC O i, pok := ePokC O i, va := if uva then i.va else O.va,
         kwo := pupdate (pupdate [] O.kwo) i.kwo, vk := if uvk then i.vk else O.vk }

theorem checkNoDupes_nil (c : List Nat) : checkNoDupes c [] = pure c := by
  simp [checkNoDupes, pure, Except.pure]

theorem Except.map_pure' {ε β γ} (b : β) (g : β → γ) : (pure b : Except ε β).map g = pure (g b) :=
  rfl

theorem checkNoDupes_ok {c c' : List Nat} {ps : List Param} (h : checkNoDupes c ps = .ok c') :
    (∀ x ∈ names ps, x ∉ c) ∧ c' = c ++ names ps := by
  unfold checkNoDupes at h
  split at h
  · cases h
  · rename_i hh
    cases h
    refine ⟨?_, rfl⟩
    intro x hx hc
    apply hh
    simp only [List.any_eq_true, List.contains_iff_mem]
    exact ⟨x, hx, by simpa using hc⟩

theorem checkNoDupes_error {c : List Nat} {ps : List Param} {e : Err}
    (h : checkNoDupes c ps = .error e) : ∃ x ∈ names ps, x ∈ c := by
  unfold checkNoDupes at h
  split at h
  · rename_i hh
    simp only [List.any_eq_true, List.contains_iff_mem] at hh
    obtain ⟨x, hx, hc⟩ := hh
    exact ⟨x, hx, by simpa using hc⟩
  · cases h

def checkAll : List (List Param) → List Nat → Except Err (List Nat)
  | [], c => pure c
  | l :: ls, c => checkNoDupes c l >>= checkAll ls

theorem checkAll_fresh {ls : List (List Param)} {c c' : List Nat} (h : checkAll ls c = .ok c')
    {pre post : List (List Param)} {l : List Param} (e : ls = pre ++ l :: post) :
    ∀ x ∈ names l, x ∉ c ++ names pre.flatten := by
  induction pre generalizing ls c with
  | nil =>
    subst e
    cases h1 : checkNoDupes c l with
    | error e => simp only [List.nil_append, checkAll, h1] at h; cases h
    | ok c1 => simpa using (checkNoDupes_ok h1).1
  | cons p pre ih =>
    subst e
    cases h1 : checkNoDupes c p with
    | error e => simp only [List.cons_append, checkAll, h1] at h; cases h
    | ok c1 =>
      simp only [List.cons_append, checkAll, h1] at h
      obtain ⟨-, rfl⟩ := checkNoDupes_ok h1
      simpa only [List.flatten_cons, names_append, List.append_assoc] using ih h rfl

theorem checkAll_error {ls : List (List Param)} {c : List Nat} {e : Err}
    (h : checkAll ls c = .error e) : ¬ (c ++ names ls.flatten).Nodup := by
  induction ls generalizing c with
  | nil => cases h
  | cons l ls ih =>
    intro hn
    simp only [List.flatten_cons, names_append, ← List.append_assoc] at hn
    cases h1 : checkNoDupes c l with
    | error e' =>
      obtain ⟨x, hx, hxc⟩ := checkNoDupes_error h1
      exact (List.nodup_append.1 (List.nodup_append.1 hn).1).2.2 x hxc x hx rfl
    | ok c1 =>
      simp only [checkAll, h1] at h
      obtain ⟨-, rfl⟩ := checkNoDupes_ok h1
      exact ih h hn

/-- the lists `_embed` checks with `_check_no_dupes`, in the order of its checks -/
def tailLists (O i : Sorted) (uva uvk : Bool) : List (List Param) :=
  [O.pos, O.pok, i.pos, i.pok, O.kwo, i.kwo, (if uva then i.va else O.va).toList,
    (if uvk then i.vk else O.vk).toList]

/-- the operand `_embed` merges into the inner signature: the star parameters of `O` that are
    forwarded -/
def stars (O : Sorted) (uva uvk : Bool) : Sorted :=
  { va := if uva then O.va else none, vk := if uvk then O.vk else none }

/-- a star parameter that is forwarded (`use`) gives up its entry -/
def dropStar (use : Bool) (v : Option Param) (d : Srcs) : Srcs :=
  match v with | some p => if use then dpop d p.name else d | none => d

def outerSrc (O : Sorted) (uva uvk : Bool) : Srcs := dropStar uvk O.vk (dropStar uva O.va O.src)

/-- what `_embed` returns once the merge has given `i` and the name checks have passed -/
def embedRes (O i : Sorted) (uva uvk : Bool) (d : Nat) : Sorted :=
  { pos := ePosC O i, pok := ePokC O i, va := if uva then i.va else O.va,
    kwo := pupdate (pupdate [] O.kwo) i.kwo, vk := if uvk then i.vk else O.vk,
    src := dupdate i.src (outerSrc O uva uvk),
    depths := mergeDepths O.depths (copyDepths i.depths d) }

/-- After the merge the two sides differ only in
    where the result lists are computed: the model between the checks, `embedRes` after them; the
    monad laws bring both to the same chain of checks. -/
theorem embedStep_closed (O I : Sorted) (uva uvk : Bool) (d : Nat) :
    embedStep O I uva uvk d =
      mergeStep I (stars O uva uvk) >>= fun i =>
        (checkAll (tailLists O i uva uvk) []).map fun _ => embedRes O i uva uvk d := by
  unfold embedStep
  refine congrArg _ (funext fun i => ?_)
  -- with the inner buckets (and the default of the first inner parameter) taken apart, the
  -- case analyses of `embedStep`, `ePosC` and `ePokC` all evaluate
  obtain ⟨ipos, ipok, iva, ikwo, ivk, isrc, idep⟩ := i
  simp only [tailLists, checkAll, exceptMap_bind, Except.map_pure']
  cases ipos with
  | cons ip0 t =>
    simp only [bind_assoc, pure_bind]
    rfl
  | nil =>
    cases ipok with
    | nil =>
      simp only [bind_assoc, pure_bind, checkNoDupes_nil]
      rfl
    | cons q0 t =>
      obtain ⟨qn, qk, qd, qa, qu⟩ := q0
      cases qd with
      | none =>
        simp only [bind_assoc, pure_bind, checkNoDupes_nil]
        rfl
      | some v =>
        simp only [bind_assoc, pure_bind, checkNoDupes_nil]
        rfl

theorem embedStep_ok_iff {O I R : Sorted} {uva uvk : Bool} {d : Nat} :
    embedStep O I uva uvk d = .ok R ↔
      ∃ i c, mergeStep I (stars O uva uvk) = .ok i ∧ checkAll (tailLists O i uva uvk) [] = .ok c ∧
        R = embedRes O i uva uvk d := by
  rw [embedStep_closed]
  constructor
  · intro h
    obtain ⟨i, hi, h⟩ := bind_eq_ok h
    obtain ⟨c, hc, h⟩ := map_eq_ok h
    exact ⟨i, c, hi, hc, h.symm⟩
  · rintro ⟨i, c, hi, hc, rfl⟩
    rw [hi]
    show (checkAll _ []).map _ = _
    rw [hc]
    rfl

theorem embedStep_error {O I : Sorted} {uva uvk : Bool} {d : Nat} {e : Err}
    (h : embedStep O I uva uvk d = .error e) :
    mergeStep I (stars O uva uvk) = .error e ∨
      ∃ i, mergeStep I (stars O uva uvk) = .ok i ∧ checkAll (tailLists O i uva uvk) [] = .error e := by
  rw [embedStep_closed] at h
  rcases bind_eq_error h with h | ⟨i, hi, h⟩
  · exact .inl h
  · exact .inr ⟨i, hi, map_eq_error h⟩

def tailNames (O i : Sorted) (uva uvk : Bool) : List Nat := names (tailLists O i uva uvk).flatten

/-- What a signature contributes to the result of `_embed`: its named parameters, and a star
    parameter when that one is taken from it. -/
def contrib (S : Sorted) (a k : Bool) : List Param :=
  S.pos ++ S.pok ++ (if a then S.va.toList else []) ++ S.kwo ++ (if k then S.vk.toList else [])

theorem count_tailNames (O i : Sorted) (uva uvk : Bool) (x : Nat) :
    (tailNames O i uva uvk).count x =
      (names (contrib O (!uva) (!uvk))).count x + (names (contrib i uva uvk)).count x := by
  have pick : ∀ (b : Bool) (l r : Option Param), (names (if b then l else r).toList).count x =
      (names (if !b then r.toList else [])).count x + (names (if b then l.toList else [])).count x := by
    intro b l r
    cases b <;> simp
  simp only [tailNames, tailLists, List.flatten_cons, List.flatten_nil, List.append_nil, contrib,
    names_append, List.count_append, pick]
  omega

theorem embedTailC_eq (O i : Sorted) (uva uvk : Bool) :
    embedTailC O i uva uvk =
      checkAll (tailLists O i uva uvk) [] >>= fun _ =>
      pure { pos := ePosC O i, pok := ePokC O i, va := if uva then i.va else O.va,
             kwo := pupdate (pupdate [] O.kwo) i.kwo, vk := if uvk then i.vk else O.vk } := by
  simp only [embedTailC, tailLists, checkAll, bind_assoc, pure_bind]

/-- `embedStep` in the form the kernel evaluates: the closed form over the evaluable twin of the
    merge.  Closed calls: `simp only [embed, embedFold, embedStep_evalEq]; exact eq_ok_of (by decide +kernel)`,
    with `forwards` in front of the list for `forwards`. -/
theorem embedStep_evalEq (outer inner : Sorted) (uva uvk : Bool) (depth : Nat) :
    embedStep outer inner uva uvk depth =
      mergeStepS inner (stars outer uva uvk) >>= fun i =>
        (checkAll (tailLists outer i uva uvk) []).map fun _ => embedRes outer i uva uvk depth := by
  rw [embedStep_closed, mergeStep_eq]

end SV
