/-
  Lemmas/C05Def.lean — the walker cannot tell a body with NAMED nested definitions
  (`renderNamed sub p`, what the real code sees since repair D85) from the body in which every
  `def sub(): …` is written out as `sub = <object>` followed by the anonymous function
  (`render (dsProg sub p)`): same visitor state after the body, hence — the revisit loop being
  independent of its fuel once it suffices — the same call records.
-/
import Sigverif.Model.GrammarDef
import Sigverif.Lemmas.C05Nest
import Sigverif.Props.C05Total
namespace SV
open Flat

theorem render_nameStmt (sub va vk : Nat) :
    renderS va vk (nameStmt sub va vk) = stmtOf (some sub) constT := by
  unfold nameStmt
  split
  · next h => subst h; simp [renderS]
  · split
    · next h => subst h; simp [renderS]
    · simp [renderS]

theorem visit_namedDef (sub : Nat) (f : Tree) (st : VState) :
    visit false (namedDef sub f) st = visit false f (visit false (stmtOf (some sub) constT) st) := by
  simp [namedDef, stmtOf, constT, visit, visitList]

theorem visitDSL (sub va vk : Nat) : ∀ (l : StmtList) (st : VState),
    visitList (renderDSL sub va vk l) st = visitList (renderSL va vk (dsSL sub va vk l)) st
  | .nil, st => by simp [renderDSL, dsSL, renderSL]
  | .cons s rest, st => by
    have ih := visitDSL sub va vk rest
    cases s with
    | nested body =>
      simp only [renderDSL, dsSL, renderSL, visitList_cons, renderDS, render_nameStmt, visit_namedDef, renderS]
      exact ih _
    | nonlocalRebind s =>
      simp only [renderDSL, dsSL, renderSL, visitList_cons, renderDS, render_nameStmt, visit_namedDef]
      exact ih _
    | block body =>
      simp only [renderDSL, dsSL, renderSL, visitList_cons, renderDS, renderS, visit, visit_const]
      rw [visitDSL sub va vk body st]
      exact ih _
    | _ =>
      simp only [renderDSL, dsSL, renderSL, visitList_cons, renderDS]
      exact ih _

theorem visitDS_block (sub va vk : Nat) : ∀ (body : StmtList) (st : VState),
      visit false (renderDS sub va vk (.block body)) st =
        visit false (renderS va vk (.block (dsSL sub va vk body))) st
    | body, st => by
      simp only [renderDS, renderS, visit, visitList]
      exact visitDSL sub va vk body _

theorem revisitLoop_mono : ∀ (f i : Nat) (st a : VState), revisitLoop f i st = some a →
    ∀ f', f ≤ f' → revisitLoop f' i st = some a
  | 0, i, st, a, h, f', _ => by
    -- without fuel the loop only returns when the queue is exhausted
    have hi : st.revisit.length ≤ i :=
      Nat.le_of_not_lt fun hlt => by rw [revisitLoop, if_pos hlt] at h; cases h
    rw [revisitLoop_done hi] at h ⊢
    exact h
  | f + 1, i, st, a, h, f', hle => by
    obtain ⟨f', rfl⟩ : ∃ k, f' = k + 1 := ⟨f' - 1, by omega⟩
    cases hg : st.revisit[i]? with
    | none =>
      rw [revisitLoop_done (List.getElem?_eq_none_iff.1 hg)] at h ⊢
      exact h
    | some e =>
      rw [revisitLoop_step hg] at h ⊢
      exact revisitLoop_mono f (i + 1) _ a h f' (by omega)

theorem revisitLoop_fuel_irrel (f1 f2 i : Nat) (st a b : VState)
    (h1 : revisitLoop f1 i st = some a) (h2 : revisitLoop f2 i st = some b) : a = b := by
  rcases Nat.le_total f1 f2 with h | h
  · exact Option.some.inj ((revisitLoop_mono f1 i st a h1 f2 h).symm.trans h2)
  · exact Option.some.inj (h1.symm.trans (revisitLoop_mono f2 i st b h2 f1 h))

theorem runVisitor_renderNamed (sub : Nat) (p : Prog) :
    runVisitor (renderNamed sub p) = runVisitor (render (dsProg sub p)) := by
  obtain ⟨cs1, h1⟩ := visitor_total [] p.params [] (some p.va) (some p.vk) (renderDSL sub p.va p.vk p.body)
  obtain ⟨cs2, h2⟩ := visitor_total [] p.params [] (some p.va) (some p.vk)
    (renderSL p.va p.vk (dsSL sub p.va p.vk p.body))
  have e1 : runVisitor (renderNamed sub p) = .ok cs1 := h1
  have e2 : runVisitor (render (dsProg sub p)) = .ok cs2 := h2
  rw [e1, e2]
  simp only [runVisitor] at h1 h2
  rw [visitDSL] at h1
  split at h1
  · next s1 hs1 =>
    split at h2
    · next s2 hs2 =>
      have := revisitLoop_fuel_irrel _ _ _ _ _ _ hs1 hs2
      subst this
      cases h1; cases h2; rfl
    · cases h2
  · cases h1

end SV
