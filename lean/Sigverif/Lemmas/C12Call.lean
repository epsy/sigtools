/-
  Lemmas/C12Call.lean — comparing the call through the translator with the native call.
-/
import Sigverif.Lemmas.C12Trans
import Sigverif.Lemmas.C12Spec
namespace SV

theorem dfltOf_none {l : List Param} {x : Nat} (h : ∀ p ∈ l, p.name ≠ x) : dfltOf l x = none := by
  simp only [dfltOf]
  rw [List.find?_eq_none.2]
  · rfl
  · intro p hp; simpa using h p hp

theorem dget_map_named_none {l : List Param} (val : Param → Nat) {x : Nat}
    (h : ∀ f ∈ l, f.name ≠ x) : dget (l.map (fun f => (f.name, val f))) x = none := by
  rw [dget_eq_none_iff]
  simp only [dkeys, List.map_map, List.mem_map, Function.comp, not_exists, not_and]
  intro f hf; exact h f hf

/-- what relates the function's signature `F` to the advertised one `A`; `P`: the names made positional-only, `w`: the
    positional parameters of `F` made keyword-only. -/
structure CallRel (F A : List Param) (P : List Nat) (w : Param → Bool) : Prop where
  hnF : NamesDistinct F
  hnA : NamesDistinct A
  hva : hasVa A = hasVa F
  hvk : hasVk A = hasVk F
  hkw : ∀ x, x ∈ kwNames A ↔ x ∈ kwNames F ∧ x ∉ P
  hnamed : ∀ x d, (∃ p ∈ A, isNamed p = true ∧ p.name = x ∧ p.dflt = d) ↔
                  (∃ p ∈ F, isNamed p = true ∧ p.name = x ∧ p.dflt = d)
  hpos : ∀ args, posNamed (positionals A) args =
                 posNamed ((positionals F).filter (fun p => !w p)) args
  hposlen : (positionals A).length = ((positionals F).filter (fun p => !w p)).length
  hw : ∀ f ∈ positionals F, w f = true → f.name ∈ kwNames A

/-- the translated call -/
def trArgs (F : List Param) (w : Param → Bool) (args : List Nat) (kwargs : List (Nat × Nat)) :
    List Nat := fill w (valOf kwargs) (positionals F) args
def trKw (F : List Param) (w : Param → Bool) (args : List Nat) (kwargs : List (Nat × Nat)) :
    List (Nat × Nat) :=
  kwargs.filter (fun kv => !(names (filledW w (positionals F) args)).contains kv.1)

theorem mem_named_of_positional {F : List Param} {f : Param} (h : f ∈ positionals F) : f ∈ F.filter isNamed := by
  obtain ⟨h1, h2⟩ := List.mem_filter.1 h
  refine List.mem_filter.2 ⟨h1, ?_⟩
  simp only [isPositional, isNamed, Bool.or_eq_true] at h2 ⊢
  exact Or.inl h2

section
variable {F A : List Param} {P : List Nat} {w : Param → Bool} (R : CallRel F A P w)
variable (args : List Nat) (kwargs : List (Nat × Nat))
include R

theorem CallRel.forall_named (Q : Nat → Prop) :
    (∀ p ∈ F.filter isNamed, Q p.name) ↔ (∀ p ∈ A.filter isNamed, Q p.name) := by
  constructor
  · intro h p hp
    obtain ⟨hp1, hp2⟩ := List.mem_filter.1 hp
    obtain ⟨q, hq, hqn, hqx, -⟩ := (R.hnamed p.name p.dflt).1 ⟨p, hp1, hp2, rfl, rfl⟩
    exact hqx ▸ h q (List.mem_filter.2 ⟨hq, hqn⟩)
  · intro h p hp
    obtain ⟨hp1, hp2⟩ := List.mem_filter.1 hp
    obtain ⟨q, hq, hqn, hqx, -⟩ := (R.hnamed p.name p.dflt).2 ⟨p, hp1, hp2, rfl, rfl⟩
    exact hqx ▸ h q (List.mem_filter.2 ⟨hq, hqn⟩)

theorem CallRel.dfltOf_eq (x : Nat) :
    dfltOf (A.filter isNamed) x = dfltOf (F.filter isNamed) x := by
  by_cases h : ∃ p ∈ F.filter isNamed, p.name = x
  · obtain ⟨p, hp, rfl⟩ := h
    obtain ⟨hp1, hp2⟩ := List.mem_filter.1 hp
    obtain ⟨q, hq, hqn, hqx, hqd⟩ := (R.hnamed p.name p.dflt).2 ⟨p, hp1, hp2, rfl, rfl⟩
    rw [dfltOf_of_mem (R.hnF.filter isNamed) hp, ← hqx,
      dfltOf_of_mem (R.hnA.filter isNamed) (List.mem_filter.2 ⟨hq, hqn⟩), hqd]
  · have h' : ∀ p ∈ F.filter isNamed, p.name ≠ x := fun p hp hx => h ⟨p, hp, hx⟩
    rw [dfltOf_none h', dfltOf_none ((R.forall_named (· ≠ x)).1 h')]

theorem CallRel.posA_none {f : Param} (hf : f ∈ positionals F) (hwf : w f = true) :
    dget (posNamed (positionals A) args) f.name = none := by
  rw [R.hpos]
  apply dget_posNamed_none
  intro p hp hx
  obtain ⟨hp1, hp2⟩ := List.mem_filter.1 hp
  have := (R.hnF.filter isPositional).eq_of_name hp1 hf hx
  subst this
  simp [hwf] at hp2

theorem CallRel.posF (x : Nat) :
    dget (posNamed (positionals F) (trArgs F w args kwargs)) x =
      (dget (posNamed (positionals A) args) x).or
        (dget ((filledW w (positionals F) args).map (fun f => (f.name, valOf kwargs f))) x) := by
  rw [R.hpos]
  exact fill_posNamed w (valOf kwargs) (positionals F) args (R.hnF.filter isPositional) x

theorem CallRel.posF_not_filled (x : Nat) (hx : x ∉ names (filledW w (positionals F) args)) :
    dget (posNamed (positionals F) (trArgs F w args kwargs)) x =
      dget (posNamed (positionals A) args) x := by
  rw [R.posF, dget_map_named_none]
  · simp
  · intro f hf hfx
    exact hx (List.mem_map.2 ⟨f, hf, hfx⟩)

theorem CallRel.drop_eq :
    (trArgs F w args kwargs).drop (positionals F).length = args.drop (positionals A).length := by
  rw [R.hposlen]; exact fill_drop w (valOf kwargs) (positionals F) args

theorem CallRel.callMap_of_w {f : Param} (hf : f ∈ positionals F) (hw : w f = true) :
    callMap A args kwargs f.name = (dget kwargs f.name).or f.dflt := by
  rw [callMap, dget_append, R.posA_none args hf hw, Option.none_or, kwPart,
    dget_filter_key _ (fun k => (kwNames A).contains k), List.contains_iff_mem.2 (R.hw f hf hw), if_pos rfl, R.dfltOf_eq,
    dfltOf_of_mem (R.hnF.filter isNamed) (mem_named_of_positional hf)]

theorem CallRel.not_callOK_of_missing {f : Param} (hf : f ∈ positionals F) (hw : w f = true)
    (hv : (dget kwargs f.name).or f.dflt = none) : ¬ callOK A args kwargs := by
  rintro ⟨-, -, h3⟩
  have := (R.forall_named fun x => (callMap A args kwargs x).isSome = true).2 h3 f (mem_named_of_positional hf)
  rw [R.callMap_of_w args kwargs hf hw, hv] at this
  cases this

theorem CallRel.kw_of_filled {f : Param} (hf : f ∈ filledW w (positionals F) args) : f.name ∈ kwNames F :=
  ((R.hkw _).1 (R.hw f (mem_filledW hf).1 (mem_filledW hf).2)).1

variable (hnoP : ∀ kv ∈ kwargs, kv.1 ∉ P)
include hnoP

theorem CallRel.contains_kwNames {kv : Nat × Nat} (hkv : kv ∈ kwargs) :
    (kwNames A).contains kv.1 = (kwNames F).contains kv.1 := by
  rw [Bool.eq_iff_iff, List.contains_iff_mem, List.contains_iff_mem, R.hkw]
  exact and_iff_left (hnoP kv hkv)

theorem CallRel.kwPart_eq :
    kwPart F (trKw F w args kwargs) =
      (kwPart A kwargs).filter (fun kv => !(names (filledW w (positionals F) args)).contains kv.1) := by
  unfold kwPart trKw
  rw [List.filter_filter, List.filter_filter]
  exact List.filter_congr fun kv hkv => by rw [R.contains_kwNames kwargs hnoP hkv, Bool.and_comm]

theorem CallRel.extraPart_eq : extraPart F (trKw F w args kwargs) = extraPart A kwargs := by
  unfold extraPart trKw
  rw [List.filter_filter]
  refine List.filter_congr fun kv hkv => ?_
  rw [R.contains_kwNames kwargs hnoP hkv]
  cases hc : (kwNames F).contains kv.1
  · -- what the translator filled in is a keyword of `F`
    cases hx : (names (filledW w (positionals F) args)).contains kv.1
    · rfl
    · obtain ⟨f, hf, hfx⟩ := List.mem_map.1 (List.contains_iff_mem.1 hx)
      rw [← hfx, List.contains_iff_mem.2 (R.kw_of_filled args hf)] at hc
      cases hc
  · rfl

variable (hval : ∀ f ∈ positionals F, w f = true → ((dget kwargs f.name).or f.dflt).isSome = true)
include hval

theorem CallRel.callMap_eq (x : Nat) :
    callMap F (trArgs F w args kwargs) (trKw F w args kwargs) x = callMap A args kwargs x := by
  by_cases hx : x ∈ names (filledW w (positionals F) args)
  · -- filled in by position with the value that `A` binds by keyword or default
    obtain ⟨f, hf, rfl⟩ := List.mem_map.1 hx
    have hfm := mem_filledW hf
    have hdist : NamesDistinct (filledW w (positionals F) args) :=
      List.Pairwise.sublist ((filledW_sublist w _ _).trans List.filter_sublist) (R.hnF.filter isPositional)
    obtain ⟨v, hv⟩ := Option.isSome_iff_exists.1 (hval f hfm.1 hfm.2)
    rw [R.callMap_of_w args kwargs hfm.1 hfm.2, hv, callMap, dget_append, R.posF, R.posA_none args hfm.1 hfm.2,
      dget_map_of_mem Param.name _ hdist hf, valOf, hv]
    rfl
  · simp only [callMap, dget_append, R.kwPart_eq args kwargs hnoP, R.dfltOf_eq, R.posF_not_filled args kwargs x hx,
      dget_filter_key _ (fun k => !(names (filledW w (positionals F) args)).contains k)]
    simp [hx]

theorem CallRel.callOK_iff :
    callOK F (trArgs F w args kwargs) (trKw F w args kwargs) ↔ callOK A args kwargs := by
  unfold callOK
  refine and_congr ?_ (and_congr (and_congr ?_ ?_) ?_)
  · rw [R.hva, ← List.drop_eq_nil_iff, ← List.drop_eq_nil_iff, R.drop_eq]
  · rw [R.kwPart_eq args kwargs hnoP]
    simp only [List.mem_filter, and_imp, dhas]
    refine forall₂_congr fun kv _ => ?_
    by_cases hx : kv.1 ∈ names (filledW w (positionals F) args)
    · -- filled by the translator: `A` does not bind it by position
      obtain ⟨f, hf, hfx⟩ := List.mem_map.1 hx
      simp [hx, hfx ▸ R.posA_none args (mem_filledW hf).1 (mem_filledW hf).2]
    · simp [hx, R.posF_not_filled args kwargs kv.1 hx]
  · rw [R.extraPart_eq args kwargs hnoP, R.hvk]
  · simp only [R.callMap_eq args kwargs hnoP hval]
    exact R.forall_named fun x => (callMap A args kwargs x).isSome = true

theorem CallRel.compare (hk : (kwargs.map (·.1)).Nodup) :
    match bindCall F (trArgs F w args kwargs) (trKw F w args kwargs), bindCall A args kwargs with
    | some b1, some b2 => b1.equiv b2
    | none, none => True
    | _, _ => False := by
  have hk' : ((trKw F w args kwargs).map (·.1)).Nodup :=
    List.Nodup.sublist (List.Sublist.map _ (List.filter_sublist)) hk
  have h3 := R.callOK_iff args kwargs hnoP hval
  have s1 := bindCall_spec F (trArgs F w args kwargs) (trKw F w args kwargs) R.hnF hk'
  have s2 := bindCall_spec A args kwargs R.hnA hk
  generalize bindCall F (trArgs F w args kwargs) (trKw F w args kwargs) = r1 at s1 ⊢
  generalize bindCall A args kwargs = r2 at s2 ⊢
  match r1, r2, s1, s2 with
  | none, none, _, _ => trivial
  | none, some _, s1, s2 => exact s1 (h3.2 s2.1)
  | some _, none, s1, s2 => exact s2 (h3.1 s1.1)
  | some b1, some b2, ⟨_, n1, v1, k1⟩, ⟨_, n2, v2, k2⟩ =>
    have hvk : b1.vk = b2.vk := by rw [k1, k2, R.hvk, R.extraPart_eq args kwargs hnoP]
    refine ⟨fun x => ?_, ?_, by rw [hvk], fun x => by rw [hvk]⟩
    · rw [n1, n2, R.callMap_eq args kwargs hnoP hval]
    · rw [v1, v2, R.hva, R.drop_eq]

end

end SV
