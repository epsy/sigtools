/-
  Lemmas/C03Main.lean — assembling the phases of `mask`: the state before the loop satisfies the
  invariant, the loop preserves it, the rebuilt signature is valid.
-/
import Sigverif.Lemmas.C03Mask
namespace SV

theorem prelude_ok {s : Sorted} {n : Nat} {h : HideFlags} {c : List Nat} {pos pok : List Param}
    (hp : prelude s n h = .ok (c, pos, pok)) :
    (h.args = true ∧ c = names s.pos ++ names s.pok ∧ pos = [] ∧ pok = []) ∨
    (h.args = false ∧ (n ≤ (s.pos ++ s.pok).length ∨ s.va.isSome = true) ∧
      c = names ((s.pos ++ s.pok).take n) ∧ pos = s.pos.drop n ∧
      pok = s.pok.drop (n - s.pos.length)) := by
  rw [prelude_eq] at hp
  by_cases ha : h.args = true
  · rw [if_pos ha] at hp
    cases hp
    exact Or.inl ⟨ha, rfl, rfl, rfl⟩
  · rw [if_neg ha] at hp
    obtain ⟨hneg, hp⟩ := ite_error_eq_ok.1 hp
    cases hp
    refine Or.inr ⟨by simpa using ha, ?_, rfl, rfl, rfl⟩
    rw [List.length_append]
    cases hv : s.va with
    | none => exact Or.inl (Nat.le_of_not_lt fun hl => hneg ⟨hl, hv⟩)
    | some a => exact Or.inr rfl

theorem prelude_of_fits {s : Sorted} {n : Nat} (h : n ≤ (s.pos ++ s.pok).length ∨ s.va.isSome = true) :
    prelude s n {} = .ok (names ((s.pos ++ s.pok).take n), s.pos.drop n, s.pok.drop (n - s.pos.length)) := by
  rw [prelude_eq, if_neg Bool.false_ne_true, if_neg]
  rintro ⟨h1, h2⟩
  rcases h with h | h
  · exact Nat.not_le.2 h1 (List.length_append ▸ h)
  · rw [h2] at h
    cases h

theorem prelude_err {s : Sorted} {n : Nat} {h : HideFlags} {e : Err}
    (hp : prelude s n h = .error e) :
    e = .valueError ∧ h.args = false ∧ s.pos.length + s.pok.length < n ∧ s.va = none := by
  rw [prelude_eq] at hp
  by_cases ha : h.args = true
  · rw [if_pos ha] at hp; cases hp
  · rw [if_neg ha] at hp
    rcases ite_error_eq_error hp with ⟨hc, rfl⟩ | hp
    · exact ⟨rfl, by simpa using ha, hc.1, hc.2⟩
    · cases hp

theorem init_swf {s : Sorted} (hs : SWF s) {n : Nat} {h : HideFlags} {c : List Nat}
    {pos pok : List Param} (hp : prelude s n h = .ok (c, pos, pok)) :
    SWF (sOf pos s.vk (initState s h c pok)) := by
  have hsub : (pos ++ pok).Sublist (s.pos ++ s.pok) ∧ (∀ p ∈ pos, p ∈ s.pos) ∧ (∀ p ∈ pok, p ∈ s.pok) := by
    rcases prelude_ok hp with ⟨-, -, rfl, rfl⟩ | ⟨-, -, -, rfl, rfl⟩
    · simp
    · refine ⟨?_, fun p hp => List.mem_of_mem_drop hp, fun p hp => List.mem_of_mem_drop hp⟩
      rw [← List.drop_append]
      exact List.drop_sublist _ _
  have hva : ∀ b : Bool, (if b then none else s.va) = none ∨ (if b then none else s.va) = s.va := by
    intro b
    cases b
    · exact Or.inr rfl
    · exact Or.inl rfl
  unfold sOf initState
  cases h.kwargs
  · exact swf_sub hs hsub.1 hsub.2.1 hsub.2.2 (hva _) (List.Sublist.refl _) (Or.inr rfl)
  · -- hide_kwargs: no keyword parameter is left
    refine swf_sub hs ?_ hsub.2.1 (fun _ hp => nomatch hp) (hva _) (List.nil_sublist _) (Or.inr rfl)
    exact (List.append_nil pos).symm ▸ (List.sublist_append_left pos pok).trans hsub.1

theorem init_inv {s : Sorted} (hs : SWF s) {n : Nat} {h : HideFlags} {c : List Nat}
    {pos pok : List Param} (hp : prelude s n h = .ok (c, pos, pok)) (hk : h.kwargs = false) :
    Inv pos s.vk (initState s h c pok) := by
  refine ⟨init_swf hs hp, ?_⟩
  simp only [initState, hk, Bool.false_eq_true, if_false]
  rcases prelude_ok hp with ⟨-, rfl, rfl, rfl⟩ | ⟨-, -, rfl, rfl, rfl⟩
  · exact ⟨s.pok, by simp, fun x hx => by simp [hx]⟩
  · refine ⟨s.pok.take (n - s.pos.length), by simp, ?_⟩
    intro x hx
    rw [List.take_append]
    simp [hx]

theorem final_swf {pos : List Param} {vk : Option Param} {st : KState} (hs : SWF (sOf pos vk st))
    (vk' : Option Param) (hvk : vk' = none ∨ vk' = vk) : SWF (sOf pos vk' st) := by
  apply swf_sub hs
  · exact List.Sublist.refl _
  · exact fun p hp => hp
  · exact fun p hp => hp
  · exact Or.inr rfl
  · exact List.Sublist.refl _
  · exact hvk

theorem finalVk_cases (s : Sorted) (h : HideFlags) : finalVk s h = none ∨ finalVk s h = s.vk := by
  unfold finalVk; split
  · exact Or.inl rfl
  · exact Or.inr rfl

theorem loop_swf {s : Sorted} (hs : SWF s) {n : Nat} {nms : List Nat} {h : HideFlags} {c : List Nat}
    {pos pok : List Param} (hp : prelude s n h = .ok (c, pos, pok)) {st : KState}
    (hm : maskNames s.vk (initState s h c pok) (plainNames (if h.kwargs then [] else nms)) = .ok st) :
    SWF (sOf pos s.vk st) := by
  obtain ⟨ha, hk, hva, hvk⟩ := h
  cases hk
  · exact (maskNames_plain_ok (init_inv hs hp rfl) hm).1.swf
  · cases hm
    exact init_swf hs hp

theorem applyParams_of_valid (sig : USig) {s : Sorted} (h : validate s.all = .ok ()) :
    applyParams sig s =
      .ok { params := s.all, src := s.src, depths := s.depths, ret := sig.ret, uret := sig.uret } := by
  simp only [applyParams, bind, Except.bind, h, pure, Except.pure]

/-- `mask` succeeds as soon as its first two phases do: the rebuilt signature is valid -/
theorem mask_of_phases {sig : USig} (hwf : WF sig.params) {n : Nat} {nms : List Nat} {h : HideFlags}
    {c : List Nat} {pos pok : List Param} {st : KState}
    (hp : prelude (sortParams sig) n h = .ok (c, pos, pok))
    (hm : maskNames (sortParams sig).vk (initState (sortParams sig) h c pok)
      (plainNames (if h.kwargs then [] else nms)) = .ok st) :
    mask sig n nms h =
      .ok { params := (sOf pos (finalVk (sortParams sig) h) st).all,
            src := finalSrc (sortParams sig) h st, depths := sig.depths,
            ret := sig.ret, uret := sig.uret } := by
  have fin := final_swf (loop_swf (sortParams_swf hwf) hp hm) _ (finalVk_cases (sortParams sig) h)
  have hv := fin.validate
  simp only [sOf, Sorted.all] at hv
  rw [mask_eq, hp]
  simp only [bind, Except.bind, hm, applyParams, Sorted.all, hv, pure, Except.pure, sOf, (sortParams_src sig).2]

theorem mask_ok {sig R : USig} (hwf : WF sig.params) {n : Nat} {nms : List Nat} {h : HideFlags}
    (hR : mask sig n nms h = .ok R) :
    ∃ c pos pok st, prelude (sortParams sig) n h = .ok (c, pos, pok) ∧
      maskNames (sortParams sig).vk (initState (sortParams sig) h c pok)
        (plainNames (if h.kwargs then [] else nms)) = .ok st ∧
      SWF (sOf pos (sortParams sig).vk st) ∧
      SWF (sOf pos (finalVk (sortParams sig) h) st) ∧
      R = { params := (sOf pos (finalVk (sortParams sig) h) st).all,
            src := finalSrc (sortParams sig) h st, depths := sig.depths,
            ret := sig.ret, uret := sig.uret } := by
  obtain ⟨c, pos, pok, st, hp, hm, hR⟩ := maskCore_ok hR
  rw [loopNames_plain] at hm
  have l := loop_swf (sortParams_swf hwf) hp hm
  obtain ⟨-, rfl⟩ := applyParams_ok _ _ _ hR
  refine ⟨c, pos, pok, st, hp, hm, l, final_swf l _ (finalVk_cases _ h), ?_⟩
  rw [← (sortParams_src sig).2]
  rfl

theorem accP_fill {s : Sorted} (hs : SWF s) (tot : Nat)
    (h1 : tot ≤ (s.pos ++ s.pok).length ∨ s.va.isSome = true)
    (hreq : ∀ p ∈ s.pos, p.required = true → p.name ∈ names ((s.pos ++ s.pok).take tot)) :
    AccP s tot (names (s.pok.drop (tot - s.pos.length)) ++ names s.kwo) := by
  have hdj := take_drop_disj hs tot
  refine ⟨h1, fun k hk => ⟨fun _ hT => ?_, fun hneg => ?_⟩, fun p hp hr => ?_⟩
  · rcases List.mem_append.1 hk with h | h
    · exact (hdj k hT).2.1 h
    · exact (hdj k hT).2.2 h
  · refine absurd ?_ hneg
    rcases List.mem_append.1 hk with h | h
    · rw [names_drop] at h
      exact Or.inl (List.mem_of_mem_drop h)
    · exact Or.inr h
  · rcases hp with hp | hp | hp
    · exact Or.inr (hreq p hp hr)
    · rcases (mem_take_or_drop s.pok (tot - s.pos.length) p).1 hp with h | h
      · right
        rw [List.take_append, names_append, List.mem_append]
        exact Or.inr (mem_names_of_mem h)
      · exact Or.inl ⟨List.mem_append_left _ (mem_names_of_mem h), Or.inl (mem_names_of_mem hp)⟩
    · exact Or.inl ⟨List.mem_append_right _ (mem_names_of_mem hp), Or.inr (mem_names_of_mem hp)⟩

theorem accP_full {s : Sorted} (hs : SWF s) : AccP s (s.pos ++ s.pok).length (names s.kwo) := by
  have := accP_fill hs (s.pos ++ s.pok).length (Or.inl (Nat.le_refl _)) (fun p hp _ => by
    rw [List.take_length]
    exact mem_names_of_mem (List.mem_append_left _ hp))
  have e : (s.pos ++ s.pok).length - s.pos.length = s.pok.length := by
    rw [List.length_append, Nat.add_sub_cancel_left]
  rwa [e, List.drop_length, names_nil, List.nil_append] at this

theorem popped_zero (s : Sorted) : (popped s 0).all = s.all := by
  simp only [popped, Sorted.all, List.drop_zero, Nat.zero_sub]

theorem popped_with_src (t : Sorted) (src : Srcs) (d : Depths) (m : Nat) :
    popped { t with src := src, depths := d } m = popped t m := rfl

theorem sub_add_sub_sub (a n m : Nat) : n - a + (m - (a - n)) = n + m - a := by
  rcases Nat.le_total n a with h | h
  · rw [Nat.sub_eq_zero_of_le h, Nat.zero_add, Nat.add_comm n m,
      show m + n - a = m + n - ((a - n) + n) by rw [Nat.sub_add_cancel h], Nat.add_sub_add_right]
  · rw [Nat.sub_eq_zero_of_le h, Nat.sub_zero, Nat.add_comm n m, Nat.add_sub_assoc h, Nat.add_comm]

theorem popped_popped (s : Sorted) (n m : Nat) : popped (popped s n) m = popped s (n + m) := by
  simp only [popped, List.drop_drop, List.length_drop, sub_add_sub_sub]

theorem popped_length (s : Sorted) (n : Nat) :
    (popped s n).pos.length + (popped s n).pok.length = s.pos.length + s.pok.length - n := by
  simp only [popped]
  rw [← List.length_append, ← List.drop_append, List.length_drop, List.length_append]

theorem names_take_popped (s : Sorted) (n m : Nat) :
    names ((s.pos ++ s.pok).take n) ++ names (((popped s n).pos ++ (popped s n).pok).take m) =
      names ((s.pos ++ s.pok).take (n + m)) := by
  simp only [popped]
  rw [← names_append, ← List.drop_append, ← List.take_add]

def maskNil (s : Sorted) (sig : USig) (n : Nat) : Except Err USig :=
  if s.pos.length + s.pok.length < n ∧ s.va = none then .error .valueError
  else .ok { params := (popped s n).all,
             src := removeFromSrc sig.src (names ((s.pos ++ s.pok).take n)),
             depths := sig.depths, ret := sig.ret, uret := sig.uret }

theorem mask_nil {sig : USig} (hwf : WF sig.params) (n : Nat) :
    mask sig n [] {} = maskNil (sortParams sig) sig n := by
  unfold maskNil
  by_cases hc : (sortParams sig).pos.length + (sortParams sig).pok.length < n ∧ (sortParams sig).va = none
  · rw [if_pos hc, mask_eq, prelude_eq, if_neg Bool.false_ne_true, if_pos hc]
    rfl
  · rw [if_neg hc, mask_of_phases hwf (by rw [prelude_eq, if_neg Bool.false_ne_true, if_neg hc]) rfl]
    simp only [sOf, initState, finalVk, finalSrc, Bool.or_self, Bool.false_eq_true, if_false,
      (sortParams_src sig).1, popped]

theorem popped_swf {s : Sorted} (hs : SWF s) (n : Nat) : SWF (popped s n) := by
  apply swf_sub hs
  · simp only [popped]; rw [← List.drop_append]; exact List.drop_sublist _ _
  · exact fun p hp => List.mem_of_mem_drop hp
  · exact fun p hp => List.mem_of_mem_drop hp
  · exact Or.inr rfl
  · exact List.Sublist.refl _
  · exact Or.inr rfl

theorem removeFromSrc_append (src : Srcs) (a b : List Nat) :
    removeFromSrc (removeFromSrc src a) b = removeFromSrc src (a ++ b) := by
  simp [removeFromSrc, List.foldl_append]

end SV
