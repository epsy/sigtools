/-
  Lemmas/Eval.lean — closed model terms evaluated by the kernel.
  `phaseP` and `phaseQ` walk two lists at once and are compiled by well-founded recursion, which
  neither `rfl` nor `decide` reduces.  Each gets a twin that recurses on the left list alone, and `mergeStep` a
  twin over those.  A closed call is evaluated by unfolding down to `mergeStep`, rewriting
  it into its twin and letting the kernel compute:
    `simp only [merge, mergeFold, mergeStep_eq]; exact eq_ok_of (by decide +kernel)`
  (for `embed` and `forwards` see `embedStep_evalEq`, Lemmas/C02Embed.lean; `mask` and `maskPartial` need no rewriting).
-/
import Sigverif.Props.Defs
namespace SV

/-- `phaseP` once the left positionals are exhausted -/
def phasePR (l r : Sorted) : List Param → List Param → List Param → MState →
    Except Err (MState × List Param × List Param)
  | [], il, ir, st => .ok (st, il, ir)
  | rp :: rs, il, ir, st => do
    let (st, il) ← unbalancedPos .R l r rp il st
    phasePR l r rs il ir st

def phasePS (l r : Sorted) : List Param → List Param → List Param → List Param → MState →
    Except Err (MState × List Param × List Param)
  | [], rs, il, ir, st => phasePR l r rs il ir st
  | lp :: ls, rp :: rs, il, ir, st =>
    phasePS l r ls rs il ir { st with
      pos := st.pos ++ [concile lp rp],
      src := if lp.name = rp.name then addSources st.src lp.name [l.src, r.src]
             else addSources st.src lp.name [l.src] }
  | lp :: ls, [], il, ir, st => do
    let (st, ir) ← unbalancedPos .L l r lp ir st
    phasePS l r ls [] il ir st

theorem phaseP_eq (l r : Sorted) (ls rs il ir : List Param) (st : MState) :
    phaseP l r ls rs il ir st = phasePS l r ls rs il ir st := by
  fun_induction phaseP l r ls rs il ir st with
  | case1 => rfl
  | case2 _ _ _ _ _ _ _ _ ih => rw [phasePS]; exact ih
  | case3 _ _ _ _ _ ih =>
    simp only [phasePS]
    exact bind_congr fun x => ih x.1 x.2
  | case4 _ _ _ _ _ ih =>
    simp only [phasePS, phasePR]
    exact bind_congr fun x => by simpa only [phasePS] using ih x.1 x.2

/-- `phaseQ` once the left iterator is exhausted -/
def phaseQR (l r : Sorted) : List Param → MState → Except Err MState
  | [], st => .ok st
  | rp :: rs, st => do
    let st ← unbalancedPok .R l r rp st
    phaseQR l r rs st

def phaseQS (l r : Sorted) : List Param → List Param → MState → Except Err MState
  | [], rs, st => phaseQR l r rs st
  | lp :: ls, rp :: rs, st =>
    if lp.name = rp.name then
      phaseQS l r ls rs { st with
        pok := st.pok ++ [concile lp rp],
        src := addSources st.src lp.name [l.src, r.src] }
    else
      phaseQS l r ls rs { st with
        pos := st.pos ++ st.pok.map (·.withKind .po) ++ [(concile lp rp).withKind .po],
        pok := [],
        src := addSources st.src lp.name [l.src] }
  | lp :: ls, [], st => do
    let st ← unbalancedPok .L l r lp st
    phaseQS l r ls [] st

theorem phaseQ_eq (l r : Sorted) (ls rs : List Param) (st : MState) :
    phaseQ l r ls rs st = phaseQS l r ls rs st := by
  fun_induction phaseQ l r ls rs st with
  | case1 => rfl
  | case2 _ _ _ _ _ h ih => simpa only [phaseQS, if_pos h] using ih
  | case3 _ _ _ _ _ h ih => simpa only [phaseQS, if_neg h, List.map_subtype, List.unattach_attach] using ih
  | case4 _ _ _ ih =>
    simp only [phaseQS]
    exact bind_congr ih
  | case5 _ _ _ ih =>
    simp only [phaseQS, phaseQR]
    exact bind_congr fun x => by simpa only [phaseQS] using ih x

def mergeStepS (l r : Sorted) : Except Err Sorted := do
  let st : MState := { vaL := l.va.isSome, vaR := r.va.isSome,
                       vkL := l.vk.isSome, vkR := r.vk.isSome }
  let st := phaseK1 l r l.kwo st
  let st := phaseK2 l r.kwo st
  let (st, il, ir) ← phasePS l r l.pos r.pos l.pok r.pok st
  let st ← phaseQS l r il ir st
  let st ← mergeUnmatched .L l r st
  let st ← mergeUnmatched .R l r st
  let (va, src) := addStarargs l r st.vaL st.vaR l.va r.va st.src
  let (vk, src) := addStarargs l r st.vkL st.vkR l.vk r.vk src
  pure { pos := st.pos, pok := st.pok, va := va, kwo := st.kwo, vk := vk,
         src := src, depths := mergeDepths l.depths r.depths }

theorem mergeStep_eq (l r : Sorted) : mergeStep l r = mergeStepS l r := by
  simp only [mergeStep, mergeStepS, phaseP_eq, phaseQ_eq]

/-! What a closed `e : Except ε α` evaluates to, stated as a Boolean for `decide +kernel` (there is no
    decidable equality on `Except`, and `rfl` makes the elaborator evaluate before the kernel does). -/

theorem eq_ok_of {ε α : Type} [DecidableEq α] {e : Except ε α} {a : α}
    (h : (match e with | .ok b => decide (b = a) | .error _ => false) = true) : e = .ok a := by
  cases e with
  | ok b => exact congrArg _ (of_decide_eq_true h)
  | error _ => cases h

theorem eq_error_of {ε α : Type} [DecidableEq ε] {e : Except ε α} {x : ε}
    (h : (match e with | .ok _ => false | .error y => decide (y = x)) = true) : e = .error x := by
  cases e with
  | ok _ => cases h
  | error y => exact congrArg _ (of_decide_eq_true h)

theorem exists_ok_and {ε α : Type} {e : Except ε α} {P : α → Prop} [DecidablePred P]
    (h : (match e with | .ok a => decide (P a) | .error _ => false) = true) : ∃ a, e = .ok a ∧ P a := by
  cases e with
  | ok a => exact ⟨a, rfl, of_decide_eq_true h⟩
  | error _ => cases h

theorem exists_ok {ε α : Type} {e : Except ε α} (h : e.isOk = true) : ∃ a, e = .ok a := by
  cases e with
  | ok a => exact ⟨a, rfl⟩
  | error _ => cases h

theorem exists_ok_of {ε α : Type} {e : Except ε α} {P : α → Prop} (h : e.isOk = true)
    (hP : ∀ a, e = .ok a → P a) : ∃ a, e = .ok a ∧ P a := by
  obtain ⟨a, ha⟩ := exists_ok h
  exact ⟨a, ha, hP a ha⟩

instance c09r_decRoleCons (inputs : List (List Param)) : Decidable (roleCons inputs) := by
  unfold roleCons; exact inferInstance
instance c09r_decAligned (inputs : List (List Param)) : Decidable (aligned inputs) := by
  unfold aligned; exact inferInstance
instance c09r_decForeignTo (inputs : List (List Param)) (K : List Nat) :
    Decidable (foreignTo inputs K) := by
  unfold foreignTo; exact inferInstance
instance c09r_decNonColl (R : List Param) (inputs : List (List Param)) (K : List Nat) :
    Decidable (nonColl R inputs K) := by
  unfold nonColl; exact inferInstance

end SV
