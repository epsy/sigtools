/-
  Lemmas/C19Loop.lean — the loop over the keyword bindings of a `functools.partial` object:
  what a successful run (`KRun`) does to the state (`Binds`) and to the provenance, and the
  inversion of a successful `maskPartial` in these terms.
-/
import Sigverif.Lemmas.C19Step
namespace SV

theorem starNamed_mono {va va' vk : Option Param} {x : Nat} (h : va' = none ∨ va' = va)
    (hs : starNamed va vk x = false) : starNamed va' vk x = false := by
  rcases h with rfl | rfl
  · rw [starNamed_false_iff] at hs ⊢
    exact ⟨fun a ha => (nomatch ha), hs.2⟩
  · exact hs

/-- What the bindings `kw` have done to the buckets of the state: `BindStep`, along a run (the names used up are
    `KRun.bound_names`). -/
structure Binds (vk : Option Param) (st st' : KState) (kw : List (Nat × Nat)) : Prop where
  sub : ∀ y, (y ∈ names st'.pok ∨ y ∈ names st'.kwo) →
    (y ∈ names st.pok ∨ y ∈ names st.kwo ∨ y ∈ kw.map (·.1))
  va : st'.va = none ∨ st'.va = st.va
  pok : st'.pok <+: st.pok
  gone : ∀ x ∈ kw.map (·.1), x ∉ names st'.pok
  pokva : st'.pok = st.pok ∨ st'.va = none
  keep : ∀ p ∈ st.kwo, p.name ∉ kw.map (·.1) → p ∈ st'.kwo
  bound : ∀ kv ∈ kw, starNamed st.va vk kv.1 = false →
    ∃ p ∈ st'.kwo, p.name = kv.1 ∧ p.kind = .ko ∧ p.dflt = some kv.2

theorem Binds.nil (vk : Option Param) (st : KState) : Binds vk st st [] :=
  ⟨fun _ h => h.imp_right Or.inl, Or.inr rfl,
    List.prefix_refl _, fun _ h => (nomatch h), Or.inl rfl, fun _ h _ => h, fun _ h => (nomatch h)⟩

theorem Binds.cons {vk : Option Param} {st st1 st' : KState} {x v : Nat} {kw : List (Nat × Nat)}
    (hx : x ∉ kw.map (·.1)) (h1 : BindStep vk st st1 x v) (h2 : Binds vk st1 st' kw) :
    Binds vk st st' ((x, v) :: kw) := by
  refine ⟨?_, ?_, h2.pok.trans h1.pok, ?_, ?_, ?_, ?_⟩
  · intro y hy
    simp only [List.map_cons, List.mem_cons]
    rcases or_assoc.2 (h2.sub y hy) with h | h
    · exact (h1.sub y h).imp_right (Or.imp_right Or.inl)
    · exact Or.inr (Or.inr (Or.inr h))
  · rcases h2.va with h | h
    · exact Or.inl h
    · rw [h]; exact h1.va
  · intro y hy
    rcases List.mem_cons.1 hy with rfl | hy
    · exact fun hm => h1.gone ((h2.pok.sublist.map _).subset hm)
    · exact h2.gone y hy
  · rcases h2.pokva with e | e
    · rcases h1.pokva with e1 | e1
      · exact Or.inl (e.trans e1)
      · exact Or.inr (h2.va.elim id fun e2 => e2.trans e1)
    · exact Or.inr e
  · intro p hp hne
    simp only [List.map_cons, List.mem_cons, not_or] at hne
    exact h2.keep p (h1.keep p hp hne.1) hne.2
  · intro kv hkv hns
    rcases List.mem_cons.1 hkv with rfl | hkv
    · obtain ⟨p, hp, e, hkd⟩ := h1.bound hns
      exact ⟨p, h2.keep p hp (by rw [e]; exact hx), e, hkd⟩
    · exact h2.bound kv hkv (starNamed_mono h1.va hns)

theorem loopNames_some_mem {kw : List (Nat × Nat)} {o : Nat} :
    (∀ a ∈ loopNames kw (some o), a.2.isSome = true) ∧ (loopNames kw (some o)).map (·.1) = kw.map (·.1) := by
  refine ⟨fun a ha => ?_, by simp [loopNames, List.map_map, Function.comp_def]⟩
  obtain ⟨_, _, rfl⟩ := List.mem_map.1 ha
  rfl

theorem KRun.bound_names {vk : Option Param} {o : Nat} {kw : List (Nat × Nat)} {st st' : KState}
    (h : KRun vk st (loopNames kw (some o)) st') :
    st'.consumed = st.consumed ++ kw.map (·.1) ∧ (∀ x ∈ kw.map (·.1), x ∉ st.consumed) ∧ (kw.map (·.1)).Nodup := by
  have := h.consumed
  rwa [loopNames_some_mem.2] at this

theorem KRun.binds {vk : Option Param} {o : Nat} (kw : List (Nat × Nat)) {st st' : KState}
    (h : KRun vk st (loopNames kw (some o)) st') : Binds vk st st' kw := by
  induction kw generalizing st with
  | nil => cases h; exact .nil vk _
  | cons a rest ih =>
    have hnd := h.bound_names.2.2
    cases h with
    | cons inv _ hk hrun => exact .cons (List.nodup_cons.1 hnd).1 (hk.binds inv) (ih hrun)

theorem KRun.src_keep {vk : Option Param} {o : Nat} {kw : List (Nat × Nat)}
    {st st' : KState} (h : KRun vk st (loopNames kw (some o)) st') (y : Nat) (hy : y ∉ kw.map (·.1))
    (hva : ∀ a, st.va = some a → a.name ≠ y) : dget st'.src y = dget st.src y := by
  induction kw generalizing st with
  | nil => cases h; rfl
  | cons a rest ih =>
    cases h with
    | cons inv hc hk hrun =>
      simp only [List.map_cons, List.mem_cons, not_or] at hy
      have hb := hk.binds inv
      rw [ih hrun hy.2 fun a ha => hb.va.elim (fun e => nomatch e.symm.trans ha) (fun e => hva a (e.symm.trans ha)),
        hk.binds_src.1 y hy.1 hva]

theorem KRun.src {vk : Option Param} {o : Nat} {kw : List (Nat × Nat)}
    {st st' : KState} (h : KRun vk st (loopNames kw (some o)) st') :
    ∀ kv ∈ kw, kv.1 ∉ names st.pok → kv.1 ∉ names st.kwo → starNamed st.va vk kv.1 = false →
      dget st'.src kv.1 = some [o] := by
  induction kw generalizing st with
  | nil => exact fun _ h => nomatch h
  | cons a rest ih =>
    obtain ⟨x, v⟩ := a
    have hnd := h.bound_names.2.2
    simp only [List.map_cons, List.nodup_cons] at hnd
    cases h with
    | cons inv hc hk hrun =>
      have hb := hk.binds inv
      intro kv hkv h1 h2 hns
      have hns' := starNamed_mono hb.va hns
      rcases List.mem_cons.1 hkv with rfl | hkv
      · rw [hrun.src_keep _ hnd.1 (starNamed_false_iff.1 hns').1]
        exact hk.binds_src.2 h1 h2 hns
      · have hne : kv.1 ≠ x := fun e => hnd.1 (e ▸ List.mem_map.2 ⟨kv, hkv, rfl⟩)
        have hsub : ¬ (kv.1 ∈ names _ ∨ kv.1 ∈ names _) := fun h =>
          (hb.sub kv.1 h).elim h1 fun c => c.elim h2 hne
        exact ih hrun kv hkv (fun h => hsub (Or.inl h)) (fun h => hsub (Or.inr h)) hns'

theorem SWF.star_names {s : Sorted} (hs : SWF s) :
    ∀ y ∈ names (s.pos ++ s.pok ++ s.kwo),
      (∀ a, s.va = some a → a.name ≠ y) ∧ (∀ a, s.vk = some a → a.name ≠ y) := by
  have nd := hs.nd
  simp only [Sorted.all, names_append, List.nodup_append, List.mem_append] at nd
  obtain ⟨⟨⟨-, -, d1⟩, -, d2⟩, -, d3⟩ := nd
  intro y hy
  simp only [names_append, List.mem_append] at hy
  refine ⟨fun a ha e => ?_, fun a ha e => ?_⟩
  · have hm : a.name ∈ names s.va.toList := by simp [ha]
    rcases hy with hy | hy
    · exact d1 y hy a.name hm e.symm
    · exact d2 a.name (Or.inr hm) y hy e
  · exact d3 y (hy.elim (fun h => Or.inl (Or.inl h)) Or.inr) a.name (by simp [ha]) e.symm

/-- the state in which the loop over the bindings starts, after `n` bound positionals -/
def initP (s : Sorted) (n : Nat) : KState :=
  initState s {} (names ((s.pos ++ s.pok).take n)) (s.pok.drop (n - s.pos.length))

@[simp] theorem initP_pok (s : Sorted) (n : Nat) : (initP s n).pok = s.pok.drop (n - s.pos.length) := rfl
@[simp] theorem initP_consumed (s : Sorted) (n : Nat) :
    (initP s n).consumed = names ((s.pos ++ s.pok).take n) := rfl

theorem partial_ok {sig R : USig} (hwf : WF sig.params) {n : Nat} {kw : List (Nat × Nat)} {o : Nat}
    (hR : maskPartial sig n kw o = .ok R) :
    ∃ s st, SWF s ∧ s.all = sig.params ∧ (n ≤ (s.pos ++ s.pok).length ∨ s.va.isSome = true) ∧
      Inv (s.pos.drop n) s.vk (initP s n) ∧
      KRun s.vk (initP s n) (loopNames kw (some o)) st ∧
      Binds s.vk (initP s n) st kw ∧
      SWF (sOf (s.pos.drop n) s.vk st) ∧
      R = { params := (sOf (s.pos.drop n) s.vk st).all,
            src := st.src, depths := dset (copyDepths sig.depths 1) o 0,
            ret := sig.ret, uret := sig.uret } := by
  obtain ⟨c, pos, pok, st, hp, hm, hR⟩ := maskCore_ok hR
  have hs := sortParams_swf hwf
  have hd := (sortParams_src sig).2
  refine ⟨sortParams sig, ?_⟩
  have hall := sortParams_all hwf
  generalize sortParams sig = s at *
  have inv0 := init_inv hs hp rfl
  rcases prelude_ok hp with ⟨ha, _⟩ | ⟨-, hcount, rfl, rfl, rfl⟩
  · cases ha
  obtain ⟨hv, rfl⟩ := applyParams_ok _ _ _ hR
  have hrun : KRun s.vk (initP s n) (loopNames kw (some o)) st := maskNames_run _ inv0.dropPos hm
  have bk1 := (hrun.inv inv0.dropPos fun _ _ _ h => nomatch h).swf.bk
  have bk : BucketKinds (sOf (s.pos.drop n) s.vk st) :=
    ⟨inv0.swf.bk.pos, bk1.pok, bk1.va, bk1.kwo, bk1.vk⟩
  refine ⟨st, hs, hall, hcount, inv0, hrun, hrun.binds kw, .of_validate bk hv, ?_⟩
  rw [hd]
  rfl

/-- a binding that names a positional-only parameter makes retrieval fail: the name would end up
    twice in the result -/
theorem partial_ok_pos {s : Sorted} {n : Nat} {kw : List (Nat × Nat)} {st : KState} (hs : SWF s)
    (hb : Binds s.vk (initP s n) st kw)
    (hs1 : SWF (sOf (s.pos.drop n) s.vk st)) : ∀ x ∈ kw.map (·.1), x ∉ names (s.pos.drop n) := by
  intro x hx hmem
  obtain ⟨kv, hkv, rfl⟩ := List.mem_map.1 hx
  have hpos : kv.1 ∈ names (s.pos ++ s.pok ++ s.kwo) := by
    rw [names_drop] at hmem
    simp [List.mem_of_mem_drop hmem]
  obtain ⟨p, hp, hpn, -⟩ := hb.bound kv hkv (starNamed_false_iff.2 (hs.star_names _ hpos))
  exact hs1.parts.2.2.2.2.1 _ hmem (hpn ▸ mem_names_of_mem hp)

theorem partial_ok_taken {s : Sorted} {n : Nat} {kw : List (Nat × Nat)} {st : KState} (hs : SWF s)
    (hb : Binds s.vk (initP s n) st kw) (hf : ∀ x ∈ kw.map (·.1), x ∉ (initP s n).consumed) :
    ∀ k ∈ names ((s.pos ++ s.pok).take n), ¬ (k ∈ names st.pok ∨ k ∈ names st.kwo) := by
  intro k hk h
  obtain ⟨-, d1, d2⟩ := take_drop_disj hs n k hk
  exact (hb.sub k h).elim d1 fun c => c.elim d2 fun c => hf k c hk

theorem idxOf_lt_of_mem_append {L M : List Nat} {x y : Nat} (hy : y ∈ L) (hx : x ∉ L) :
    (L ++ M).idxOf y < (L ++ M).idxOf x := by
  rw [List.idxOf_append, List.idxOf_append, if_pos hy, if_neg hx]
  have := List.idxOf_lt_length_of_mem hy
  omega

end SV
