/-
  Lemmas/C02Inv.lean — `embed uva uvk [o, i]` in terms of the closed forms: an evaluable closed
  form of its parameters (`phaseP`/`phaseQ` are defined by well-founded recursion and do not
  reduce by `rfl`/`decide`), inversion of success and of IncompatibleSignatures.
-/
import Sigverif.Lemmas.C02Fold
import Sigverif.Lemmas.Core.Accepts
namespace SV

theorem embed_two (o i : USig) (uva uvk : Bool) :
    embed uva uvk [o, i] =
      match embedStep (sortParams o) (sortParams i) uva uvk 1 with
      | .ok acc => applyParams o acc
      | .error _ => .error .incompatible := by
  unfold embed
  simp only [embedFold, bind, Except.bind]
  cases embedStep (sortParams o) (sortParams i) uva uvk 1 <;> rfl

def embedParamsC (o i : USig) (uva uvk : Bool) : Except Err (List Param) :=
  match embedStepC (sortParams o) (sortParams i) uva uvk with
  | .ok r => (match validate r.all with | .ok _ => .ok r.all | .error e => .error e)
  | .error _ => .error .incompatible

theorem embed_two_params (o i : USig) (uva uvk : Bool) :
    (embed uva uvk [o, i]).map (·.params) = embedParamsC o i uva uvk := by
  rw [embed_two]
  unfold embedParamsC
  rw [← embedStep_erase (sortParams o) (sortParams i) uva uvk 1]
  cases embedStep (sortParams o) (sortParams i) uva uvk 1 with
  | error err => rfl
  | ok acc =>
    simp only [Except.map, eraseMeta_all, applyParams, bind, Except.bind]
    cases validate acc.all <;> rfl

theorem embed_two_ok_of {o i : USig} {uva uvk : Bool} {ps : List Param}
    (h : embedParamsC o i uva uvk = .ok ps) : ∃ R, embed uva uvk [o, i] = .ok R ∧ R.params = ps :=
  map_eq_ok ((embed_two_params o i uva uvk).trans h)

theorem embed_two_incompatible_of {o i : USig} {uva uvk : Bool}
    (h : embedParamsC o i uva uvk = .error .incompatible) :
    embed uva uvk [o, i] = .error .incompatible :=
  map_eq_error ((embed_two_params o i uva uvk).trans h)

theorem embed_two_inv {o i R : USig} {uva uvk : Bool} (h : embed uva uvk [o, i] = .ok R) :
    ∃ I c, mergeStep (sortParams i) (stars (sortParams o) uva uvk) = .ok I ∧
      checkAll (tailLists (sortParams o) I uva uvk) [] = .ok c ∧
      validate (embedRes (sortParams o) I uva uvk 1).all = .ok () ∧
      R = { params := (embedRes (sortParams o) I uva uvk 1).all,
            src := (embedRes (sortParams o) I uva uvk 1).src,
            depths := (embedRes (sortParams o) I uva uvk 1).depths, ret := o.ret, uret := o.uret } := by
  rw [embed_two] at h
  cases hs : embedStep (sortParams o) (sortParams i) uva uvk 1 with
  | error e => rw [hs] at h; cases h
  | ok acc =>
    rw [hs] at h
    obtain ⟨I, c, hI, hc, rfl⟩ := embedStep_ok_iff.1 hs
    obtain ⟨hv, rfl⟩ := applyParams_ok _ _ _ h
    exact ⟨I, c, hI, hc, hv, rfl⟩

theorem embed_two_stars {o i R : USig} {uva uvk : Bool} (h : embed uva uvk [o, i] = .ok R) :
    ∃ b c, mergeStars (sortParams i) (if uva then (sortParams o).va else none)
                (if uvk then (sortParams o).vk else none) = .ok b ∧ BucketKinds b ∧
      checkAll (tailLists (sortParams o) b uva uvk) [] = .ok c ∧
      R.params = (embedRes (sortParams o) b uva uvk 1).all := by
  obtain ⟨I, c, hI, hc, -, rfl⟩ := embed_two_inv h
  have bk := mergeStep_bk _ _ _ (sortParams_bk i) ((sortParams_bk o).stars uva uvk) hI
  obtain ⟨b, src, hb, rfl⟩ := mergeStep_stars_ok rfl rfl rfl hI
  exact ⟨b, c, hb, ⟨bk.pos, bk.pok, bk.va, bk.kwo, bk.vk⟩, hc, rfl⟩

theorem embed_two_error {o i : USig} {uva uvk : Bool}
    (h : embed uva uvk [o, i] = .error .incompatible) :
    (∃ e, mergeStars (sortParams i) (if uva then (sortParams o).va else none)
                (if uvk then (sortParams o).vk else none) = .error e) ∨
    ∃ b e, mergeStars (sortParams i) (if uva then (sortParams o).va else none)
                (if uvk then (sortParams o).vk else none) = .ok b ∧
      checkAll (tailLists (sortParams o) b uva uvk) [] = .error e := by
  rw [embed_two] at h
  cases hs : embedStep (sortParams o) (sortParams i) uva uvk 1 with
  | ok acc =>
    -- the Signature constructor only raises ValueError
    rw [hs] at h
    cases applyParams_err _ _ _ h
  | error e =>
    rcases embedStep_error hs with hm | ⟨I, hI, hc⟩
    · exact .inl ⟨e, mergeStep_stars_error rfl rfl rfl hm⟩
    · obtain ⟨b, src, hb, rfl⟩ := mergeStep_stars_ok rfl rfl rfl hI
      exact .inr ⟨b, e, hb, hc⟩

theorem sortParams_applyParams {s M : USig} {acc : Sorted} (hk : BucketKinds acc)
    (h : applyParams s acc = .ok M) : eraseMeta (sortParams M) = eraseMeta acc := by
  obtain ⟨hv, rfl⟩ := applyParams_ok s acc M h
  rw [sortParams_of_all (.of_validate hk hv)]

theorem embed_cons_cons_params {a b M : USig} (rest : List USig) {uva uvk : Bool}
    (hM : embed uva uvk [a, b] = .ok M) :
    (embed uva uvk (a :: b :: rest)).map (·.params) = (embed uva uvk (M :: rest)).map (·.params) := by
  rw [embed_two] at hM
  cases hs : embedStep (sortParams a) (sortParams b) uva uvk 1 with
  | error e => rw [hs] at hM; cases hM
  | ok acc =>
    rw [hs] at hM
    have hk := embedStep_kinds (sortParams_bk a) (sortParams_bk b) hs
    unfold embed
    simp only [embedFold, hs]
    rw [bind_applyParams_params, bind_applyParams_params,
      embedFold_erase_congr uva uvk rest (sortParams_applyParams hk hM).symm 2 1]

theorem cdIf_nil (c : Bool) : cdIf c [] = [] := by cases c <;> rfl

end SV
