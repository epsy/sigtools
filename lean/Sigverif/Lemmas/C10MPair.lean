/-
  Lemmas/C10MPair.lean — the metadata rules of C10 on the result of `merge [a, b]`:
  from `Orig` (Lemmas/C10MMeta.lean) to the parameters of the inputs found BY NAME.
-/
import Sigverif.Lemmas.C10MMeta
import Sigverif.Lemmas.C01RFinal
import Sigverif.Lemmas.LawsKinds
namespace SV

/-! ### finding a parameter by name: the lookups of `metaRule` are `pget` -/

theorem x10_find_of_mem {ps : List Param} (hn : (names ps).Nodup) {p : Param} (hp : p ∈ ps) {x : Nat}
    (hx : x = p.name) : ps.find? (fun q => decide (q.name = x)) = some p :=
  hx ▸ pget_of_mem hn hp

theorem x10_find_none {ps : List Param} {x : Nat} (hx : x ∉ allNames ps) :
    ps.find? (fun q => decide (q.name = x)) = none :=
  pget_eq_none.2 hx

theorem x10_ne_of_find_none {ps : List Param} {x : Nat} {q : Param}
    (h : ps.find? (fun q => decide (q.name = x)) = none) (hq : q ∈ ps) : q.name ≠ x :=
  fun e => pget_eq_none.1 h (e ▸ mem_names_of_mem hq)

theorem x10_find_name {ps : List Param} {x : Nat} {q : Param}
    (h : ps.find? (fun q => decide (q.name = x)) = some q) : q ∈ ps ∧ q.name = x :=
  pget_some h

/-- where a non-star parameter `p` of `merge [a, b]` gets its metadata from, the parameters of the
    inputs being looked up by the name of `p` -/
inductive Orig2 (a b : List Param) (p : Param) : Prop
  | shared {qa qb : Param} (fa : a.find? (fun q => q.name = p.name) = some qa)
      (fb : b.find? (fun q => q.name = p.name) = some qb) (hm : sameMeta p (concile qa qb))
  | onlyA {qa : Param} (fa : a.find? (fun q => q.name = p.name) = some qa)
      (fb : b.find? (fun q => q.name = p.name) = none) (hm : sameMeta p qa)
  | onlyB {qb : Param} (fa : a.find? (fun q => q.name = p.name) = none)
      (fb : b.find? (fun q => q.name = p.name) = some qb) (hm : sameMeta p qb)
  /-- conciled with a DIFFERENTLY named positional parameter at the same positional index -/
  | mixA {i : Nat} {qa qb : Param} (fa : a.find? (fun q => q.name = p.name) = some qa)
      (fb : b.find? (fun q => q.name = p.name) = none)
      (ha : (positionals a)[i]? = some qa) (hb : (positionals b)[i]? = some qb)
      (hm : sameMeta p (concile qa qb))
  | mixB {i : Nat} {qa qb : Param} (fa : a.find? (fun q => q.name = p.name) = none)
      (fb : b.find? (fun q => q.name = p.name) = some qb)
      (ha : (positionals a)[i]? = some qa) (hb : (positionals b)[i]? = some qb)
      (hm : sameMeta p (concile qb qa))

theorem x10_orig2 {ρ : Roles} {A B : List Param} (na : (names A).Nodup) (nb : (names B).Nodup)
    (hA : (∀ p ∈ A, p.kind = ρ.κ p.name) ∧ IdxOK ρ 0 (positionals A))
    (hB : (∀ p ∈ B, p.kind = ρ.κ p.name) ∧ IdxOK ρ 0 (positionals B)) (p : Param)
    (h : Orig (positionals A) (positionals B) (A.filter (·.kind = .ko)) (B.filter (·.kind = .ko)) p) :
    Orig2 A B p := by
  have inA : ∀ {q : Param}, q ∈ positionals A → q ∈ A := fun h => (mem_positionals.1 h).1
  have inB : ∀ {q : Param}, q ∈ positionals B → q ∈ B := fun h => (mem_positionals.1 h).1
  obtain ⟨x, hx, hn, hm, -⟩ := h
  cases hx with
  | @pair i lp rp hl hr =>
    have ml := inA (List.mem_of_getElem? hl)
    have mr := inB (List.mem_of_getElem? hr)
    by_cases e : lp.name = rp.name
    · exact .shared (x10_find_of_mem na ml hn) (x10_find_of_mem nb mr (hn.trans e)) hm
    · refine .mixA (x10_find_of_mem na ml hn)
        (x10_find_none (hn ▸ roles_absent (p := lp) hA hB hl fun q h => ?_)) hl hr hm
      cases hr.symm.trans h
      exact Ne.symm e
  | @pairR i lp rp hl hr hk =>
    have ml := inA (List.mem_of_getElem? hl)
    have mr := inB (List.mem_of_getElem? hr)
    refine .mixB (x10_find_none (hn ▸ roles_absent (p := rp) hB hA hr fun q h e => ?_)) (x10_find_of_mem nb mr hn) hl hr hm
    cases hl.symm.trans h
    have := roles_kind hA hB ml mr e
    rw [hk.1, hk.2] at this
    cases this
  | @onlyL i _ hl hlen =>
    exact .onlyA (x10_find_of_mem na (inA (List.mem_of_getElem? hl)) hn)
      (x10_find_none (hn ▸ roles_absent hA hB hl fun q h =>
        absurd (List.getElem?_eq_some_iff.1 h).1 (Nat.not_lt.2 hlen))) hm
  | @onlyR i _ hr hlen =>
    exact .onlyB (x10_find_none (hn ▸ roles_absent hB hA hr fun q h =>
        absurd (List.getElem?_eq_some_iff.1 h).1 (Nat.not_lt.2 hlen)))
      (x10_find_of_mem nb (inB (List.mem_of_getElem? hr)) hn) hm
  | @limboL lp q hl hq hqn =>
    -- a positional parameter and a keyword-only one of the same name: not role-consistent
    obtain ⟨ml, kl⟩ := mem_positionals.1 hl
    obtain ⟨mq, kq⟩ := List.mem_filter.1 hq
    have := roles_kind hA hB ml mq hqn.symm
    rw [of_decide_eq_true kq] at this
    rcases kl with h | h <;> rw [h] at this <;> cases this
  | @limboR rp q hr hq hqn =>
    obtain ⟨mr, kr⟩ := mem_positionals.1 hr
    obtain ⟨mq, kq⟩ := List.mem_filter.1 hq
    have := roles_kind hA hB mq mr hqn
    rw [of_decide_eq_true kq] at this
    rcases kr with h | h <;> rw [h] at this <;> cases this
  | @kw lp q hl hq hqn =>
    exact .shared (x10_find_of_mem na (List.mem_filter.1 hl).1 hn)
      (x10_find_of_mem nb (List.mem_filter.1 hq).1 (hn.trans hqn.symm)) hm
  | @kwL _ hl hun =>
    obtain ⟨ml, kl⟩ := List.mem_filter.1 hl
    refine .onlyA (x10_find_of_mem na ml hn) (x10_find_none ?_) hm
    intro hin
    obtain ⟨q, mq, hqn⟩ := mem_names.1 hin
    exact hun q (List.mem_filter.2 ⟨mq, roles_kind hA hB ml mq (hqn.trans hn).symm ▸ kl⟩) (hqn.trans hn)
  | @kwR _ hr hun =>
    obtain ⟨mr, kr⟩ := List.mem_filter.1 hr
    refine .onlyB (x10_find_none ?_) (x10_find_of_mem nb mr hn) hm
    intro hin
    obtain ⟨q, mq, hqn⟩ := mem_names.1 hin
    exact hun q (List.mem_filter.2 ⟨mq, (roles_kind hA hB mq mr (hqn.trans hn)).symm ▸ kr⟩) (hqn.trans hn)

theorem x10_merge_pair_orig2 (a b R : USig) (ha : WF a.params) (hb : WF b.params)
    (hrc : roleCons [a.params, b.params]) (hR : merge [a, b] = .ok R) :
    ∀ p ∈ R.params, p.kind ≠ .vp → p.kind ≠ .vk → Orig2 a.params b.params p := by
  obtain ⟨res, hs, -, rfl⟩ := merge_two_ok a b R hR
  have hbk := mergeStep_bk _ _ _ (sortParams_bk a) (sortParams_bk b) hs
  intro p hp k1 k2
  have horig := x10_mergeStep_orig _ _ _ (sortParams_bk a) (sortParams_bk b) hs p
  rw [← positionals_sort a ha.validate, ← positionals_sort b hb.validate, (sortParams_fields a ha).2.2.2.1,
    (sortParams_fields b hb).2.2.2.1] at horig
  have na := (WF_inv _ ha).2.1
  have nb := (WF_inv _ hb).2.1
  obtain ⟨ρ, hρ⟩ := exists_roles [a.params, b.params] (by simp [na, nb]) hrc
  apply x10_orig2 na nb (hρ _ (by simp)) (hρ _ (by simp)) p
  apply horig
  rcases mem_all_iff.1 hp with hp | hp | hp | hp | hp
  · exact .inl hp
  · exact .inr (.inl hp)
  · exact absurd (hbk.va p hp) k1
  · exact .inr (.inr hp)
  · exact absurd (hbk.vk p hp) k2

end SV
