/-
  Lemmas/C03Hide.lean — the theorems of C03 about acceptance in their general form: soundness of
  `mask` under any hide flags, completeness and exactness without flags.
-/
import Sigverif.Lemmas.C03Closed
namespace SV

theorem accP_mono {s : Sorted} {m : Nat} {K : List Nat} (h : AccP s m K) (s' : Sorted)
    (hpos : s'.pos = s.pos) (hpok : s'.pok = s.pok)
    (hkwo : s'.kwo = s.kwo) (hva : s.va.isSome = true → s'.va.isSome = true)
    (hvk : s.vk.isSome = true → s'.vk.isSome = true) : AccP s' m K := by
  unfold AccP at h ⊢
  rw [hpos, hpok, hkwo]
  obtain ⟨c1, c2, c3⟩ := h
  refine ⟨?_, ?_, c3⟩
  · rcases c1 with c | c
    · exact Or.inl c
    · exact Or.inr (hva c)
  · intro k hk
    exact ⟨(c2 k hk).1, fun hn => hvk ((c2 k hk).2 hn)⟩

theorem isSome_of_ite_none {α : Type} {b : Bool} {o : Option α}
    (h : (if b then none else o).isSome = true) : o.isSome = true := by
  cases b
  · exact h
  · cases h

/-- the first phase, uniformly: with hide_args everything positional is consumed -/
theorem prelude_ok' {s : Sorted} {n : Nat} {h : HideFlags} {c : List Nat} {pos pok : List Param}
    (hp : prelude s n h = .ok (c, pos, pok)) :
    ∃ n', (h.args = false → n' = n) ∧ (n' ≤ (s.pos ++ s.pok).length ∨ s.va.isSome = true) ∧
      c = names ((s.pos ++ s.pok).take n') ∧ pos = s.pos.drop n' ∧
      pok = s.pok.drop (n' - s.pos.length) := by
  rcases prelude_ok hp with ⟨ha, rfl, rfl, rfl⟩ | ⟨ha, h1, rfl, rfl, rfl⟩
  · refine ⟨(s.pos ++ s.pok).length, (fun hf => by rw [ha] at hf; cases hf), Or.inl (Nat.le_refl _),
      ?_, ?_, ?_⟩
    · rw [List.take_length, names_append]
    · simp
    · simp
  · exact ⟨n, fun _ => rfl, h1, rfl, rfl, rfl⟩

theorem nodup_append_of_disj {nms K : List Nat} (hn : nms.Nodup) (hK : K.Nodup)
    (hdisj : ∀ k ∈ K, k ∉ nms) : (nms ++ K).Nodup :=
  List.nodup_append.2 ⟨hn, hK, fun _ ha b hb e => hdisj b hb (e ▸ ha)⟩

theorem nonColl_not_consumed {s R : Sorted} {sig : USig} (hall : s.all = sig.params)
    (n : Nat) (bk : BucketKinds R)
    (hsub : ∀ y, (y ∈ names R.pok ∨ y ∈ names R.kwo) → y ∉ names ((s.pos ++ s.pok).take n))
    {K : List Nat} (hnc : nonColl R.all [sig.params] K) :
    ∀ k ∈ K, k ∉ names ((s.pos ++ s.pok).take n) := by
  intro k hk hcon
  rcases hnc k hk with h | h
  · rw [kwNames_all bk, List.mem_append] at h
    exact hsub k h hcon
  · apply h sig.params (List.mem_singleton.2 rfl)
    rw [← hall]
    rw [names_take] at hcon
    have := List.mem_of_mem_take hcon
    simp only [allNames, Sorted.all, names_append, List.mem_append] at this ⊢
    exact Or.inl (Or.inl (Or.inl this))

/-- not a positional-only one by `hpo`, and as a positional-or-keyword one it would be bound twice -/
theorem names_not_consumed_of_accepts {sig : USig} (hwf : WF sig.params) {n m : Nat}
    {nms K : List Nat} (hnd : (nms ++ K).Nodup)
    (hpo : ∀ p ∈ sig.params, p.kind = .po → p.name ∉ nms)
    (hacc : accepts sig.params (n + m) (nms ++ K) = true) :
    ∀ x ∈ nms, x ∉ names (((sortParams sig).pos ++ (sortParams sig).pok).take n) := by
  have hs := sortParams_swf hwf
  have hall := sortParams_all hwf
  generalize sortParams sig = s at *
  rw [← hall, accepts_iff hs.bk _ hnd] at hacc
  intro x hx hcon
  have hsub : x ∈ names ((s.pos ++ s.pok).take (n + m)) := by
    rw [List.take_add]
    simp [hcon]
  rw [List.take_append, names_append, List.mem_append] at hcon
  rcases hcon with h | h
  · rw [names_take] at h
    obtain ⟨p, hp', rfl⟩ := mem_names.1 (List.mem_of_mem_take h)
    refine hpo p ?_ (hs.bk.pos p hp') hx
    rw [← hall]
    simp [Sorted.all, hp']
  · rw [names_take] at h
    exact (hacc.2.1 x (by simp [hx])).1 (Or.inl (List.mem_of_mem_take h)) hsub

theorem names_not_consumed_of_ok {sig R : USig} (hwf : WF sig.params) {n : Nat} {nms : List Nat}
    (hR : mask sig n nms {} = .ok R) :
    ∀ x ∈ nms, x ∉ names (((sortParams sig).pos ++ (sortParams sig).pok).take n) := by
  obtain ⟨c, pos, pok, st, hp, hm, -⟩ := mask_ok hwf hR
  rcases prelude_ok hp with ⟨ha, _⟩ | ⟨-, -, rfl, -⟩
  · cases ha
  · exact (maskNames_plain_ok (init_inv (sortParams_swf hwf) hp rfl) hm).2.1

/-- completeness: the first phase succeeds because the positional arguments fit (`prelude_of_fits`), the loop because
    every name goes on (`maskNames_of_goes`): a name that is no parameter is a keyword of an accepted call, so there is
    `**kwargs` -/
theorem mask_complete_core {sig : USig} (hwf : WF sig.params) {n m : Nat} {nms K : List Nat}
    (hnd : (nms ++ K).Nodup)
    (hc : ∀ x ∈ nms, x ∉ names (((sortParams sig).pos ++ (sortParams sig).pok).take n))
    (hacc : accepts sig.params (n + m) (nms ++ K) = true) :
    ∃ R, mask sig n nms {} = .ok R ∧ accepts R.params m K = true := by
  have hs := sortParams_swf hwf
  have hall := sortParams_all hwf
  have ok := fun c pos pok st => mask_of_phases hwf (n := n) (nms := nms) (h := {}) (c := c) (pos := pos)
    (pok := pok) (st := st)
  generalize sortParams sig = s at *
  rw [← hall, accepts_iff hs.bk _ hnd] at hacc
  have hcount := hacc.1.imp_left (Nat.le_trans (Nat.le_add_right n m))
  have hp := prelude_of_fits hcount
  have inv0 := init_inv hs hp rfl
  have pop := (step_pop hs n m (nms ++ K) hcount).2 hacc
  obtain ⟨st, hm⟩ := maskNames_of_goes inv0 (List.nodup_append.1 hnd).1 fun x hx => ⟨hc x hx, by
    by_cases hpar : x ∈ names (s.pok.drop (n - s.pos.length)) ∨ x ∈ names s.kwo
    · exact or_assoc.1 (Or.inl hpar)
    · exact Or.inr (Or.inr ((pop.2.1 x (List.mem_append_left _ hx)).2 hpar))⟩
  refine ⟨_, ok _ _ _ _ hp hm, ?_⟩
  obtain ⟨inv1, -, -, hloop⟩ := maskNames_plain_ok inv0 hm
  show accepts (sOf _ s.vk st).all m K = true
  rw [accepts_iff inv1.swf.bk _ (List.nodup_append.1 hnd).2.1]
  exact (hloop m K fun x hx hxK => (List.nodup_append.1 hnd).2.2 x hx x hxK rfl).2 pop

theorem mask_complete {sig : USig} (hwf : WF sig.params) {n m : Nat} {nms K : List Nat}
    (hnd : (nms ++ K).Nodup)
    (hpo : ∀ p ∈ sig.params, p.kind = .po → p.name ∉ nms)
    (hacc : accepts sig.params (n + m) (nms ++ K) = true) :
    ∃ R, mask sig n nms {} = .ok R ∧ accepts R.params m K = true :=
  mask_complete_core hwf hnd (names_not_consumed_of_accepts hwf hnd hpo hacc) hacc

theorem mask_sound {sig R : USig} {n m : Nat} {nms K : List Nat} {h : HideFlags}
    (hwf : WF sig.params) (hn : nms.Nodup) (hK : K.Nodup)
    (hdisj : ∀ k ∈ K, k ∉ nms)
    (hR : mask sig n nms h = .ok R)
    (hnc : nonColl R.params [sig.params] K)
    (hacc : accepts R.params m K = true) :
    ∃ (tot : Nat) (H : List Nat),
      (h.args = false → tot = n + m) ∧ (h.kwargs = false → H = []) ∧
      accepts sig.params tot ((if h.kwargs then [] else nms) ++ K ++ H) = true := by
  obtain ⟨c, pos, pok, st, hp, hm, hs1, hs2, rfl⟩ := mask_ok hwf hR
  have hs := sortParams_swf hwf
  have hall := sortParams_all hwf
  generalize sortParams sig = s at *
  obtain ⟨n', hn', hcount, rfl, rfl, rfl⟩ := prelude_ok' hp
  rw [accepts_iff hs2.bk _ hK] at hacc
  obtain ⟨ha, hk, hva, hvk⟩ := h
  cases hk
  · replace hm : maskNames s.vk _ (plainNames nms) = .ok st := hm
    refine ⟨n' + m, [], fun hf => by rw [hn' hf], fun _ => rfl, ?_⟩
    show accepts sig.params (n' + m) (nms ++ K ++ []) = true
    rw [List.append_nil]
    obtain ⟨-, hc, -, hloop⟩ := maskNames_plain_ok (init_inv hs hp rfl) hm
    have hnd := nodup_append_of_disj hn hK hdisj
    have cl := maskNames_closed (init_inv hs hp rfl) hm
    -- put `**kwargs` back, go back through the loop, put `*args` back
    have a1 : AccP (sOf (s.pos.drop n') s.vk st) m K :=
      accP_mono hacc _ rfl rfl rfl (fun x => x) isSome_of_ite_none
    have a3 : AccP (popped s n') m (nms ++ K) :=
      accP_mono ((hloop m K fun x hx hxK => hdisj x hxK hx).1 a1) _ rfl rfl rfl isSome_of_ite_none (fun x => x)
    have pop := step_pop hs n' m (nms ++ K) hcount
    rw [← hall, accepts_iff hs.bk _ hnd]
    apply pop.1 _ a3
    intro k hk2
    rcases List.mem_append.1 hk2 with hk2 | hk2
    · exact hc k hk2
    · refine nonColl_not_consumed hall n' hs2.bk (fun y hy hc => ?_) hnc k hk2
      exact (cl.1.sub_names y hy).elim (take_drop_disj hs n' y hc).2.1 (take_drop_disj hs n' y hc).2.2
  · -- hide_kwargs: the loop does not run and the result has no keyword parameter at all; pass every keyword parameter
    -- that is left (`accP_fill` on what the first phase leaves), then put the consumed positionals back
    cases hm
    obtain ⟨c1, rfl, c3⟩ := accP_nokw.1 hacc
    have hst := popped_swf hs n'
    have fill := accP_fill hst m
      (c1.imp (fun c => Nat.le_trans c (by simp [popped])) isSome_of_ite_none)
      fun p hp' hr => by
        rw [List.take_append, names_append]
        exact List.mem_append_left _ (c3 p hp' hr)
    refine ⟨n' + m, names ((popped s n').pok.drop (m - (popped s n').pos.length)) ++ names (popped s n').kwo,
      (fun hf => by rw [hn' hf]), (fun hf => nomatch hf), ?_⟩
    show accepts sig.params (n' + m) (_ ++ names (popped s n').kwo) = true
    rw [← hall, accepts_iff hs.bk _ (hst.nodup_fill _)]
    refine (step_pop hs n' m _ hcount).1 (fun k hk hc => ?_) fill
    rcases List.mem_append.1 hk with hk | hk
    · rw [names_drop] at hk
      exact (take_drop_disj hs n' k hc).2.1 (List.mem_of_mem_drop hk)
    · exact (take_drop_disj hs n' k hc).2.2 hk

theorem mask_accepts_iff {sig R : USig} {n m : Nat} {nms K : List Nat}
    (hwf : WF sig.params) (hn : nms.Nodup) (hK : K.Nodup) (hdisj : ∀ k ∈ K, k ∉ nms)
    (hR : mask sig n nms {} = .ok R) (hnc : nonColl R.params [sig.params] K) :
    accepts R.params m K = accepts sig.params (n + m) (nms ++ K) := by
  rw [Bool.eq_iff_iff]
  constructor
  · intro hacc
    obtain ⟨tot, H, ht, hH, h⟩ := mask_sound hwf hn hK hdisj hR hnc hacc
    rw [ht rfl, hH rfl, List.append_nil] at h
    exact h
  · intro hacc
    obtain ⟨R', hR', h⟩ := mask_complete_core hwf (nodup_append_of_disj hn hK hdisj)
      (names_not_consumed_of_ok hwf hR) hacc
    rw [hR] at hR'
    cases hR'
    exact h

end SV
