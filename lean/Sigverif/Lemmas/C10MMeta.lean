/-
  Lemmas/C10MMeta.lean — where every non-star parameter of a merge step comes from: it is one of the
  combinations `Comb` of parameters of the two operands, but for a restriction of its kind (`Orig`).
  Hence the kind rule of C10 on the result of `merge`: every parameter of the result comes from an input
  parameter of the same name whose kind it only restricts.
-/
import Sigverif.Lemmas.LawsKinds
import Sigverif.Lemmas.Forall
import Sigverif.Lemmas.C08Step
namespace SV

section
variable (Lc Rc lk rk : List Param)

/-- what a merge step combines out of its operands, whose positional chains are `Lc`, `Rc` and whose
    keyword-only buckets are `lk`, `rk` -/
inductive Comb : Param → Prop
  | pair {i : Nat} {lp rp : Param} (hl : Lc[i]? = some lp) (hr : Rc[i]? = some rp) : Comb (concile lp rp)
  | pairR {i : Nat} {lp rp : Param} (hl : Lc[i]? = some lp) (hr : Rc[i]? = some rp)
      (hk : lp.kind = .pk ∧ rp.kind = .po) : Comb (concile rp lp)
  | onlyL {i : Nat} {lp : Param} (hl : Lc[i]? = some lp) (hlen : Rc.length ≤ i) : Comb lp
  | onlyR {i : Nat} {rp : Param} (hr : Rc[i]? = some rp) (hlen : Lc.length ≤ i) : Comb rp
  | limboL {lp q : Param} (hl : lp ∈ Lc) (hq : q ∈ rk) (hqn : q.name = lp.name) : Comb (concile lp q)
  | limboR {rp q : Param} (hr : rp ∈ Rc) (hq : q ∈ lk) (hqn : q.name = rp.name) : Comb (concile rp q)
  | kw {lp q : Param} (hl : lp ∈ lk) (hq : q ∈ rk) (hqn : q.name = lp.name) : Comb (concile lp q)
  | kwL {lp : Param} (hl : lp ∈ lk) (hun : ∀ q ∈ rk, q.name ≠ lp.name) : Comb lp
  | kwR {rp : Param} (hr : rp ∈ rk) (hun : ∀ q ∈ lk, q.name ≠ rp.name) : Comb rp

def Orig (p : Param) : Prop := ∃ x, Comb Lc Rc lk rk x ∧ Restr x p

variable {Lc Rc lk rk}

theorem Orig.restr {p p' : Param} (h : Orig Lc Rc lk rk p) (hp : Restr p p') : Orig Lc Rc lk rk p' := by
  obtain ⟨x, hx, hxp⟩ := h
  exact ⟨x, hx, hxp.trans hp⟩

end

/-- the allowed name origins of a keyword-passable parameter of the result -/
def OKn (l r : Sorted) (x : Nat) : Prop :=
  (x ∈ names l.pok ∨ x ∈ names l.kwo ∨ l.vk.isSome = true) ∧
  (x ∈ names r.pok ∨ x ∈ names r.kwo ∨ r.vk.isSome = true)

theorem BucketKinds.pok_of_restricts {s : Sorted} {p : Param} {k : Kind} (bs : BucketKinds s)
    (hm : p ∈ s.pos ++ s.pok) (hr : restricts p.kind k) (hk : k ≠ .po) : p ∈ s.pok := by
  rcases List.mem_append.1 hm with hm | hm
  · rw [bs.pos p hm] at hr
    exact absurd (hr.elim id fun h => nomatch h.1) hk
  · exact hm

section
variable {l r : Sorted}

/-- along the run of a step: every entry of the state has an origin, a keyword-passable one under a name that
    both operands take by keyword, and what is in limbo has no keyword-only namesake on the other side -/
structure OInv (l r : Sorted) (xs ys : List Param) (b : Bk) : Prop where
  pre : Lockstep (l.pos ++ l.pok) (r.pos ++ r.pok) xs ys
  pos : ∀ p ∈ b.pos, Orig (l.pos ++ l.pok) (r.pos ++ r.pok) l.kwo r.kwo p
  pok : ∀ p ∈ b.pok, Orig (l.pos ++ l.pok) (r.pos ++ r.pok) l.kwo r.kwo p
  kwo : ∀ p ∈ b.kwo, Orig (l.pos ++ l.pok) (r.pos ++ r.pok) l.kwo r.kwo p
  lUn : ∀ p ∈ b.lUn, p ∈ l.kwo ∧ ∀ q ∈ r.kwo, q.name ≠ p.name
  rUn : ∀ p ∈ b.rUn, p ∈ r.kwo ∧ ∀ q ∈ l.kwo, q.name ≠ p.name
  okP : ∀ p ∈ b.pok, OKn l r p.name
  okK : ∀ p ∈ b.kwo, OKn l r p.name

theorem OInv.put {K : Prop} (k : K) {xs ys xs' ys' : List Param} {e : Param} {b b' : Bk} (h : OInv l r xs ys b)
    (hk : AllKind .pk b.pok) (hpre : Lockstep (l.pos ++ l.pok) (r.pos ++ r.pok) xs' ys') (ha : Put K e b b')
    (he : Orig (l.pos ++ l.pok) (r.pos ++ r.pok) l.kwo r.kwo e) (ho : e.kind ≠ .po → OKn l r e.name) :
    OInv l r xs' ys' b' := by
  obtain ⟨-, h1, h2, h3, h4, h5, p1, p2⟩ := h
  cases ha with
  | pos hp => exact ⟨hpre, AllP.append h1 (AllP.one he), h2, h3, h4, h5, p1, p2⟩
  | pok hk' =>
    exact ⟨hpre, h1, AllP.append h2 (AllP.one he), h3, h4, h5,
      AllP.append p1 (AllP.one (ho fun h => nomatch (hk' k).symm.trans h)), p2⟩
  | kwo hk' =>
    exact ⟨hpre, h1, h2, AllP.pset h3 he, h4, h5, p1, AllP.pset p2 (ho fun h => nomatch hk'.symm.trans h)⟩
  | flush =>
    -- what is flushed from `pok` was positional-or-keyword: its kind is restricted once more
    refine ⟨hpre, AllP.append (AllP.append h1 ?_) (AllP.one he), AllP.nil, h3, h4, h5, AllP.nil, p2⟩
    intro p hp
    obtain ⟨x, hx, rfl⟩ := List.mem_map.1 hp
    exact (h2 x hx).restr (Restr.withKind (hk x hx) (.inl rfl))

theorem OInv.mstep {K : Prop} (k : K) (bl : BucketKinds l) (br : BucketKinds r) (xs ys : List Param) (st : MState)
    (xs' ys' : List Param) (st' : MState) (s : MStep K l r xs ys st xs' ys' st')
    (h : BkKinds st.bk ∧ OInv l r xs ys st.bk) : BkKinds st'.bk ∧ OInv l r xs' ys' st'.bk := by
  refine ⟨MStep.kinds k _ _ _ _ _ _ s h.1, ?_⟩
  obtain ⟨hk, h⟩ := h
  obtain ⟨n, P⟩ := h.pre
  have pre := h.pre.step
  have inL : ∀ (p : Param) {k : Kind}, p ∈ l.pos ++ l.pok → restricts p.kind k → k ≠ .po →
      p.name ∈ names l.pok ∨ p.name ∈ names l.kwo ∨ l.vk.isSome = true :=
    fun _ _ hp hr ne => .inl (mem_names_of_mem (bl.pok_of_restricts hp hr ne))
  have inR : ∀ (p : Param) {k : Kind}, p ∈ r.pos ++ r.pok → restricts p.kind k → k ≠ .po →
      p.name ∈ names r.pok ∨ p.name ∈ names r.kwo ∨ r.vk.isSome = true :=
    fun _ _ hp hr ne => .inl (mem_names_of_mem (br.pok_of_restricts hp hr ne))
  induction s with
  | both lp rp e xs1 ys1 _ b1 _ hm he ho ha =>
    refine h.put k hk.pok pre ha ⟨_, .pair P.head P.flip.head, hm.restr (he k)⟩ fun ne => ?_
    rw [hm.name]
    exact ⟨inL lp P.mem (he k) ne, (ho k ne).2 ▸ inR rp P.flip.mem (.inl (ho k ne).1.symm) fun h => nomatch h⟩
  | bothR lp rp e xs1 ys1 _ b1 _ hk' hm he ha =>
    refine h.put k hk.pok pre ha ⟨_, .pairR P.head P.flip.head (hk' k), hm.restr (he k)⟩ fun ne => ?_
    exact absurd ((he k).elim (·.trans (hk' k).2) fun h => nomatch (hk' k).2.symm.trans h.1) ne
  | left lp e xs1 _ b1 _ hm he ho ha =>
    refine h.put k hk.pok pre ha ⟨_, .onlyL P.head P.le, hm.restr (he k)⟩ fun ne => ?_
    rw [hm.name]
    exact ⟨inL lp P.mem (he k) ne, .inr (.inr (ho k ne))⟩
  | right rp e ys1 _ b1 _ hm he ho ha =>
    refine h.put k hk.pok pre ha ⟨_, .onlyR P.flip.head P.flip.le, hm.restr (he k)⟩ fun ne => ?_
    rw [hm.name]
    exact ⟨.inr (.inr (ho k ne)), inR rp P.flip.mem (he k) ne⟩
  | leftDrop | rightDrop => exact { h with pre := pre }
  | leftLimbo lp q e xs1 _ hq hm he hk' =>
    obtain ⟨q1, q2⟩ := pget_some hq
    have ok : OKn l r e.name := by
      rw [hm.name]
      exact ⟨inL lp P.mem (he k) (hk' ▸ Kind.noConfusion), .inr (.inl (q2 ▸ mem_names_of_mem (h.rUn q q1).1))⟩
    exact { h with
      pre := pre
      kwo := AllP.pset h.kwo ⟨_, .limboL P.mem (h.rUn q q1).1 q2, hm.restr (he k)⟩
      rUn := fun p hp => h.rUn p (List.mem_filter.1 hp).1
      okK := AllP.pset h.okK ok }
  | rightLimbo rp q e ys1 _ hq hm he hk' =>
    obtain ⟨q1, q2⟩ := pget_some hq
    have ok : OKn l r e.name := by
      rw [hm.name]
      exact ⟨.inr (.inl (q2 ▸ mem_names_of_mem (h.lUn q q1).1)),
        inR rp P.flip.mem (he k) (hk' ▸ Kind.noConfusion)⟩
    exact { h with
      pre := pre
      kwo := AllP.pset h.kwo ⟨_, .limboR P.flip.mem (h.lUn q q1).1 q2, hm.restr (he k)⟩
      lUn := fun p hp => h.lUn p (List.mem_filter.1 hp).1
      okK := AllP.pset h.okK ok }

/-- phase K makes the `kw` combinations and fills the limbo lists with what has no keyword-only
    namesake; what is left there at the end comes as `kwL`, `kwR` -/
theorem WStep.orig {K : Prop} (k : K) (bl : BucketKinds l) (br : BucketKinds r) (xs ys : List Param) (c : WState)
    (xs' ys' : List Param) (c' : WState) (s : WStep K l r xs ys c xs' ys' c')
    (h : (AllKind .ko c.kl ∧ AllKind .ko c.kr ∧ BkKinds c.st.bk) ∧
      ((∀ p ∈ c.kl, p ∈ l.kwo) ∧ ∀ p ∈ c.kr, p ∈ r.kwo) ∧ OInv l r xs ys c.st.bk) :
    (AllKind .ko c'.kl ∧ AllKind .ko c'.kr ∧ BkKinds c'.st.bk) ∧
      ((∀ p ∈ c'.kl, p ∈ l.kwo) ∧ ∀ p ∈ c'.kr, p ∈ r.kwo) ∧ OInv l r xs' ys' c'.st.bk := by
  refine ⟨WStep.kinds k _ _ _ _ _ _ s h.1, ?_⟩
  obtain ⟨hk, ⟨m1, m2⟩, h⟩ := h
  have unm : ∀ {P : Param → Prop} {un : List Param} {p : Param}, (∀ x ∈ un, P x) → P p → ∀ x ∈ pset un p, P x :=
    fun hu hp x hx => (mem_pset hx).elim (hu x) (· ▸ hp)
  induction s with
  | kw p q _ _ _ _ st hq =>
    obtain ⟨q1, q2⟩ := pget_some hq
    have hp := m1 p (.head _)
    exact ⟨⟨fun x hx => m1 x (.tail _ hx), m2⟩, { h with
      kwo := AllP.pset h.kwo ⟨_, .kw hp q1 q2, Restr.refl _⟩
      okK := AllP.pset h.okK (p := concile p q)
        ⟨.inr (.inl (mem_names_of_mem (p := p) hp)), .inr (.inl (q2 ▸ mem_names_of_mem q1))⟩ }⟩
  | kwL p _ _ _ _ st hq =>
    have hl := unm h.lUn
      (⟨m1 p (.head _), fun q hq' e => pget_eq_none.1 hq (e ▸ mem_names_of_mem hq')⟩)
    exact ⟨⟨fun x hx => m1 x (.tail _ hx), m2⟩, { h with lUn := hl }⟩
  | kwSkip p => exact ⟨⟨m1, fun x hx => m2 x (.tail _ hx)⟩, h⟩
  | kwR p _ _ _ st hp =>
    have hr := unm h.rUn
      (⟨m2 p (.head _), fun q hq' e => hp (phas_iff.2 (e ▸ mem_names_of_mem hq'))⟩)
    exact ⟨⟨m1, fun x hx => m2 x (.tail _ hx)⟩, { h with rUn := hr }⟩
  | pq s => exact ⟨⟨m1, m2⟩, (OInv.mstep k bl br _ _ _ _ _ _ s ⟨hk.2.2, h⟩).2⟩
  | unL st _ hvk =>
    exact ⟨⟨m1, m2⟩, { h with
      kwo := AllP.pupdate h.kwo (fun p hp => ⟨p, .kwL (h.lUn p hp).1 (h.lUn p hp).2, Restr.refl _⟩)
      okK := AllP.pupdate h.okK
        (fun p hp => ⟨.inr (.inl (mem_names_of_mem (h.lUn p hp).1)), .inr (.inr hvk)⟩) }⟩
  | unR st _ hvk =>
    exact ⟨⟨m1, m2⟩, { h with
      kwo := AllP.pupdate h.kwo (fun p hp => ⟨p, .kwR (h.rUn p hp).1 (h.rUn p hp).2, Restr.refl _⟩)
      okK := AllP.pupdate h.okK
        (fun p hp => ⟨.inr (.inr hvk), .inr (.inl (mem_names_of_mem (h.rUn p hp).1))⟩) }⟩

theorem mergeStep_oinv {m : Sorted} (bl : BucketKinds l) (br : BucketKinds r) (h : mergeStep l r = .ok m) :
    OInv l r [] [] ⟨m.pos, m.pok, m.kwo, [], []⟩ := by
  obtain ⟨st, run, rfl⟩ := mergeStep_runs (K := True) (fun _ => ⟨bl, br⟩) h
  have i := (Runs.inv (fun xs ys (c : WState) => (AllKind .ko c.kl ∧ AllKind .ko c.kr ∧ BkKinds c.st.bk) ∧
      ((∀ p ∈ c.kl, p ∈ l.kwo) ∧ ∀ p ∈ c.kr, p ∈ r.kwo) ∧ OInv l r xs ys c.st.bk)
    (WStep.orig trivial bl br) run
    ⟨⟨bl.kwo, br.kwo, AllKind.nil, AllKind.nil, AllKind.nil, AllKind.nil, AllKind.nil⟩,
      ⟨fun _ hp => hp, fun _ hp => hp⟩, .refl _ _, AllP.nil, AllP.nil, AllP.nil, AllP.nil, AllP.nil, AllP.nil,
      AllP.nil⟩).2.2
  exact ⟨i.pre, i.pos, i.pok, i.kwo, AllP.nil, AllP.nil, i.okP, i.okK⟩

theorem x10_mergeStep_orig (l r s : Sorted) (bl : BucketKinds l) (br : BucketKinds r)
    (h : mergeStep l r = .ok s) :
    ∀ p, (p ∈ s.pos ∨ p ∈ s.pok ∨ p ∈ s.kwo) → Orig (l.pos ++ l.pok) (r.pos ++ r.pok) l.kwo r.kwo p := by
  have i := mergeStep_oinv bl br h
  rintro p (hp | hp | hp)
  · exact i.pos p hp
  · exact i.pok p hp
  · exact i.kwo p hp

theorem mergeStep_okn {m : Sorted} (bl : BucketKinds l) (br : BucketKinds r) (h : mergeStep l r = .ok m) :
    ∀ p, p ∈ m.pok ∨ p ∈ m.kwo → OKn l r p.name :=
  fun p hp => hp.elim ((mergeStep_oinv bl br h).okP p) ((mergeStep_oinv bl br h).okK p)

end

def FromInput (ss : List USig) (p : Param) : Prop :=
  ∃ s ∈ ss, ∃ q ∈ s.params, q.name = p.name ∧ restricts q.kind p.kind

theorem FromInput.restr {ss : List USig} {p p' : Param} (h : FromInput ss p) (hn : p'.name = p.name)
    (hk : restricts p.kind p'.kind) : FromInput ss p' := by
  obtain ⟨s, hs, q, hq, e, hr⟩ := h
  exact ⟨s, hs, q, hq, e.trans hn.symm, restricts_trans hr hk⟩

theorem Comb.source {Lc Rc lk rk : List Param} {x : Param} (h : Comb Lc Rc lk rk x) :
    ∃ q, (q ∈ Lc ∨ q ∈ lk ∨ q ∈ Rc ∨ q ∈ rk) ∧ q.name = x.name ∧ q.kind = x.kind := by
  induction h with
  | pair hl hr => exact ⟨_, .inl (List.mem_of_getElem? hl), rfl, rfl⟩
  | pairR hl hr hk => exact ⟨_, .inr (.inr (.inl (List.mem_of_getElem? hr))), rfl, rfl⟩
  | onlyL hl hlen => exact ⟨_, .inl (List.mem_of_getElem? hl), rfl, rfl⟩
  | onlyR hr hlen => exact ⟨_, .inr (.inr (.inl (List.mem_of_getElem? hr))), rfl, rfl⟩
  | limboL hl hq hqn => exact ⟨_, .inl hl, rfl, rfl⟩
  | limboR hr hq hqn => exact ⟨_, .inr (.inr (.inl hr)), rfl, rfl⟩
  | kw hl hq hqn => exact ⟨_, .inr (.inl hl), rfl, rfl⟩
  | kwL hl hun => exact ⟨_, .inr (.inl hl), rfl, rfl⟩
  | kwR hr hun => exact ⟨_, .inr (.inr (.inr hr)), rfl, rfl⟩

theorem mergeStep_source {l r m : Sorted} (bl : BucketKinds l) (br : BucketKinds r) (h : mergeStep l r = .ok m)
    {p : Param} (hp : p ∈ m.pos ∨ p ∈ m.pok ∨ p ∈ m.kwo) :
    ∃ q, (q ∈ l.pos ++ l.pok ∨ q ∈ l.kwo ∨ q ∈ r.pos ++ r.pok ∨ q ∈ r.kwo) ∧ q.name = p.name ∧
      restricts q.kind p.kind := by
  obtain ⟨x, hx, hxp⟩ := x10_mergeStep_orig l r m bl br h p hp
  obtain ⟨q, hq, hn, hk⟩ := hx.source
  exact ⟨q, hq, hn.trans hxp.name.symm, hk ▸ hxp.kind⟩

theorem x10_mergeStep_fromInput (S : List USig) (l r s : Sorted) (bl : BucketKinds l)
    (br : BucketKinds r) (hl : AllP (FromInput S) l.all) (hr : AllP (FromInput S) r.all)
    (h : mergeStep l r = .ok s) : AllP (FromInput S) s.all := by
  obtain ⟨l1, l2, l3, l4, l5⟩ := (allP_all_iff l).1 hl
  obtain ⟨r1, r2, r3, r4, r5⟩ := (allP_all_iff r).1 hr
  have key : ∀ p, p ∈ s.pos ∨ p ∈ s.pok ∨ p ∈ s.kwo → FromInput S p := by
    intro p hp
    obtain ⟨q, hq, hn, hk⟩ := mergeStep_source bl br h hp
    have hq' : FromInput S q := by
      rcases hq with hq | hq | hq | hq
      · exact l1.append l2 q hq
      · exact l4 q hq
      · exact r1.append r2 q hq
      · exact r4 q hq
    exact hq'.restr hn.symm hk
  have star : ∀ (wL wR : Bool) (left right : Option Param) (src : Srcs),
      (∀ q, left = some q → FromInput S q) → (∀ q, right = some q → FromInput S q) →
      ∀ p, (addStarargs l r wL wR left right src).1 = some p → FromInput S p := by
    intro wL wR left right src hleft hright p hp
    obtain ⟨q, hq, hn, hk⟩ := addStarargs_source _ _ _ _ _ _ _ p hp
    have hq' : FromInput S q := hq.elim (hleft q) (hright q)
    exact hq'.restr hn.symm (hk ▸ restricts_refl _)
  obtain ⟨st1, st2, st3, st4, il, ir, -, -, -, -, rfl⟩ := mergeStep_ok l r s h
  exact (allP_all_iff _).2 ⟨fun p hp => key p (.inl hp), fun p hp => key p (.inr (.inl hp)), star _ _ _ _ _ l3 r3,
    fun p hp => key p (.inr (.inr hp)), star _ _ _ _ _ l5 r5⟩

theorem x10_mergeFold_fromInput (S : List USig) (acc r : Sorted) (ss : List USig)
    (bacc : BucketKinds acc) (hacc : AllP (FromInput S) acc.all)
    (hss : ∀ s ∈ ss, AllP (FromInput S) s.params) (h : mergeFold acc ss = .ok r) :
    AllP (FromInput S) r.all := by
  refine (mergeFold_inv (Inv := fun a => BucketKinds a ∧ AllP (FromInput S) a.all)
    (fun l m s hs ⟨bl, hl⟩ hstep => ?_) ⟨bacc, hacc⟩ h).2
  exact ⟨mergeStep_bk _ _ _ bl (sortParams_bk s) hstep,
    x10_mergeStep_fromInput S _ _ _ bl (sortParams_bk s) hl (sortParams_allP s (hss s hs)) hstep⟩

theorem merge_fromInput (ss : List USig) (R : USig) (hR : merge ss = .ok R) :
    ∀ p ∈ R.params, FromInput ss p := by
  have hss : ∀ s ∈ ss, AllP (FromInput ss) s.params :=
    fun s hs p hp => ⟨s, hs, p, hp, rfl, restricts_refl _⟩
  obtain ⟨s, ss', res, rfl, hfold, ha⟩ := merge_inv hR
  rw [(applyParams_fields ha).1]
  exact x10_mergeFold_fromInput _ _ _ _ (sortParams_bk s)
    (sortParams_allP s (hss s List.mem_cons_self)) (fun t ht => hss t (List.mem_cons_of_mem _ ht)) hfold

/-- the only kind changes the property allows: none, or positional-or-keyword to positional-only /
    keyword-only -/
def x10_restricts (k k' : Kind) : Prop := k' = k ∨ (k = .pk ∧ (k' = .po ∨ k' = .ko))

instance (k k' : Kind) : Decidable (x10_restricts k k') := by unfold x10_restricts; exact inferInstance

end SV
