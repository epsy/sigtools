/-
  Lemmas/LawsErr.lean — error discipline and validity of the results (C15): what the phases,
  the folds and `maskCore` can raise, and that what they return has passed `validate`.
-/
import Sigverif.Lemmas.MergePhases
import Sigverif.Lemmas.Core.Validate
import Sigverif.Lemmas.C03Mask
namespace SV

theorem unbalancedPos_err {side : Side} {l r : Sorted} {ex : Param} {cf : List Param} {st : MState}
    {e : Err} (h : unbalancedPos side l r ex cf st = .error e) : e = .valueError := by
  cases h ▸ unbalancedPos_out side l r ex cf st
  rfl

theorem unbalancedPok_err {side : Side} {l r : Sorted} {ex : Param} {st : MState} {e : Err}
    (h : unbalancedPok side l r ex st = .error e) : e = .valueError := by
  cases h ▸ unbalancedPok_out side l r ex st
  rfl

theorem mergeUnmatched_err {side : Side} {l r : Sorted} {st : MState} {e : Err}
    (h : mergeUnmatched side l r st = .error e) : e = .valueError := by
  cases h ▸ mergeUnmatched_out side l r st
  rfl

theorem phaseP_err (l r : Sorted) (ls rs il ir : List Param) (st : MState) (e : Err)
    (h : phaseP l r ls rs il ir st = .error e) : e = .valueError := by
  rcases phaseP_raises (fun _ _ _ _ _ => True)
    ⟨fun _ _ _ _ _ _ _ _ => trivial, fun _ _ _ _ _ _ _ _ _ => trivial,
      fun _ _ _ _ _ _ _ _ _ => trivial⟩ h trivial with
    ⟨_, _, _, _, _, -, h1⟩ | ⟨_, _, _, _, _, -, h1⟩
  · exact unbalancedPos_err h1
  · exact unbalancedPos_err h1

theorem phaseQ_err (l r : Sorted) (il ir : List Param) (st : MState) (e : Err)
    (h : phaseQ l r il ir st = .error e) : e = .valueError := by
  rcases phaseQ_raises (fun _ _ _ => True)
    ⟨fun _ _ _ _ _ _ _ => trivial, fun _ _ _ _ _ _ _ => trivial, fun _ _ _ _ _ _ => trivial,
      fun _ _ _ _ _ _ => trivial⟩ h trivial with ⟨_, _, _, -, h1⟩ | ⟨_, _, _, -, h1⟩
  · exact unbalancedPok_err h1
  · exact unbalancedPok_err h1

theorem mergeFold_err (acc : Sorted) (ss : List USig) (e : Err)
    (h : mergeFold acc ss = .error e) : e = .incompatible := by
  induction ss generalizing acc with
  | nil => cases h
  | cons s ss ih =>
    simp only [mergeFold] at h
    split at h
    · exact ih _ h
    · cases h; rfl

theorem embedFold_err (uva uvk : Bool) (acc : Sorted) (n : Nat) (ss : List USig) (e : Err)
    (h : embedFold uva uvk acc n ss = .error e) : e = .incompatible := by
  induction ss generalizing acc n with
  | nil => cases h
  | cons s ss ih =>
    simp only [embedFold] at h
    split at h
    · exact ih _ _ h
    · cases h; rfl

theorem bind_applyParams_err {x : Except Err Sorted} {sig : USig} {e : Err}
    (hx : ∀ e, x = .error e → e = .incompatible) (h : (x >>= applyParams sig) = .error e) :
    e = .incompatible ∨ e = .valueError := by
  rcases bind_eq_error h with h | ⟨s, -, h⟩
  · exact .inl (hx e h)
  · exact .inr (applyParams_err _ _ _ h)

theorem maskCore_err (sig : USig) (n : Nat) (hf : HideFlags) (named : List (Nat × Nat))
    (pobj : Option Nat) (e : Err) (h : maskCore sig n hf named pobj = .error e) :
    e = .valueError := by
  unfold maskCore at h
  rcases bind_eq_error h with h1 | ⟨⟨c, pos, pok⟩, -, h2⟩
  · -- only consuming more positional arguments than there are, without `*args`, raises
    split at h1
    · cases h1
    · split at h1
      · rcases ite_error_eq_error h1 with ⟨-, rfl⟩ | h1
        · rfl
        · cases h1
      · cases h1
  · rcases bind_eq_error h2 with h3 | ⟨st, -, h4⟩
    · exact maskNames_err _ _ _ _ h3
    · exact applyParams_err _ _ _ h4

theorem maskCore_valid (sig : USig) (n : Nat) (hf : HideFlags) (named : List (Nat × Nat))
    (pobj : Option Nat) (R : USig) (h : maskCore sig n hf named pobj = .ok R) :
    validOk R.params = true := by
  unfold maskCore at h
  obtain ⟨⟨c, pos, pok⟩, -, h2⟩ := bind_eq_ok h
  obtain ⟨st, -, h4⟩ := bind_eq_ok h2
  exact applyParams_valid _ _ _ h4

end SV
