/-
  Lemmas/C09RStep.lean — why one `mergeStep` raises: every error point of Model/Merge.lean
  exhibits an *obstruction*, a required parameter of one operand that the other operand cannot
  receive.  Read at the level of the buckets (`accB` for the call shape `(n, [])`): a raising `mergeStep`
  leaves no common all-positional call.
-/
import Sigverif.Lemmas.C01RStep
namespace SV
variable {l r : Sorted}

/-- an operand that takes `cap` positional arguments and has no `*args` (`va = false`) meets a
    required parameter at an index `≥ cap` of `xs`, the positional chain of the other operand -/
def ObstAt (va : Bool) (xs : List Param) (cap : Nat) : Prop :=
  va = false ∧ ∃ i p, xs[i]? = some p ∧ p.required = true ∧ cap ≤ i

variable {va : Bool} {xs : List Param} {cap : Nat}

theorem ObstAt.of_lockstep {L R A : List Param} {x : Param} (h : Lockstep L R (x :: A) [])
    (hva : va = false) (hr : x.required = true) : ObstAt va L R.length := by
  obtain ⟨n, P⟩ := h
  exact ⟨hva, n, x, P.head, hr, P.le⟩

theorem unbalancedPos_raises (side : Side) (x : Param) (o : List Param) (st : MState) (e : Err)
    (h : unbalancedPos side l r x o st = .error e) :
    o = [] ∧ (side.pick r.va l.va).isSome = false ∧ x.required = true := by
  cases h ▸ unbalancedPos_out side l r x o st with
  | raise hva hd => exact ⟨rfl, hva, hd⟩

theorem phaseP_err_obst {ls rs il ir : List Param} {st : MState} {e : Err}
    (h : phaseP l r ls rs il ir st = .error e) :
    ObstAt r.va.isSome (ls ++ il) (rs ++ ir).length ∨
      ObstAt l.va.isSome (rs ++ ir) (ls ++ il).length := by
  rcases phaseP_raises _ (lockstep_carriedP l r (ls ++ il) (rs ++ ir)) h (.refl _ _) with
    ⟨lp, A, il1, ir1, s, hk, h1⟩ | ⟨rp, B, il1, ir1, s, hk, h1⟩
  · obtain ⟨rfl, hva, hr⟩ := unbalancedPos_raises .L _ _ _ _ h1
    exact .inl (.of_lockstep hk hva hr)
  · obtain ⟨rfl, hva, hr⟩ := unbalancedPos_raises .R _ _ _ _ h1
    exact .inr (.of_lockstep hk.symm hva hr)

theorem unbalancedPok_raises (side : Side) (x : Param) (st : MState) (e : Err)
    (h : unbalancedPok side l r x st = .error e) :
    (side.pick r.va l.va).isSome = false ∧ (side.pick r.vk l.vk).isSome = false ∧
      x.required = true := by
  cases h ▸ unbalancedPok_out side l r x st with
  | raise _ hva hvk hd => exact ⟨hva, hvk, hd⟩

theorem phaseQ_err_obst {L R il ir : List Param} {st : MState} {e : Err} (hk : Lockstep L R il ir)
    (h : phaseQ l r il ir st = .error e) :
    ObstAt r.va.isSome L R.length ∨ ObstAt l.va.isSome R L.length := by
  rcases phaseQ_raises _ (lockstep_carriedQ l r L R) h hk with
    ⟨lp, A, s, hk, h1⟩ | ⟨rp, B, s, hk, h1⟩
  · obtain ⟨hva, -, hr⟩ := unbalancedPok_raises .L _ _ _ h1
    exact .inl (.of_lockstep hk hva hr)
  · obtain ⟨hva, -, hr⟩ := unbalancedPok_raises .R _ _ _ h1
    exact .inr (.of_lockstep hk.symm hva hr)

theorem mergeUnmatched_raises (side : Side) (st : MState) (e : Err)
    (h : mergeUnmatched side l r st = .error e) : anyReq (side.pick st.lUn st.rUn) := by
  cases h ▸ mergeUnmatched_out side l r st with
  | raise _ hd =>
    obtain ⟨p, hp, hd⟩ := List.any_eq_true.1 hd
    exact ⟨p, hp, hd⟩

theorem not_accB_of_obst {n : Nat}
    (ho : ObstAt r.va.isSome (l.pos ++ l.pok) (r.pos ++ r.pok).length) :
    ¬ (accB l n [] ∧ accB r n []) := by
  rintro ⟨⟨-, -, a3, -⟩, ⟨b1, -⟩⟩
  obtain ⟨hva, i, p, h1, h2, h3⟩ := ho
  rcases a3 i p h1 h2 with h | ⟨-, h⟩
  · rw [hva] at b1
    simp only [Bool.false_eq_true, or_false] at b1
    simp only [List.length_append] at h3
    omega
  · cases h

theorem mergeStep_err_no_pos {e : Err} (h : mergeStep l r = .error e) (n : Nat) :
    ¬ (accB l n [] ∧ accB r n []) := by
  rcases mergeStep_err_cases h with h1 | ⟨st1, il, ir, h1, h⟩
  ·
    rcases phaseP_err_obst h1 with ho | ho
    · exact not_accB_of_obst ho
    · exact fun hh => not_accB_of_obst ho hh.symm
  rcases h with h2 | ⟨st2, h2, h⟩
  ·
    rcases phaseQ_err_obst (phaseP_lockstep h1) h2 with ho | ho
    · exact not_accB_of_obst ho
    · exact fun hh => not_accB_of_obst ho hh.symm
  -- what is left in limbo after phase Q are keyword-only parameters of the operands
  have S2 : ZSub l r st2 := ZRuns.sub (K := False)
    ((zrun_P _ _ _ _ _ _ _ _ False.elim stK_pok h1).2.trans (zrun_Q _ _ _ _ False.elim h2))
  rcases h with h3 | ⟨st3, h3, h4⟩
  · obtain ⟨p, hp, hr⟩ := mergeUnmatched_raises .L _ _ h3
    rintro ⟨⟨-, -, -, a4⟩, -⟩
    cases a4 p (S2.lun p hp) hr
  · obtain ⟨p, hp, hr⟩ := mergeUnmatched_raises .R _ _ h4
    rintro ⟨-, ⟨-, -, -, b4⟩⟩
    cases b4 p (S2.run p ((mergeUnmatched_keeps h3).2.2.2 ▸ hp)) hr

end SV
