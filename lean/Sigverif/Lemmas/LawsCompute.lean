/-
  Lemmas/LawsCompute.lean — what the merge phases compute on special inputs
  (equal operands, a bare `(*args, **kwargs)` operand on the left; for one on the right see
  Lemmas/C02Merge), as equations like those of Lemmas/C02Merge.
-/
import Sigverif.Lemmas.MergePhases
import Sigverif.Lemmas.C02Merge
namespace SV

theorem concile_self (p : Param) (h : p.ann = none → p.uann = .empty) : concile p p = p := by
  obtain ⟨n, k, d, a, u⟩ := p
  simp only [concile]
  cases d <;> cases a <;> simp_all

def srcFoldN (frm : List Srcs) (xs : List Param) (src : Srcs) : Srcs :=
  xs.foldl (fun acc p => addSources acc p.name frm) src

theorem phaseK1_self (l r : Sorted) (ps : List Param) (st : MState)
    (h1 : ∀ p ∈ ps, pget r.kwo p.name = some p) (h2 : ∀ p ∈ ps, concile p p = p) :
    phaseK1 l r ps st =
      { st with kwo := pupdate st.kwo ps,
                src := ps.foldl (fun acc p => dset acc p.name (sget l.src p.name ++ sget r.src p.name))
                  st.src } := by
  induction ps generalizing st with
  | nil => rfl
  | cons p ps ih =>
    simp only [phaseK1, h1 p (by simp), h2 p (by simp)]
    rw [ih _ (fun q hq => h1 q (by simp [hq])) (fun q hq => h2 q (by simp [hq]))]
    rfl

theorem phaseP_self (l r : Sorted) (xs il ir : List Param) (st : MState)
    (h2 : ∀ p ∈ xs, concile p p = p) :
    phaseP l r xs xs il ir st =
      .ok ({ st with pos := st.pos ++ xs, src := srcFoldN [l.src, r.src] xs st.src }, il, ir) := by
  induction xs generalizing st with
  | nil => cases st; simp [phaseP, srcFoldN]
  | cons p xs ih =>
    simp only [phaseP, h2 p (by simp), ↓reduceIte]
    rw [ih _ (fun q hq => h2 q (by simp [hq]))]
    simp [srcFoldN]

theorem phaseQ_self (l r : Sorted) (xs : List Param) (st : MState)
    (h2 : ∀ p ∈ xs, concile p p = p) :
    phaseQ l r xs xs st =
      .ok { st with pok := st.pok ++ xs, src := srcFoldN [l.src, r.src] xs st.src } := by
  induction xs generalizing st with
  | nil => cases st; simp [phaseQ, srcFoldN]
  | cons p xs ih =>
    rw [phaseQ, if_pos rfl, h2 p (by simp), ih _ (fun q hq => h2 q (by simp [hq]))]
    simp [srcFoldN]

theorem phaseK2_all (l : Sorted) (ps : List Param) (st : MState)
    (h1 : ∀ p ∈ ps, phas l.kwo p.name = true) : phaseK2 l ps st = st := by
  induction ps generalizing st with
  | nil => rfl
  | cons p ps ih =>
    simp only [phaseK2, h1 p (by simp), if_true]
    exact ih _ (fun q hq => h1 q (by simp [hq]))

theorem phaseK2_none (l : Sorted) (ps : List Param) (st : MState)
    (h1 : ∀ p ∈ ps, phas l.kwo p.name = false) :
    phaseK2 l ps st = { st with rUn := pupdate st.rUn ps } := by
  induction ps generalizing st with
  | nil => rfl
  | cons p ps ih =>
    simp only [phaseK2, h1 p (by simp), Bool.false_eq_true, if_false]
    rw [ih _ (fun q hq => h1 q (by simp [hq]))]
    rfl

theorem phaseP_R_some (l r : Sorted) (hva : l.va.isSome = true) (rs ir : List Param) (st : MState) :
    phaseP l r [] rs [] ir st =
      .ok ({ st with pos := st.pos ++ rs, src := srcFold r rs st.src,
                     vaL := st.vaL && rs.isEmpty }, [], ir) := by
  induction rs generalizing st with
  | nil => cases st; simp [phaseP, srcFold]
  | cons p rs ih =>
    simp only [phaseP, unbalancedPos, hva, if_true, bind, Except.bind]
    rw [ih]; simp [srcFold]

theorem phaseQ_R_TT (l r : Sorted) (hva : l.va.isSome = true) (hvk : l.vk.isSome = true)
    (rs : List Param) (st : MState) (hun : st.lUn = []) :
    phaseQ l r [] rs st = .ok { st with pok := st.pok ++ rs, src := srcFold r rs st.src } := by
  induction rs generalizing st with
  | nil => cases st; simp [phaseQ, srcFold]
  | cons p rs ih =>
    obtain ⟨pos, pok, kwo, src, vaL, vaR, vkL, vkR, lUn, rUn⟩ := st
    simp only at hun; subst hun
    simp only [phaseQ, unbalancedPok, pget, List.find?_nil, hva, hvk, Bool.and_self, if_true,
      bind, Except.bind]
    rw [ih _ rfl]; simp [srcFold]

theorem mergeUnmatched_R_some (l r : Sorted) (hvk : l.vk.isSome = true) (st : MState) :
    mergeUnmatched .R l r st =
      .ok { st with kwo := pupdate st.kwo st.rUn, src := addAllSources st.src st.rUn r.src,
                    vkL := st.vkL && st.rUn.isEmpty } := by
  obtain ⟨pos, pok, kwo, src, vaL, vaR, vkL, vkR, lUn, rUn⟩ := st
  cases rUn with
  | nil => simp [mergeUnmatched, pupdate_nil, addAllSources]
  | cons p t => simp [mergeUnmatched, hvk]

theorem mergeUnmatched_L_nil (l r : Sorted) (st : MState) (h : st.lUn = []) :
    mergeUnmatched .L l r st = .ok st := by
  simp [mergeUnmatched, h]

end SV
