/-
  Lemmas/C05MNames.lean — parameter names of per-call signatures: every parameter name of
  `forwards(outer, inner, …)` (partial or not) is a parameter name of `outer` or of `inner` (a property of
  names is an invariant of the algebra, Lemmas/ParamGraph.lean), the same for what a call record declares; and, under role-consistency, a keyword-passable parameter
  of a merge is keyword-passable in every input that has the name.
-/
import Sigverif.Lemmas.C01RFinal
import Sigverif.Lemmas.C04Partial
import Sigverif.Lemmas.ParamGraph
import Sigverif.Props.C07
namespace SV

theorem closedP_name (S : Nat → Prop) : ClosedP (fun p => S p.name) :=
  ⟨fun _ _ h _ => h, fun _ _ h => h, fun _ _ h => h⟩

theorem forwards_names_subset {o i R : USig} {n : Nat} {nms : List Nat} {ha hk uva uvk pt : Bool}
    (hR : forwards o i n nms ha hk uva uvk pt = .ok R) :
    ∀ x ∈ names R.params, x ∈ names o.params ∨ x ∈ names i.params := by
  intro x hx
  obtain ⟨p, hp, rfl⟩ := mem_names.1 hx
  exact (forwards_graph id_metaMap (closedP_name fun x => x ∈ names o.params ∨ x ∈ names i.params) id_concComm id id
    o i n nms ha hk uva uvk pt (fun _ h => .inl (mem_names_of_mem h)) (fun _ h => .inr (mem_names_of_mem h))).1 R hR p hp

theorem declared_names_subset (own : USig) (resolve : RM → RVal) (c : CallRec) (s : USig)
    (hd : declared own resolve c = .ok s) :
    ∃ w, (resolve c.wrapped = .fn w ∨
          (resolve c.wrapped = .partialCtor ∧ ∃ a0 t, c.args = a0 :: t ∧ resolve a0 = .fn w)) ∧
      ∀ x ∈ names s.params, x ∈ names own.params ∨ x ∈ names w.params := by
  obtain ⟨r, w, n, pt, hr, hc, hf⟩ := declared_ok hd
  refine ⟨w, ?_, forwards_names_subset hf⟩
  rcases hc with ⟨rfl, -⟩ | ⟨hpc, ⟨t, ht⟩, -⟩
  · exact .inl hr
  · exact .inr ⟨hpc, r, t, ht, hr⟩

theorem merge_kw_roles (ss : List USig) (R : USig)
    (hv : ∀ s ∈ ss, validate s.params = .ok ())
    (hrc : roleCons (ss.map (·.params)))
    (hR : merge ss = .ok R) :
    ∀ k ∈ kwNames R.params, ∀ s ∈ ss, k ∈ allNames s.params → k ∈ kwNames s.params := by
  obtain ⟨ρ, hρ, hri⟩ := exists_roles_RI ss hv hrc
  obtain ⟨s0, ss', res, rfl, hf, ha⟩ := merge_inv hR
  obtain ⟨hres, -⟩ := mergeFold_accB ss' _ res (hri s0 List.mem_cons_self)
    (fun t ht => hri t (List.mem_cons_of_mem _ ht)) hf
  intro k hk s hs hks
  rw [(applyParams_fields ha).1, kwNames_all hres.bk, List.mem_append] at hk
  have hκ : ρ.κ k = .pk ∨ ρ.κ k = .ko := by
    rcases hk with hk | hk
    · obtain ⟨p, hp, rfl⟩ := mem_names.1 hk
      exact .inl (hres.kpok p hp)
    · obtain ⟨p, hp, rfl⟩ := mem_names.1 hk
      rcases hres.kkwo p hp with h | h
      · exact .inr h
      · exact .inl h.1
  obtain ⟨q, hq, rfl⟩ := mem_names.1 hks
  have hkq := (hρ s.params (List.mem_map.2 ⟨s, hs, rfl⟩)).1 q hq
  unfold kwNames
  refine List.mem_map.2 ⟨q, List.mem_filter.2 ⟨hq, ?_⟩, rfl⟩
  simp only [kwPassable, Bool.or_eq_true, decide_eq_true_eq]
  rw [hkq]; exact hκ

end SV
