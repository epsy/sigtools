/-
  Lemmas/C12Bind.lean — semantic characterisation of `bindCall` (value-level CPython binding).
-/
import Sigverif.Lemmas.Core.Validate
import Sigverif.Model.Modifiers
import Sigverif.Lemmas.BindCall
namespace SV

def kwPart (s : List Param) (kwargs : List (Nat × Nat)) : List (Nat × Nat) :=
  kwargs.filter (fun kv => (kwNames s).contains kv.1)
def extraPart (s : List Param) (kwargs : List (Nat × Nat)) : List (Nat × Nat) :=
  kwargs.filter (fun kv => !(kwNames s).contains kv.1)

theorem bindKws_some_iff (s : List Param) (vk : Bool) (kws named extra : List (Nat × Nat))
    (hnd : (kws.map (·.1)).Nodup) (r : List (Nat × Nat) × List (Nat × Nat)) :
    bindKws s vk kws named extra = some r ↔
      ((∀ kv ∈ kwPart s kws, dhas named kv.1 = false) ∧ ∀ kv ∈ extraPart s kws, vk = true) ∧
      r = (named ++ kwPart s kws, extra ++ extraPart s kws) := by
  rw [bindKws_eq s vk kws named extra (dkeys named) fun k => by
    rw [Bool.eq_iff_iff, List.contains_iff_mem, mem_dkeys_iff]]
  simp only [Option.map_eq_some_iff, bindKw_eq_some_iff, kwPart, extraPart, List.mem_filter, and_imp]
  have hd : ∀ k, dhas named k = false ↔ k ∉ dkeys named := fun k => by
    rw [mem_dkeys_iff, Bool.not_eq_true]
  constructor
  · rintro ⟨_, ⟨-, h1, h2, -⟩, rfl⟩
    exact ⟨⟨fun kv hkv hc => (hd _).2 (h1 _ (List.mem_map_of_mem hkv) (List.contains_iff_mem.1 hc)),
      fun kv hkv hc => h2 _ (List.mem_map_of_mem hkv) fun h => by rw [List.contains_iff_mem.2 h] at hc; cases hc⟩, rfl⟩
  · rintro ⟨⟨h1, h2⟩, rfl⟩
    refine ⟨_, ⟨hnd.filter _, fun k hk hkw => ?_, fun k hk hkw => ?_, rfl⟩, rfl⟩
    · obtain ⟨kv, hkv, rfl⟩ := List.mem_map.1 hk
      exact (hd _).1 (h1 kv hkv (List.contains_iff_mem.2 hkw))
    · obtain ⟨kv, hkv, rfl⟩ := List.mem_map.1 hk
      exact h2 kv hkv (by simpa using hkw)

def dfltOf (ps : List Param) (x : Nat) : Option Nat := (ps.find? (fun p => p.name = x)).bind (·.dflt)

theorem fillDefaults_dget (ps : List Param) (named r : List (Nat × Nat))
    (h : fillDefaults ps named = some r) (x : Nat) :
    dget r x = (dget named x).or (dfltOf ps x) := by
  induction ps generalizing named with
  | nil => simp [fillDefaults] at h; subst h; simp [dfltOf]
  | cons p ps ih =>
    simp only [fillDefaults] at h
    by_cases hd : dhas named p.name = true
    · simp only [hd, ↓reduceIte] at h
      rw [ih _ h]
      by_cases hx : p.name = x
      · subst hx
        simp only [dhas] at hd
        cases hg : dget named p.name with
        | none => simp [hg] at hd
        | some v => simp
      · simp [dfltOf, hx]
    · simp only [hd, Bool.false_eq_true, ↓reduceIte] at h
      cases hdf : p.dflt with
      | none => simp [hdf] at h
      | some d =>
        simp only [hdf] at h
        rw [ih _ h, dget_append]
        have hn : dget named p.name = none := by
          simp only [dhas] at hd; cases hg : dget named p.name <;> simp_all
        by_cases hx : p.name = x
        · subst hx
          simp [hn, dget, dfltOf, hdf]
        · simp [dget, hx, dfltOf]

theorem dfltOf_of_mem {l : List Param} (hn : NamesDistinct l) {p : Param} (hp : p ∈ l) :
    dfltOf l p.name = p.dflt :=
  congrArg (Option.bind · Param.dflt) (pget_of_mem (nodup_names_iff.2 hn) hp)

theorem fillDefaults_isSome_iff (ps : List Param) (named : List (Nat × Nat)) (hn : NamesDistinct ps) :
    (fillDefaults ps named).isSome = true ↔
      ∀ p ∈ ps, ((dget named p.name).or (dfltOf ps p.name)).isSome = true := by
  rw [fillDefaults_isSome ps (List.pairwise_map.2 hn), List.all_eq_true]
  refine forall₂_congr fun p hp => ?_
  rw [dfltOf_of_mem hn hp, dhas]
  cases dget named p.name <;> cases h : p.dflt <;> simp [Param.required, h]

def callMap (s : List Param) (args : List Nat) (kwargs : List (Nat × Nat)) (x : Nat) : Option Nat :=
  (dget (posNamed (positionals s) args ++ kwPart s kwargs) x).or (dfltOf (s.filter isNamed) x)

/-- `bindCall s args kwargs` succeeds, said without running it (`bindCall_spec`) -/
def callOK (s : List Param) (args : List Nat) (kwargs : List (Nat × Nat)) : Prop :=
  (args.length ≤ (positionals s).length ∨ hasVa s = true) ∧
  ((∀ kv ∈ kwPart s kwargs, dhas (posNamed (positionals s) args) kv.1 = false) ∧
    ∀ kv ∈ extraPart s kwargs, hasVk s = true) ∧
  (∀ p ∈ s.filter isNamed, (callMap s args kwargs p.name).isSome = true)

theorem NamesDistinct.filter {l : List Param} (h : NamesDistinct l) (c : Param → Bool) :
    NamesDistinct (l.filter c) := List.Pairwise.filter c h

theorem surplus_cond (s : List Param) (args : List Nat) :
    (!(args.drop (positionals s).length).isEmpty && !hasVa s) = true ↔
      ¬ (args.length ≤ (positionals s).length ∨ hasVa s = true) := by
  simp [List.drop_eq_nil_iff]

theorem bindCall_spec (s : List Param) (args : List Nat) (kwargs : List (Nat × Nat))
    (hn : NamesDistinct s) (hk : (kwargs.map (·.1)).Nodup) :
    match bindCall s args kwargs with
    | some b => callOK s args kwargs ∧ (∀ x, dget b.named x = callMap s args kwargs x) ∧
        b.va = (if hasVa s then some (args.drop (positionals s).length) else none) ∧
        b.vk = (if hasVk s then some (extraPart s kwargs) else none)
    | none => ¬ callOK s args kwargs := by
  rw [bindCall_eq]
  unfold finishBind
  by_cases h1 : args.length ≤ (positionals s).length ∨ hasVa s = true
  · rw [if_neg (fun h => (surplus_cond s args).1 h h1)]
    cases hb : bindKws s (hasVk s) kwargs (posNamed (positionals s) args) [] with
    | none =>
      rintro ⟨-, h2, -⟩
      have := (bindKws_some_iff s (hasVk s) kwargs (posNamed (positionals s) args) [] hk _).2 ⟨h2, rfl⟩
      rw [hb] at this
      cases this
    | some r =>
      obtain ⟨h2, rfl⟩ := (bindKws_some_iff s (hasVk s) kwargs _ [] hk r).1 hb
      have hfd := fillDefaults_isSome_iff (s.filter isNamed)
        (posNamed (positionals s) args ++ kwPart s kwargs) (hn.filter _)
      cases hf : fillDefaults (s.filter isNamed) (posNamed (positionals s) args ++ kwPart s kwargs) with
      | none =>
        simp only [hf]
        rintro ⟨-, -, h3⟩
        have := hfd.2 h3
        rw [hf] at this
        cases this
      | some nm =>
        simp only [hf]
        exact ⟨⟨h1, h2, hfd.1 (by rw [hf]; rfl)⟩, fun x => fillDefaults_dget _ _ _ hf x, trivial, by rw [List.nil_append]⟩
  · rw [if_pos ((surplus_cond s args).2 h1)]
    exact fun h => h1 h.1

theorem bindCall_eq_none (s : List Param) (args : List Nat) (kwargs : List (Nat × Nat))
    (hn : NamesDistinct s) (hk : (kwargs.map (·.1)).Nodup) (h : ¬ callOK s args kwargs) :
    bindCall s args kwargs = none := by
  have := bindCall_spec s args kwargs hn hk
  cases hb : bindCall s args kwargs with
  | none => rfl
  | some b =>
    rw [hb] at this
    exact absurd this.1 h

end SV
