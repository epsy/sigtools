/-
  Lemmas/MergeRun.lean — the positional part (phases P and Q) of `mergeStep l r` as ONE transition
  system `ZStep K l r` on (rest of `l.pos ++ l.pok`, rest of `r.pos ++ r.pok`, merger state): one
  constructor per branch of the code, with all the conditions of that branch and the exact successor
  state.  The code is walked once; every other description of the loop is read off `ZStep` by `cases`.
-/
import Sigverif.Lemmas.MergePhases
import Sigverif.Lemmas.Core.Params
namespace SV

def AllKind (k : Kind) (ps : List Param) : Prop := ∀ p ∈ ps, p.kind = k

theorem AllKind.tail {k : Kind} {p : Param} {ps : List Param} (h : AllKind k (p :: ps)) : AllKind k ps :=
  fun q hq => h q (by simp [hq])
theorem AllKind.head {k : Kind} {p : Param} {ps : List Param} (h : AllKind k (p :: ps)) : p.kind = k :=
  h p (by simp)

theorem AllKind.nil {k : Kind} : AllKind k [] := by intro p hp; cases hp

structure Bk where
  pos : List Param
  pok : List Param
  kwo : List Param
  lUn : List Param
  rUn : List Param

def MState.bk (st : MState) : Bk := ⟨st.pos, st.pok, st.kwo, st.lUn, st.rUn⟩

inductive Runs {σ : Type} (R : List Param → List Param → σ → List Param → List Param → σ → Prop) :
    List Param → List Param → σ → List Param → List Param → σ → Prop
  | refl (xs ys : List Param) (b : σ) : Runs R xs ys b xs ys b
  | head {xs ys xs' ys' xs'' ys'' : List Param} {b b' b'' : σ} :
      R xs ys b xs' ys' b' → Runs R xs' ys' b' xs'' ys'' b'' → Runs R xs ys b xs'' ys'' b''

section
variable {σ τ : Type} {R : List Param → List Param → σ → List Param → List Param → σ → Prop}

theorem Runs.trans {xs ys xs' ys' xs'' ys'' : List Param} {b b' b'' : σ}
    (h1 : Runs R xs ys b xs' ys' b') (h2 : Runs R xs' ys' b' xs'' ys'' b'') :
    Runs R xs ys b xs'' ys'' b'' := by
  induction h1 with
  | refl => exact h2
  | head s _ ih => exact .head s (ih h2)

theorem Runs.tail {xs ys xs' ys' xs'' ys'' : List Param} {b b' b'' : σ}
    (h : Runs R xs ys b xs' ys' b') (s : R xs' ys' b' xs'' ys'' b'') :
    Runs R xs ys b xs'' ys'' b'' :=
  h.trans (.head s (.refl ..))

theorem Runs.inv (I : List Param → List Param → σ → Prop)
    (hstep : ∀ xs ys b xs' ys' b', R xs ys b xs' ys' b' → I xs ys b → I xs' ys' b')
    {xs ys xs' ys' : List Param} {b b' : σ}
    (h : Runs R xs ys b xs' ys' b') (h0 : I xs ys b) : I xs' ys' b' := by
  induction h with
  | refl => exact h0
  | head s _ ih => exact ih (hstep _ _ _ _ _ _ s h0)

theorem Runs.mono {S : List Param → List Param → τ → List Param → List Param → τ → Prop} (f : σ → τ)
    (hRS : ∀ xs ys b xs' ys' b', R xs ys b xs' ys' b' → S xs ys (f b) xs' ys' (f b'))
    {xs ys xs' ys' : List Param} {b b' : σ} (h : Runs R xs ys b xs' ys' b') :
    Runs S xs ys (f b) xs' ys' (f b') := by
  induction h with
  | refl => exact .refl ..
  | head s _ ih => exact .head (hRS _ _ _ _ _ _ s) ih

end

/-- the state as the right operand sees it: `mergeStep r l` treats `st.flip` the way `mergeStep l r`
    treats `st` -/
def MState.flip (st : MState) : MState :=
  { st with vaL := st.vaR, vaR := st.vaL, vkL := st.vkR, vkR := st.vkL, lUn := st.rUn, rUn := st.lUn }

/-- The head `x` of the chain of operand `own` has no partner of its own regime; `other` is the
    other operand, the second chain is what is left of its chain, `st.rUn` its limbo and `st.vaR`
    its `*args` flag (the mirror image is obtained at `st.flip`).  The code does not look at kinds:
    what is known of them when the buckets of the operands hold their kinds is stated under `K`. -/
inductive ZOne (K : Prop) (own other : Sorted) (x : Param) (st : MState) :
    List Param → List Param → MState → Prop
  | pull (y : Param) (cf : List Param) (hx : K → x.kind = .po) (hy : K → y.kind = .pk) (hp : st.pok = []) :
      ZOne K own other x st (y :: cf) cf
        { st with pos := st.pos ++ [concile x y],
                  src := if x.name = y.name then addSources st.src x.name [own.src, other.src]
                         else addSources st.src x.name [own.src] }
  | keepP (hx : K → x.kind = .po) (hva : other.va.isSome = true) (hp : st.pok = []) :
      ZOne K own other x st [] []
        { st with pos := st.pos ++ [x], src := addSources st.src x.name [own.src], vaR := false }
  | goneP (hx : K → x.kind = .po) (hva : other.va.isSome = false) (hd : x.dflt.isSome = true) :
      ZOne K own other x st [] [] st
  | limbo (q : Param) (hx : K → x.kind = .pk) (hq : pget st.rUn x.name = some q) :
      ZOne K own other x st [] []
        { st with kwo := pset st.kwo ((concile x q).withKind .ko),
                  src := addSources st.src x.name [other.src, own.src],
                  rUn := ppop st.rUn x.name }
  | keepQ (hx : K → x.kind = .pk) (hq : pget st.rUn x.name = none) (hva : other.va.isSome = true)
      (hvk : other.vk.isSome = true) :
      ZOne K own other x st [] []
        { st with pok := st.pok ++ [x], src := addSources st.src x.name [own.src] }
  | own (hx : K → x.kind = .pk) (hq : pget st.rUn x.name = none) (hva : other.va.isSome = false)
      (hvk : other.vk.isSome = true) :
      ZOne K own other x st [] []
        { st with kwo := pset st.kwo (x.withKind .ko), src := addSources st.src x.name [own.src] }
  | flushQ (hx : K → x.kind = .pk) (hq : pget st.rUn x.name = none) (hva : other.va.isSome = true)
      (hvk : other.vk.isSome = false) :
      ZOne K own other x st [] []
        { st with pos := st.pos ++ st.pok.map (·.withKind .po) ++ [x.withKind .po], pok := [],
                  src := addSources st.src x.name [own.src] }
  | goneQ (hx : K → x.kind = .pk) (hq : pget st.rUn x.name = none) (hva : other.va.isSome = false)
      (hvk : other.vk.isSome = false) (hd : x.dflt.isSome = true) : ZOne K own other x st [] [] st

inductive ZStep (K : Prop) (l r : Sorted) :
    List Param → List Param → MState → List Param → List Param → MState → Prop
  | pair (a c : Param) (xs ys : List Param) (st : MState) (ha : K → a.kind = .po) (hc : K → c.kind = .po)
      (hp : st.pok = []) :
      ZStep K l r (a :: xs) (c :: ys) st xs ys
        { st with pos := st.pos ++ [concile a c],
                  src := if a.name = c.name then addSources st.src a.name [l.src, r.src]
                         else addSources st.src a.name [l.src] }
  | same (a c : Param) (xs ys : List Param) (st : MState) (ha : K → a.kind = .pk) (hc : K → c.kind = .pk)
      (hn : a.name = c.name) :
      ZStep K l r (a :: xs) (c :: ys) st xs ys
        { st with pok := st.pok ++ [concile a c], src := addSources st.src a.name [l.src, r.src] }
  | diff (a c : Param) (xs ys : List Param) (st : MState) (ha : K → a.kind = .pk) (hc : K → c.kind = .pk)
      (hn : a.name ≠ c.name) :
      ZStep K l r (a :: xs) (c :: ys) st xs ys
        { st with pos := st.pos ++ st.pok.map (·.withKind .po) ++ [(concile a c).withKind .po],
                  pok := [], src := addSources st.src a.name [l.src] }
  | left (x : Param) (xs ys ys' : List Param) (st st' : MState) (h : ZOne K l r x st ys ys' st') :
      ZStep K l r (x :: xs) ys st xs ys' st'
  | right (x : Param) (xs xs' ys : List Param) (st st' : MState) (h : ZOne K r l x st.flip xs xs' st') :
      ZStep K l r xs (x :: ys) st xs' ys st'.flip

abbrev ZRuns (K : Prop) (l r : Sorted) := Runs (ZStep K l r)

variable {K : Prop} {l r : Sorted}

structure PKinds (ls rs il ir : List Param) : Prop where
  ls : AllKind .po ls
  rs : AllKind .po rs
  il : AllKind .pk il
  ir : AllKind .pk ir

theorem zrun_P (ls rs il ir : List Param) (st st' : MState) (il' ir' : List Param)
    (hK : K → PKinds ls rs il ir) (hpok : st.pok = [])
    (h : phaseP l r ls rs il ir st = .ok (st', il', ir')) :
    (K → PKinds [] [] il' ir') ∧ ZRuns K l r (ls ++ il) (rs ++ ir) st il' ir' st' := by
  refine (phaseP_loop (fun A B il1 ir1 s => s.pok = [] ∧ (K → PKinds A B il1 ir1) ∧
    ZRuns K l r (ls ++ il) (rs ++ ir) st (A ++ il1) (B ++ ir1) s)
    ⟨?_, ?_, ?_⟩ h ⟨hpok, hK, .refl ..⟩).2
  · rintro lp rp A B il1 ir1 s ⟨hp, kk, hI⟩
    exact ⟨hp, fun k => ⟨(kk k).ls.tail, (kk k).rs.tail, (kk k).il, (kk k).ir⟩,
      hI.tail (ZStep.pair lp rp _ _ _ (fun k => (kk k).ls.head) (fun k => (kk k).rs.head) hp)⟩
  · rintro lp A il1 ir1 s s1 ir2 h1 ⟨hp, kk, hI⟩
    have hx := fun k => (kk k).ls.head
    cases h1 ▸ unbalancedPos_out .L l r lp ir1 s with
    | pull o rest =>
      exact ⟨hp, fun k => ⟨(kk k).ls.tail, (kk k).rs, (kk k).il, (kk k).ir.tail⟩,
        hI.tail (.left _ _ _ _ _ _ (.pull o _ hx (fun k => (kk k).ir.head) hp))⟩
    | star hva =>
      exact ⟨hp, fun k => ⟨(kk k).ls.tail, (kk k).rs, (kk k).il, (kk k).ir⟩,
        hI.tail (.left _ _ _ _ _ _ (.keepP hx hva hp))⟩
    | drop hva hd =>
      exact ⟨hp, fun k => ⟨(kk k).ls.tail, (kk k).rs, (kk k).il, (kk k).ir⟩,
        hI.tail (.left _ _ _ _ _ _ (.goneP hx hva hd))⟩
  · rintro rp B il1 ir1 s s1 il2 h1 ⟨hp, kk, hI⟩
    have hx := fun k => (kk k).rs.head
    cases h1 ▸ unbalancedPos_out .R l r rp il1 s with
    | pull o rest =>
      exact ⟨hp, fun k => ⟨(kk k).ls, (kk k).rs.tail, (kk k).il.tail, (kk k).ir⟩,
        hI.tail (.right _ _ _ _ s _ (.pull o _ hx (fun k => (kk k).il.head) hp))⟩
    | star hva =>
      exact ⟨hp, fun k => ⟨(kk k).ls, (kk k).rs.tail, (kk k).il, (kk k).ir⟩,
        hI.tail (.right _ _ _ _ s _ (.keepP hx hva hp))⟩
    | drop hva hd =>
      exact ⟨hp, fun k => ⟨(kk k).ls, (kk k).rs.tail, (kk k).il, (kk k).ir⟩,
        hI.tail (.right _ _ _ _ s _ (.goneP hx hva hd))⟩

theorem zrun_Q (il ir : List Param) (st st' : MState) (hK : K → AllKind .pk il ∧ AllKind .pk ir)
    (h : phaseQ l r il ir st = .ok st') : ZRuns K l r il ir st [] [] st' := by
  refine (phaseQ_loop (fun A B s => (K → AllKind .pk A ∧ AllKind .pk B) ∧ ZRuns K l r il ir st A B s)
    ⟨?_, ?_, ?_, ?_⟩ h ⟨hK, .refl ..⟩).2
  · rintro lp rp A B s hn ⟨kk, hI⟩
    exact ⟨fun k => ⟨(kk k).1.tail, (kk k).2.tail⟩,
      hI.tail (.same lp rp _ _ _ (fun k => (kk k).1.head) (fun k => (kk k).2.head) hn)⟩
  · rintro lp rp A B s hn ⟨kk, hI⟩
    exact ⟨fun k => ⟨(kk k).1.tail, (kk k).2.tail⟩,
      hI.tail (.diff lp rp _ _ _ (fun k => (kk k).1.head) (fun k => (kk k).2.head) hn)⟩
  · rintro lp A s s1 h1 ⟨kk, hI⟩
    refine ⟨fun k => ⟨(kk k).1.tail, (kk k).2⟩, hI.tail (.left _ _ _ _ _ _ ?_)⟩
    have hk := fun k => (kk k).1.head
    cases h1 ▸ unbalancedPok_out .L l r lp s with
    | limbo q hq => exact .limbo q hk hq
    | keep hq ha hv => exact .keepQ hk hq ha hv
    | kwo hq ha hv => exact .own hk hq ha hv
    | flush hq ha hv => exact .flushQ hk hq ha hv
    | drop hq ha hv hd => exact .goneQ hk hq ha hv hd
  · rintro rp B s s1 h1 ⟨kk, hI⟩
    refine ⟨fun k => ⟨(kk k).1, (kk k).2.tail⟩, hI.tail ?_⟩
    have hk := fun k => (kk k).2.head
    cases h1 ▸ unbalancedPok_out .R l r rp s with
    | limbo q hq => exact .right _ _ _ _ s _ (.limbo q hk hq)
    | keep hq ha hv => exact .right _ _ _ _ s _ (.keepQ hk hq ha hv)
    | kwo hq ha hv => exact .right _ _ _ _ s _ (.own hk hq ha hv)
    | flush hq ha hv => exact .right _ _ _ _ s _ (.flushQ hk hq ha hv)
    | drop hq ha hv hd => exact .right _ _ _ _ s _ (.goneQ hk hq ha hv hd)

theorem ZStep.pos {L R xs ys xs' ys' : List Param} {c : Nat} {st st' : MState}
    (h : ZStep K l r xs ys st xs' ys' st') (P : ZPos L R c xs ys) : ZPos L R (c + 1) xs' ys' := by
  induction h with
  | left x xs ys ys' st st' h => induction h <;> exact P.step
  | right x xs xs' ys st st' h => induction h <;> exact P.step
  | _ => exact P.step

structure ZSub (l r : Sorted) (st : MState) : Prop where
  lun : ∀ q ∈ st.lUn, q ∈ l.kwo
  run : ∀ q ∈ st.rUn, q ∈ r.kwo

theorem ZSub.flip {st : MState} (h : ZSub l r st) : ZSub r l st.flip := ⟨h.run, h.lun⟩

theorem ZSub.zone {x : Param} {st st' : MState} {ys ys' : List Param} (h : ZOne K l r x st ys ys' st')
    (hs : ZSub l r st) : ZSub l r st' := by
  induction h with
  | limbo q => exact ⟨hs.lun, fun q hq => hs.run q (List.mem_filter.1 hq).1⟩
  | _ => exact ⟨hs.lun, hs.run⟩

theorem ZSub.step {xs ys xs' ys' : List Param} {st st' : MState} (h : ZStep K l r xs ys st xs' ys' st')
    (hs : ZSub l r st) : ZSub l r st' := by
  induction h with
  | left x xs ys ys' st st' h => exact hs.zone h
  | right x xs xs' ys st st' h => exact (hs.flip.zone h).flip
  | _ => exact ⟨hs.lun, hs.run⟩

/-- the state after phase K, from which phase P starts -/
def stK (l r : Sorted) : MState := phaseK2 l r.kwo (phaseK1 l r l.kwo (mergeInit l r))

theorem phaseK1_pok (ps : List Param) (st : MState) : (phaseK1 l r ps st).pok = st.pok := by
  fun_induction phaseK1 l r ps st with
  | case1 => rfl
  | case2 _ _ _ _ _ ih => exact ih
  | case3 _ _ _ _ ih => exact ih

theorem phaseK2_pok (ps : List Param) (st : MState) : (phaseK2 l ps st).pok = st.pok := by
  fun_induction phaseK2 l ps st with
  | case1 => rfl
  | case2 _ _ _ _ ih => exact ih
  | case3 _ _ _ _ ih => exact ih

theorem stK_pok : (stK l r).pok = [] :=
  (phaseK2_pok _ _).trans (phaseK1_pok _ _)

theorem mergeUnmatched_keeps {side : Side} {st st' : MState}
    (h : mergeUnmatched side l r st = .ok st') :
    st'.pos = st.pos ∧ st'.pok = st.pok ∧ st'.lUn = st.lUn ∧ st'.rUn = st.rUn := by
  cases h ▸ mergeUnmatched_out side l r st with
  | none | drop => exact ⟨rfl, rfl, rfl, rfl⟩
  | take => cases side <;> exact ⟨rfl, rfl, rfl, rfl⟩

theorem mergeStep_zrun {m : Sorted} (hK : K → BucketKinds l ∧ BucketKinds r)
    (h : mergeStep l r = .ok m) :
    ∃ st2 st3 st4 : MState, ZRuns K l r (l.pos ++ l.pok) (r.pos ++ r.pok) (stK l r) [] [] st2 ∧
      mergeUnmatched .L l r st2 = .ok st3 ∧ mergeUnmatched .R l r st3 = .ok st4 ∧
      st4.pos = st2.pos ∧ st4.pok = st2.pok ∧
      m = { pos := st4.pos, pok := st4.pok,
            va := (addStarargs l r st4.vaL st4.vaR l.va r.va st4.src).1,
            kwo := st4.kwo,
            vk := (addStarargs l r st4.vkL st4.vkR l.vk r.vk
                    (addStarargs l r st4.vaL st4.vaR l.va r.va st4.src).2).1,
            src := (addStarargs l r st4.vkL st4.vkR l.vk r.vk
                    (addStarargs l r st4.vaL st4.vaR l.va r.va st4.src).2).2,
            depths := mergeDepths l.depths r.depths } := by
  obtain ⟨st1, st2, st3, st4, il, ir, h1, h2, h3, h4, rfl⟩ := mergeStep_ok l r m h
  obtain ⟨kk, hP⟩ := zrun_P (K := K) _ _ _ _ _ _ _ _
    (fun k => ⟨(hK k).1.pos, (hK k).2.pos, (hK k).1.pok, (hK k).2.pok⟩) stK_pok h1
  have k3 := mergeUnmatched_keeps h3
  have k4 := mergeUnmatched_keeps h4
  exact ⟨st2, st3, st4, hP.trans (zrun_Q _ _ _ _ (fun k => ⟨(kk k).il, (kk k).ir⟩) h2), h3, h4, k4.1.trans k3.1,
    k4.2.1.trans k3.2.1, rfl⟩

theorem mergeStep_err_cases {e : Err} (h : mergeStep l r = .error e) :
    phaseP l r l.pos r.pos l.pok r.pok (stK l r) = .error e ∨
    ∃ st1 il ir, phaseP l r l.pos r.pos l.pok r.pok (stK l r) = .ok (st1, il, ir) ∧
      (phaseQ l r il ir st1 = .error e ∨
       ∃ st2, phaseQ l r il ir st1 = .ok st2 ∧
         (mergeUnmatched .L l r st2 = .error e ∨
          ∃ st3, mergeUnmatched .L l r st2 = .ok st3 ∧ mergeUnmatched .R l r st3 = .error e)) := by
  rcases bind_eq_error h with h1 | ⟨⟨st1, il, ir⟩, h1, h⟩
  · exact .inl h1
  refine .inr ⟨st1, il, ir, h1, ?_⟩
  rcases bind_eq_error h with h2 | ⟨st2, h2, h⟩
  · exact .inl h2
  refine .inr ⟨st2, h2, ?_⟩
  rcases bind_eq_error h with h3 | ⟨st3, h3, h⟩
  · exact .inl h3
  refine .inr ⟨st3, h3, ?_⟩
  rcases bind_eq_error h with h4 | ⟨st4, -, h⟩
  · exact h4
  · cases h

end SV
