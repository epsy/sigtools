/-
  Lemmas/BindCall.lean — the positional phase of `bindCall` (Model/Call.lean) in closed form, and the
  bridge between this value-level binding model and the shape-level one (`accepts`, Model/Bind.lean).
-/
import Sigverif.Model.Call
import Sigverif.Lemmas.SrcDict
import Sigverif.Lemmas.Core.Bind
namespace SV

theorem dhas_nil (k : Nat) : dhas ([] : List (Nat × Nat)) k = false := rfl

def posNamed (ps : List Param) (args : List Nat) : List (Nat × Nat) := (ps.map (·.name)).zip args

theorem bindPos_eq (ps : List Param) (args : List Nat) (acc : List (Nat × Nat)) :
    bindPos ps args acc = (acc ++ posNamed ps args, args.drop ps.length) := by
  induction ps generalizing args acc with
  | nil => simp [bindPos, posNamed]
  | cons p ps ih =>
    cases args with
    | nil => simp [bindPos, posNamed]
    | cons a as => simp [bindPos, posNamed, ih]

theorem posNamed_cons (f : Param) (fs : List Param) (a : Nat) (as : List Nat) :
    posNamed (f :: fs) (a :: as) = (f.name, a) :: posNamed fs as := rfl

theorem dhas_posNamed (ps : List Param) (args : List Nat) (k : Nat) :
    dhas (posNamed ps args) k = ((ps.take args.length).map (·.name)).contains k := by
  induction ps generalizing args with
  | nil => simp [posNamed, dhas_nil]
  | cons p ps ih =>
    cases args with
    | nil => simp [posNamed, dhas_nil]
    | cons a as =>
      rw [posNamed_cons, dhas_cons, ih, List.length_cons, List.take_succ_cons, List.map_cons, List.contains_cons,
        Bool.beq_comm]

theorem bindKws_eq (s : List Param) (vk : Bool) (kws named extra : List (Nat × Nat)) (bound : List Nat)
    (hinv : ∀ k, dhas named k = bound.contains k) :
    bindKws s vk kws named extra =
      (bindKw (kwNames s) vk bound (kws.map (·.1))).map fun _ =>
        (named ++ kws.filter (fun kv => (kwNames s).contains kv.1),
         extra ++ kws.filter (fun kv => !(kwNames s).contains kv.1)) := by
  induction kws generalizing named extra bound with
  | nil => simp [bindKws, bindKw]
  | cons kv t ih =>
    obtain ⟨k, v⟩ := kv
    simp only [bindKws, bindKw, List.map_cons, List.filter_cons]
    by_cases hk : (kwNames s).contains k = true
    · simp only [hk, if_true, hinv k, Bool.not_true, Bool.false_eq_true, if_false]
      by_cases hb : bound.contains k = true
      · simp only [hb, if_true, Option.map_none]
      · rw [ih (named ++ [(k, v)]) extra (k :: bound) fun k' => by
          rw [dhas_snoc, hinv k', List.contains_cons, Bool.or_comm, Bool.beq_comm]]
        simp only [hb, Bool.false_eq_true, if_false, List.append_assoc, List.singleton_append]
    · simp only [hk, Bool.false_eq_true, if_false, Bool.not_false, if_true]
      cases vk with
      | false => simp only [Bool.false_eq_true, if_false, Option.map_none]
      | true =>
        simp only [if_true]
        rw [ih named (extra ++ [(k, v)]) bound hinv]
        simp only [List.append_assoc, List.singleton_append]

theorem fillDefaults_isSome (ps : List Param) (hn : (ps.map (·.name)).Nodup) (named : List (Nat × Nat)) :
    (fillDefaults ps named).isSome = ps.all (fun p => !p.required || dhas named p.name) := by
  induction ps generalizing named with
  | nil => simp [fillDefaults]
  | cons p ps ih =>
    simp only [List.map_cons, List.nodup_cons] at hn
    simp only [fillDefaults, List.all_cons]
    by_cases hb : dhas named p.name = true
    · simp [hb, ih hn.2]
    · have hb' : dhas named p.name = false := by simpa using hb
      simp only [hb', Bool.false_eq_true, if_false]
      cases hd : p.dflt with
      | none => simp [Param.required, hd]
      | some d =>
        simp only [Param.required, hd]
        rw [ih hn.2]
        simp only [Option.isNone_some, Bool.not_false, Bool.true_or, Bool.true_and]
        rw [Bool.eq_iff_iff, List.all_eq_true, List.all_eq_true]
        apply forall_congr'; intro q
        apply imp_congr_right; intro hq
        have : p.name ≠ q.name := fun h => hn.1 (List.mem_map.2 ⟨q, hq, h.symm⟩)
        simp [dhas_snoc, this, Param.required]

/-- what `bindCall` (and `bind_callsig`, Model/Support) do once the positional arguments are placed: the outcome of the
    keyword loop, then the defaults -/
def finishBind (s : List Param) (kw : Option (List (Nat × Nat) × List (Nat × Nat))) (surplus : List Nat) : Option Bound :=
  match kw with
  | none => none
  | some (named, extra) =>
    match fillDefaults (s.filter isNamed) named with
    | none => none
    | some named =>
      some { named := named, va := if hasVa s then some surplus else none, vk := if hasVk s then some extra else none }

theorem bindCall_eq (s : List Param) (args : List Nat) (kwargs : List (Nat × Nat)) :
    bindCall s args kwargs =
      if (!(args.drop (positionals s).length).isEmpty && !hasVa s) = true then none else
      finishBind s (bindKws s (hasVk s) kwargs (posNamed (positionals s) args) []) (args.drop (positionals s).length) := by
  simp only [bindCall, bindPos_eq, List.nil_append]
  rfl

theorem finishBind_isSome (s : List Param) (named extra : List (Nat × Nat)) (surplus : List Nat) :
    (finishBind s (some (named, extra)) surplus).isSome = (fillDefaults (s.filter isNamed) named).isSome := by
  simp only [finishBind]
  cases fillDefaults (s.filter isNamed) named <;> rfl

theorem bindCall_isSome_eq_accepts_of_nodup (s : List Param) (args : List Nat) (kwargs : List (Nat × Nat))
    (hn : ((s.filter isNamed).map (·.name)).Nodup) :
    (bindCall s args kwargs).isSome = accepts s args.length (kwargs.map (·.1)) := by
  rw [bindCall_eq, bindKws_eq s (hasVk s) kwargs _ [] _ (dhas_posNamed (positionals s) args)]
  unfold accepts
  have hc : (!(args.drop (positionals s).length).isEmpty && !hasVa s)
      = (decide (args.length > (positionals s).length) && !hasVa s) := by
    congr 1
    rw [Bool.eq_iff_iff]
    simp [List.drop_eq_nil_iff]
  rw [hc]
  by_cases hgt : (decide (args.length > (positionals s).length) && !hasVa s) = true
  · simp [hgt]
  · simp only [hgt]
    cases hb : bindKw (kwNames s) (hasVk s) (((positionals s).take args.length).map (·.name)) (kwargs.map (·.1)) with
    | none => rfl
    | some b =>
      obtain ⟨-, -, -, rfl⟩ := (bindKw_eq_some_iff ..).1 hb
      simp only [Option.map_some, Bool.false_eq_true, if_false, finishBind_isSome]
      have hk : ∀ x, ((kwargs.map (·.1)).filter (fun k => (kwNames s).contains k)).reverse.contains x
          = dhas (kwargs.filter (fun kv => (kwNames s).contains kv.1)) x := by
        intro x
        rw [Bool.eq_iff_iff, ← mem_dkeys_iff, dkeys, List.contains_iff_mem, List.mem_reverse, List.filter_map]
        rfl
      have hd : ∀ x, (((kwargs.map (·.1)).filter (fun k => (kwNames s).contains k)).reverse.contains x ||
            (((positionals s).take args.length).map (·.name)).contains x)
          = dhas (posNamed (positionals s) args ++ kwargs.filter (fun kv => (kwNames s).contains kv.1)) x :=
        fun x => by rw [dhas_append, dhas_posNamed, hk, Bool.or_comm]
      simp only [List.contains_append, hd]
      rw [← fillDefaults_isSome (s.filter isNamed) hn]

end SV
