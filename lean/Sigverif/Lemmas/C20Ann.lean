/-
  Lemmas/C20Ann.lean — the string layer of `support`: `use_modifiers_annotate`.  The annotations `read_sig`
  collects for `modifiers.annotate` give every parameter its own annotation back; what `s` makes of what `read_sig`
  returned, for any text and any setting of the options, and from it the whole of `s(text, …)`
  under `use_modifiers_kwoargs`.
-/
import Sigverif.Lemmas.C20Pipe
import Sigverif.Props.C18
import Sigverif.Lemmas.SrcDict
namespace SV

theorem dget_annUpd (ua : Bool) (a : List (Nat × Nat)) (q : Param) (x : Nat) :
    dget (annUpd ua a q) x = if ua = true ∧ x = q.name ∧ q.ann.isSome = true then q.ann else dget a x := by
  unfold annUpd
  cases q.ann with
  | none => simp
  | some v => cases ua <;> simp [dget_dset]

theorem dget_fold_annUpd_of_not_mem (L : List Param) (a : List (Nat × Nat)) (x : Nat) (h : ∀ p ∈ L, p.name ≠ x) :
    dget (L.foldl (annUpd true) a) x = dget a x := by
  induction L generalizing a with
  | nil => rfl
  | cons p L ih =>
    rw [List.foldl_cons, ih _ (fun q hq => h q (List.mem_cons_of_mem _ hq)), dget_annUpd,
      if_neg (fun hc => h p List.mem_cons_self hc.2.1.symm)]

theorem dget_fold_annUpd (L : List Param) (a : List (Nat × Nat)) (hn : (L.map (·.name)).Pairwise (· ≠ ·)) :
    ∀ p ∈ L, dget (L.foldl (annUpd true) a) p.name = (match p.ann with | some v => some v | none => dget a p.name) := by
  induction L generalizing a with
  | nil => intro p hp; cases hp
  | cons q L ih =>
    intro p hp
    simp only [List.map_cons, List.pairwise_cons] at hn
    rw [List.foldl_cons]
    rcases List.mem_cons.1 hp with rfl | hpL
    · rw [dget_fold_annUpd_of_not_mem L _ p.name (fun r hr e => hn.1 r.name (List.mem_map_of_mem hr) e.symm), dget_annUpd]
      cases p.ann <;> simp
    · rw [ih _ hn.2 p hpL]
      cases p.ann with
      | some v => rfl
      | none =>
        show dget (annUpd true a q) p.name = dget a p.name
        rw [dget_annUpd, if_neg (fun hc => hn.1 p.name (List.mem_map_of_mem hpL) hc.2.1.symm)]

theorem keys_fold_annUpd (ua : Bool) (L : List Param) (a : List (Nat × Nat)) (x : Nat)
    (h : (dget (L.foldl (annUpd ua) a) x).isSome = true) : (dget a x).isSome = true ∨ ∃ p ∈ L, p.name = x := by
  induction L generalizing a with
  | nil => exact Or.inl h
  | cons q L ih =>
    rcases ih _ h with h1 | ⟨p, hp, e⟩
    · rw [dget_annUpd] at h1
      by_cases hc : ua = true ∧ x = q.name ∧ q.ann.isSome = true
      · exact Or.inr ⟨q, List.mem_cons_self, hc.2.1.symm⟩
      · rw [if_neg hc] at h1
        exact Or.inl h1
    · exact Or.inr ⟨p, List.mem_cons_of_mem _ hp, e⟩

theorem annMap_mkP (anns : List (Nat × Nat)) (k : Kind) (p : Param) (hk : p.kind = k) (h : dget anns p.name = p.ann) :
    (annMap anns (mkP true k p)).bare = p.bare := by
  obtain ⟨n, _, d, a, u⟩ := p
  cases hk
  unfold annMap
  simp only [mkP_name, h]
  cases a <;> rfl

theorem annMap_nil (p : Param) : annMap [] p = p := rfl

theorem annMap_mkP_fold (ua : Bool) (S : List Param) (hn : (S.map (·.name)).Pairwise (· ≠ ·)) (p : Param) (hp : p ∈ S) :
    (annMap (S.foldl (annUpd ua) []) (mkP ua p.kind p)).bare = p.bare := by
  cases ua with
  | false =>
    rw [fold_annUpd_false]
    exact (congrArg Param.bare (mkP_false_eq p.kind p rfl)).trans (bare_bare p)
  | true =>
    refine annMap_mkP _ p.kind p rfl ?_
    rw [dget_fold_annUpd _ [] hn p hp]
    cases p.ann <;> rfl

theorem map_annMap_nil (F : List Param) : F.map (annMap []) = F := by
  rw [funext annMap_nil, List.map_id']

theorem map_bare_annMap (ua : Bool) (S T : List Param) (hn : (S.map (·.name)).Pairwise (· ≠ ·)) (hsub : ∀ p ∈ T, p ∈ S) :
    ((T.map (fun p => mkP ua p.kind p)).map (annMap (S.foldl (annUpd ua) []))).map Param.bare = T.map Param.bare := by
  rw [List.map_map, List.map_map]
  exact List.map_congr_left (fun p hp => annMap_mkP_fold ua S hn p (hsub p hp))

theorem map_annMap_false (S T : List Param) :
    (T.map (fun p => mkP false p.kind p)).map (annMap (S.foldl (annUpd false) [])) = T.map Param.bare := by
  rw [fold_annUpd_false, map_annMap_nil]
  exact List.map_congr_left (fun p _ => mkP_false_eq p.kind p rfl)

theorem annotate_fold (ua : Bool) (F L : List Param) (hF : ∀ p ∈ L, ∃ q ∈ F, q.name = p.name) :
    annotate F (L.foldl (annUpd ua) []) = .ok (F.map (annMap (L.foldl (annUpd ua) []))) := by
  unfold annotate
  have : ((L.foldl (annUpd ua) []).any fun a => !(F.any fun p => p.name = a.1)) = false := by
    rw [List.any_eq_false]
    intro e he
    rcases keys_fold_annUpd ua L [] e.1 ((mem_dkeys_iff _ e.1).1 (List.mem_map_of_mem he)) with h | ⟨p, hp, hpe⟩
    · simp [dget] at h
    · obtain ⟨q, hq, hqe⟩ := hF p hp
      simpa using ⟨q, hq, hqe.trans hpe⟩
  rw [this]
  rfl

theorem sParams_of_readSig (ua upo ukw : Bool) (ps : List Piece) (F G : List Param) (anns : List (Nat × Nat))
    (hparse : parseDef (readSig ua upo ukw ps).params = .ok F)
    (hposo : (readSig ua upo ukw ps).poso = [])
    (hanns : (readSig ua upo ukw ps).anns = anns)
    (hann : annotate F anns = .ok (F.map (annMap anns)))
    (hprep : if (readSig ua upo ukw ps).kwo.isEmpty then G = F
             else WF F ∧ ∃ kp, prepare F [] (readSig ua upo ukw ps).kwo = .ok (G, kp)) :
    sParams ua upo ukw ps = .ok (G.map (annMap anns)) := by
  unfold sParams
  generalize readSig ua upo ukw ps = r at *
  simp only [hparse, hposo, hanns, bind, Except.bind, List.isEmpty_nil, if_true, pure, Except.pure, Bool.and_true]
  cases hke : r.kwo.isEmpty
  · rw [hke, if_neg Bool.false_ne_true] at hprep
    obtain ⟨hwf, kp, hp⟩ := hprep
    simp only [Bool.false_eq_true, if_false, hp, liftV]
    cases hae : anns.isEmpty
    · -- annotate, then the translator is prepared again
      have hcomm := annotate_prepare_commute _ _ anns [] r.kwo hwf hann
      rw [hp] at hcomm
      simp only [Bool.false_eq_true, if_false, hann]
      cases hp2 : prepare (F.map (annMap anns)) [] r.kwo with
      | error e => rw [hp2] at hcomm; cases hcomm
      | ok r2 =>
        rw [hp2] at hcomm
        simp only [Except.map, Except.ok.injEq] at hcomm
        simp only [hcomm]
    · rw [List.isEmpty_iff.1 hae, map_annMap_nil]
      rfl
  · rw [hke, if_pos rfl] at hprep
    subst hprep
    simp only [if_true]
    cases hae : anns.isEmpty
    · simp only [Bool.false_eq_true, if_false, hann, liftV]
    · rw [List.isEmpty_iff.1 hae, map_annMap_nil]
      rfl

theorem sParams_kwo_any (ua upo : Bool) {S : Sorted} (hS : SWF S) (hpos : S.pos = [])
    (hvad : ∀ v ∈ S.va, v.dflt = none) (hvkd : ∀ v ∈ S.vk, v.dflt = none) :
    sParams ua upo true (pieces S.all) =
      .ok ((({ S with kwo := reqs S.kwo ++ dfls S.kwo } : Sorted).all.map (fun p => mkP ua p.kind p)).map
              (annMap (S.all.foldl (annUpd ua) []))) := by
  have hdf : S.pok.Pairwise DF := by simpa [hpos] using hS.df
  rw [← map_mkP_all ua (S := { S with kwo := reqs S.kwo ++ dfls S.kwo })
    ⟨hS.bk.pos, hS.bk.pok, hS.bk.va, fun p hp => hS.bk.kwo p ((reqs_dfls_perm _).mem_iff.1 hp), hS.bk.vk⟩ hpos]
  dsimp only
  rw [← congrArg (List.map (mkP ua .pk)) (reqs_append_dfls hdf)]
  obtain ⟨h1, h2, h3, h4⟩ := readSig_kwo ua upo hS.bk hpos hdf hvad
  have hwf := kwoDef_swf ua hS hpos
  have hparse := parseDef_defS ua _ _ _ _ hwf hvad hvkd
  rw [← h1] at hparse
  refine sParams_of_readSig ua upo true _ _ _ _ hparse h3 h4 ?_ ?_
  · -- every annotation collected is for a parameter of the compiled `def`
    refine annotate_fold ua _ _ (fun p hp => ?_)
    have hp' : p.name ∈ names (kwoDef ua S).all := by
      rw [defS_names]
      exact ((rearranged_perm hpos).map _).mem_iff.2 (List.mem_map_of_mem hp)
    obtain ⟨q, hq, hqe⟩ := List.mem_map.1 hp'
    exact ⟨q, hq, hqe⟩
  · rw [h2]
    by_cases hke : S.kwo = []
    · -- no keyword-only parameter: the `def` is the signature already
      simp [defS, Sorted.all, hke, reqs, dfls]
    · rw [if_neg (by simpa using hke)]
      exact ⟨hwf.wf, prepare_kwoDef ua hS hpos⟩

theorem bk_buckets {pk ko : List Param} {va vk : Option Param} (hpk : ∀ p ∈ pk, p.kind = .pk) (hko : ∀ p ∈ ko, p.kind = .ko)
    (hva : ∀ p ∈ va, p.kind = .vp) (hvk : ∀ p ∈ vk, p.kind = .vk) :
    BucketKinds { pok := pk, va := va, kwo := ko, vk := vk } :=
  ⟨fun _ h => (nomatch h), hpk, hva, hko, hvk⟩

theorem swf_buckets (pk ko : List Param) (va vk : Option Param)
    (hpk : ∀ p ∈ pk, p.kind = .pk) (hko : ∀ p ∈ ko, p.kind = .ko)
    (hva : ∀ p ∈ va, p.kind = .vp) (hvk : ∀ p ∈ vk, p.kind = .vk) (hsorted : pk = reqs pk ++ dfls pk)
    (hn : ((pk ++ ko ++ va.toList ++ vk.toList).map (·.name)).Pairwise (· ≠ ·)) :
    SWF { pok := pk, va := va, kwo := ko, vk := vk } :=
  ⟨bk_buckets hpk hko hva hvk, ((text_perm pk ko va vk).map Param.name).nodup_iff.2 (List.nodup_iff_pairwise_ne.2 hn),
    sorted_of_eq pk hsorted⟩

end SV
