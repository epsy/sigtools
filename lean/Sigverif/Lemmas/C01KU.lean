/-
  Lemmas/C01KU.lean — phase K (keyword-only parameters, first two loops) in closed form and the
  two final `_merge_unmatched_kwoargs` calls.
-/
import Sigverif.Lemmas.C01QStep
import Sigverif.Lemmas.MergeRun
namespace SV
variable {l r : Sorted}

theorem phaseK1_closed (ps : List Param) (st : MState) :
    Upd (phaseK1 l r ps st) st.pos st.pok
      (pupdate st.kwo (ps.filterMap (fun p => (pget r.kwo p.name).map (concile p))))
      (pupdate st.lUn (ps.filter (fun p => (pget r.kwo p.name).isNone))) st.rUn := by
  induction ps generalizing st with
  | nil => exact ⟨rfl, rfl, rfl, rfl, rfl⟩
  | cons p ps ih =>
    rw [phaseK1]
    cases hq : pget r.kwo p.name with
    | some q =>
      obtain ⟨h1, h2, h3, h4, h5⟩ := ih { st with
        kwo := pset st.kwo (concile p q),
        src := dset st.src p.name (sget l.src p.name ++ sget r.src p.name) }
      refine ⟨h1, h2, ?_, ?_, h5⟩
      · rw [h3]; simp [hq, pupdate_cons]
      · rw [h4]; simp [hq]
    | none =>
      obtain ⟨h1, h2, h3, h4, h5⟩ := ih { st with lUn := pset st.lUn p }
      refine ⟨h1, h2, ?_, ?_, h5⟩
      · rw [h3]; simp [hq]
      · rw [h4]; simp [hq, pupdate_cons]

theorem phaseK2_closed (ps : List Param) (st : MState) :
    Upd (phaseK2 l ps st) st.pos st.pok st.kwo st.lUn
      (pupdate st.rUn (ps.filter (fun p => !phas l.kwo p.name))) := by
  induction ps generalizing st with
  | nil => exact ⟨rfl, rfl, rfl, rfl, rfl⟩
  | cons p ps ih =>
    rw [phaseK2]
    cases hp : phas l.kwo p.name
    · rw [if_neg Bool.false_ne_true]
      obtain ⟨h1, h2, h3, h4, h5⟩ := ih { st with rUn := pset st.rUn p }
      refine ⟨h1, h2, h3, h4, ?_⟩
      rw [h5]; simp [hp, pupdate_cons]
    · rw [if_pos rfl]
      obtain ⟨h1, h2, h3, h4, h5⟩ := ih st
      refine ⟨h1, h2, h3, h4, ?_⟩
      rw [h5]; simp [hp]

def kwoK (l r : Sorted) : List Param :=
  l.kwo.filterMap (fun p => (pget r.kwo p.name).map (concile p))
def lUnK (l r : Sorted) : List Param := l.kwo.filter (fun p => (pget r.kwo p.name).isNone)
def rUnK (l r : Sorted) : List Param := r.kwo.filter (fun p => !phas l.kwo p.name)

theorem mem_kwoK {p : Param} :
    p ∈ kwoK l r ↔ ∃ a ∈ l.kwo, ∃ q, pget r.kwo a.name = some q ∧ concile a q = p := by
  simp [kwoK, List.mem_filterMap]

theorem mem_lUnK {p : Param} : p ∈ lUnK l r ↔ p ∈ l.kwo ∧ p.name ∉ names r.kwo := by
  simp [lUnK, List.mem_filter, pget_eq_none, Option.isNone_iff_eq_none]

theorem mem_rUnK {p : Param} : p ∈ rUnK l r ↔ p ∈ r.kwo ∧ p.name ∉ names l.kwo := by
  simp [rUnK, List.mem_filter, phas_false_iff]

theorem mem_names_kwoK {x : Nat} (h : x ∈ names (kwoK l r)) : x ∈ names l.kwo ∧ x ∈ names r.kwo := by
  obtain ⟨p, hp, rfl⟩ := mem_names.1 h
  obtain ⟨a, ha, q, hq, rfl⟩ := mem_kwoK.1 hp
  obtain ⟨hq1, hq2⟩ := pget_some hq
  exact ⟨by simpa using mem_names_of_mem ha, by simpa [hq2] using mem_names_of_mem hq1⟩

theorem mem_names_lUnK {x : Nat} (h : x ∈ names (lUnK l r)) : x ∈ names l.kwo ∧ x ∉ names r.kwo := by
  obtain ⟨p, hp, rfl⟩ := mem_names.1 h
  obtain ⟨h1, h2⟩ := mem_lUnK.1 hp
  exact ⟨mem_names_of_mem h1, h2⟩

theorem mem_names_rUnK {x : Nat} (h : x ∈ names (rUnK l r)) : x ∈ names r.kwo ∧ x ∉ names l.kwo := by
  obtain ⟨p, hp, rfl⟩ := mem_names.1 h
  obtain ⟨h1, h2⟩ := mem_rUnK.1 hp
  exact ⟨mem_names_of_mem h1, h2⟩

theorem names_kwoK : names (kwoK l r) = names (l.kwo.filter (fun p => (pget r.kwo p.name).isSome)) := by
  unfold kwoK
  induction l.kwo with
  | nil => rfl
  | cons a t ih =>
    cases hq : pget r.kwo a.name with
    | none => simp [hq, ih]
    | some q => simp [hq, ih]

theorem nodup_names_kwoK (hl : (names l.kwo).Nodup) : (names (kwoK l r)).Nodup := by
  rw [names_kwoK]; exact hl.sublist (List.filter_sublist.map _)
theorem nodup_names_lUnK (hl : (names l.kwo).Nodup) : (names (lUnK l r)).Nodup :=
  hl.sublist (List.filter_sublist.map _)
theorem nodup_names_rUnK (hr : (names r.kwo).Nodup) : (names (rUnK l r)).Nodup :=
  hr.sublist (List.filter_sublist.map _)

/-- all names involved are distinct, so every `pset` of phase K appends -/
theorem stK_upd (hl : (names l.kwo).Nodup) (hr : (names r.kwo).Nodup) :
    Upd (stK l r) [] [] (kwoK l r) (lUnK l r) (rUnK l r) := by
  obtain ⟨a1, a2, a3, a4, a5⟩ := phaseK1_closed (l := l) (r := r) l.kwo (mergeInit l r)
  obtain ⟨b1, b2, b3, b4, b5⟩ := phaseK2_closed (l := l) r.kwo (phaseK1 l r l.kwo (mergeInit l r))
  have e : ∀ ps : List Param, (names ps).Nodup → pupdate [] ps = ps :=
    fun ps h => pupdate_of_nodup [] ps h
  refine ⟨b1.trans a1, b2.trans a2, b3.trans (a3.trans ?_), b4.trans (a4.trans ?_),
    b5.trans ?_⟩
  · exact e _ (nodup_names_kwoK hl)
  · exact e _ (nodup_names_lUnK hl)
  · rw [a5]; exact e _ (nodup_names_rUnK hr)

theorem stK_N (hl : (names (l.pok ++ l.kwo)).Nodup) (hr : (names (r.pok ++ r.kwo)).Nodup) :
    NInv l.pok r.pok (stK l r) := by
  simp only [names_append, List.nodup_append] at hl hr
  obtain ⟨h1, h2, h3, h4, h5⟩ := stK_upd (l := l) (r := r) hl.2.1 hr.2.1
  have nL : (names (kwoK l r) ++ names (lUnK l r)).Nodup :=
    List.nodup_append.2 ⟨nodup_names_kwoK hl.2.1, nodup_names_lUnK hl.2.1,
      fun a ha b hb e => (mem_names_lUnK hb).2 (e ▸ (mem_names_kwoK ha).2)⟩
  have nR : (names (kwoK l r) ++ names (rUnK l r)).Nodup :=
    List.nodup_append.2 ⟨nodup_names_kwoK hl.2.1, nodup_names_rUnK hr.2.1,
      fun a ha b hb e => (mem_names_rUnK hb).2 (e ▸ (mem_names_kwoK ha).1)⟩
  refine ⟨?_, ?_, ?_⟩
  · rw [h2, h3, h4, names_nil, List.append_nil, List.append_assoc]
    refine List.nodup_append.2 ⟨hl.1, nL, fun a ha b hb => hl.2.2 a ha b ?_⟩
    rcases List.mem_append.1 hb with hb | hb
    · exact (mem_names_kwoK hb).1
    · exact (mem_names_lUnK hb).1
  · rw [h2, h3, h5, names_nil, List.append_nil, List.append_assoc]
    refine List.nodup_append.2 ⟨hr.1, nR, fun a ha b hb => hr.2.2 a ha b ?_⟩
    rcases List.mem_append.1 hb with hb | hb
    · exact (mem_names_kwoK hb).2
    · exact (mem_names_rUnK hb).1
  · rw [h4, h5]
    exact fun x hx hx' => (mem_names_lUnK hx).2 (mem_names_rUnK hx').1

theorem stK_sub : ZSub l r (stK l r) := by
  obtain ⟨-, -, -, a4, a5⟩ := phaseK1_closed (l := l) (r := r) l.kwo (mergeInit l r)
  obtain ⟨-, -, -, b4, b5⟩ := phaseK2_closed (l := l) r.kwo (phaseK1 l r l.kwo (mergeInit l r))
  refine ⟨fun q hq => ?_, fun q hq => ?_⟩
  · rcases mem_pupdate ((b4.trans a4) ▸ hq) with h | h
    · cases h
    · exact (List.mem_filter.1 h).1
  · rcases mem_pupdate (b5 ▸ hq) with h | h
    · cases a5 ▸ h
    · exact (List.mem_filter.1 h).1

theorem ZRuns.sub {K : Prop} {xs ys : List Param} {st : MState}
    (run : ZRuns K l r (l.pos ++ l.pok) (r.pos ++ r.pok) (stK l r) xs ys st) : ZSub l r st :=
  Runs.inv (fun _ _ => ZSub l r) (fun _ _ _ _ _ _ s hs => hs.step s) run stK_sub

theorem stK_W (hl : (names l.kwo).Nodup) (hr : (names r.kwo).Nodup) (x : Nat)
    (h : hasReq l.kwo x ∨ hasReq r.kwo x) : WitK (stK l r) x := by
  obtain ⟨h1, h2, h3, h4, h5⟩ := stK_upd (l := l) (r := r) hl hr
  unfold WitK
  rw [h3, h4, h5]
  rcases h with ⟨p, hp, rfl, hpr⟩ | ⟨q, hq, rfl, hqr⟩
  · cases hg : pget r.kwo p.name with
    | some q =>
      exact Or.inl ⟨concile p q, mem_kwoK.2 ⟨p, hp, q, hg, rfl⟩, rfl, by simp [hpr]⟩
    | none =>
      exact Or.inr (Or.inl ⟨p, mem_lUnK.2 ⟨hp, pget_eq_none.1 hg⟩, rfl, hpr⟩)
  · by_cases hm : q.name ∈ names l.kwo
    · obtain ⟨a, ha, han⟩ := mem_names.1 hm
      cases hg : pget r.kwo a.name with
      | none => exact absurd (han ▸ mem_names_of_mem hq) (pget_eq_none.1 hg)
      | some q' =>
        obtain ⟨hq1, hq2⟩ := pget_some hg
        have : q' = q := eq_of_nodup_names hr hq1 hq (hq2.trans han)
        subst this
        exact Or.inl ⟨concile a q', mem_kwoK.2 ⟨a, ha, q', hg, rfl⟩, han, by simp [hqr]⟩
    · exact Or.inr (Or.inr ⟨q, mem_rUnK.2 ⟨hq, hm⟩, rfl, hqr⟩)

/-- what one call moves to the keyword-only parameters: all of the unmatched ones or none -/
def Moved (A un : List Param) (o : Sorted) : Prop :=
  (A = un ∧ (un = [] ∨ o.vk.isSome = true)) ∨ (A = [] ∧ ∀ p ∈ un, p.dflt.isSome = true)

theorem Moved.sublist {A un : List Param} {o : Sorted} (h : Moved A un o) :
    (names A).Sublist (names un) := by
  rcases h with ⟨rfl, -⟩ | ⟨rfl, -⟩
  · exact .refl _
  · exact List.nil_sublist _

theorem Moved.mem {A un : List Param} {o : Sorted} (h : Moved A un o) {p : Param} (hp : p ∈ A) :
    p ∈ un ∧ o.vk.isSome = true := by
  rcases h with ⟨rfl, he | hv⟩ | ⟨rfl, -⟩
  · rw [he] at hp; cases hp
  · exact ⟨hp, hv⟩
  · cases hp

theorem Moved.hasReq {A un : List Param} {o : Sorted} (h : Moved A un o) {x : Nat}
    (hx : hasReq un x) : hasReq A x := by
  rcases h with ⟨rfl, -⟩ | ⟨-, ho⟩
  · exact hx
  · obtain ⟨p, hp, -, hr⟩ := hx
    have := (required_iff p).1 hr
    rw [ho p hp] at this
    cases this

theorem mergeUnmatched_moved {side : Side} {st st' : MState}
    (h : mergeUnmatched side l r st = .ok st') :
    ∃ A, Upd st' st.pos st.pok (pupdate st.kwo A) st.lUn st.rUn ∧
      Moved A (side.pick st.lUn st.rUn) (side.pick r l) := by
  rcases mergeUnmatched_inv h with ⟨he, hu⟩ | ⟨hvk, hu⟩ | ⟨ho, hu⟩
  · exact ⟨[], hu, Or.inl ⟨he.symm, Or.inl he⟩⟩
  · exact ⟨_, hu, Or.inl ⟨rfl, Or.inr (by cases side <;> exact hvk)⟩⟩
  · exact ⟨[], hu, Or.inr ⟨rfl, ho⟩⟩

theorem unmatched_spec {st st3 st4 : MState} (hN : NInv [] [] st)
    (h3 : mergeUnmatched .L l r st = .ok st3) (h4 : mergeUnmatched .R l r st3 = .ok st4) :
    ∃ A B, Upd st4 st.pos st.pok (st.kwo ++ A ++ B) st.lUn st.rUn ∧
      ((A = st.lUn ∧ (st.lUn = [] ∨ r.vk.isSome = true)) ∨
        (A = [] ∧ ∀ p ∈ st.lUn, p.dflt.isSome = true)) ∧
      ((B = st.rUn ∧ (st.rUn = [] ∨ l.vk.isSome = true)) ∨
        (B = [] ∧ ∀ p ∈ st.rUn, p.dflt.isSome = true)) := by
  obtain ⟨A, ⟨a1, a2, a3, a4, a5⟩, hA⟩ := mergeUnmatched_moved h3
  obtain ⟨B, ⟨b1, b2, b3, b4, b5⟩, hB⟩ := mergeUnmatched_moved h4
  rw [a5] at hB
  -- all names involved are distinct, so both `update`s append
  have nd : (names st.kwo ++ names A ++ names B).Nodup :=
    hN.nodup_all.sublist
      (((List.sublist_append_right _ _).append hA.sublist).append hB.sublist)
  have e1 : pupdate st.kwo A = st.kwo ++ A := pupdate_of_nodup _ _ (by rw [names_append]; exact (List.nodup_append.1 nd).1)
  have e2 : pupdate (st.kwo ++ A) B = st.kwo ++ A ++ B :=
    pupdate_of_nodup _ _ (by rwa [names_append, names_append])
  exact ⟨A, B, ⟨b1.trans a1, b2.trans a2, by rw [b3, a3, e1, e2], b4.trans a4, b5.trans a5⟩, hA, hB⟩

end SV
