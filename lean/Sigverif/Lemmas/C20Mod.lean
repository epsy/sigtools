/-
  Lemmas/C20Mod.lean — the string layer of `support`: the modifiers-based spellings
  (`use_modifiers_annotate`, `use_modifiers_posoargs`, `use_modifiers_kwoargs`) on texts without `/` and `<…>`.
  Under `use_modifiers_kwoargs` the loop of `read_sig` keeps `params` as required ++ defaulted ++ star items with
  `default_index` at the head of the defaulted ones (`KLive`).
-/
import Sigverif.Lemmas.C20Text
namespace SV

/-- the item `read_sig` makes of a parameter: with `use_modifiers_annotate` the annotation goes to the decorator -/
def itemU (ua : Bool) (stars : Nat) (p : Param) : Item := .par stars p.name (if ua then none else p.ann) p.dflt

/-- `annotations[name] = annotation` (only with `use_modifiers_annotate`) -/
def annUpd (ua : Bool) (anns : List (Nat × Nat)) (p : Param) : List (Nat × Nat) :=
  match p.ann with
  | some a => if ua then dset anns p.name a else anns
  | none => anns

theorem rsMeta_eq (ua : Bool) (st : RS) (i stars : Nat) (p : Param) :
    rsMeta ua st i stars p.name p.ann p.dflt =
      ({ st with anns := annUpd ua st.anns p, dfltIdx := newDfltIdx st i p.dflt }, itemU ua stars p) :=
  rsMeta_raw ua st i stars p.name p.ann p.dflt

def plainP (p : Param) : Piece := .plain p.name p.ann p.dflt

theorem insertAt_append (R X : List Item) (it : Item) : insertAt (R ++ X) R.length it = R ++ it :: X := by
  simp [insertAt]

theorem insertBeforeLast_snoc (X : List Item) (t it : Item) : insertBeforeLast (X ++ [t]) it = X ++ [it, t] := by
  simp [insertBeforeLast]

def reqs (K : List Param) : List Param := K.filter (fun p => p.dflt.isNone)
def dfls (K : List Param) : List Param := K.filter (fun p => p.dflt.isSome)

/-- `params.insert(-1, it)` if the last item is a star item, `params.append(it)` otherwise -/
def pushBeforeStar (l : List Item) (it : Item) : List Item :=
  if l.getLast?.any Item.isStar then insertBeforeLast l it else l ++ [it]

theorem pushBeforeStar_items (ua : Bool) (X : List Param) (va : Option Param) (it : Item) :
    pushBeforeStar (X.map (itemU ua 0) ++ va.toList.map (itemU ua 1)) it =
      X.map (itemU ua 0) ++ it :: va.toList.map (itemU ua 1) := by
  cases va with
  | some v => simp [pushBeforeStar, insertBeforeLast_snoc, itemU, Item.isStar]
  | none =>
    have : (X.map (itemU ua 0)).getLast?.any Item.isStar = false := by
      rw [List.getLast?_map]
      cases X.getLast? <;> rfl
    simp only [pushBeforeStar, Option.toList_none, List.map_nil, List.append_nil, this, Bool.false_eq_true, if_false]

theorem rsNamed_kwo (st : RS) (n : Nat) (it : Item) (hasDflt : Bool) (hfs : st.foundStar = true) :
    rsNamed true st n it hasDflt =
      { st with kwo := st.kwo ++ [n], names := st.names ++ [n],
                params := match st.dfltIdx with
                  | some d => if hasDflt then pushBeforeStar st.params it else insertAt st.params d it
                  | none => pushBeforeStar st.params it,
                dfltIdx := match st.dfltIdx with
                  | some d => if hasDflt then some d else some (d + 1)
                  | none => none } := by
  unfold rsNamed pushBeforeStar
  simp only [hfs, if_true, Bool.not_true, Bool.false_eq_true, if_false]
  cases st.dfltIdx with
  | none => simp only []; split <;> rfl
  | some d =>
    cases hasDflt
    · rfl
    · simp only [Bool.not_true, Bool.false_eq_true, if_false, if_true]; split <;> rfl

theorem rsStep_plain_frame (ua upo : Bool) (st : RS) (i : Nat) (p : Param) :
    let st1 := rsStep ua upo true st i (plainP p)
    st1.kwo = (if st.foundStar then st.kwo ++ [p.name] else st.kwo) ∧ st1.foundStar = st.foundStar := by
  simp only [plainP, rsStep, rsMeta_eq]
  cases hfs : st.foundStar
  · simp [rsNamed]
  · rw [rsNamed_kwo _ _ _ _ rfl]
    exact ⟨rfl, rfl⟩

theorem dflt_of_mem_reqs {L : List Param} {p : Param} (h : p ∈ reqs L) : p.dflt = none := by
  simpa [reqs] using (List.mem_filter.1 h).2

theorem dflt_of_mem_dfls {L : List Param} {p : Param} (h : p ∈ dfls L) : p.dflt.isSome = true :=
  (List.mem_filter.1 h).2

theorem reqs_append_dfls {L : List Param} (h : L.Pairwise DF) : reqs L ++ dfls L = L := by
  induction h with
  | nil => rfl
  | @cons p L hp _ ih =>
    cases hd : p.dflt with
    | none => simpa [reqs, dfls, hd] using ih
    | some d =>
      have hr : L.filter (fun p => p.dflt.isNone) = [] := List.filter_eq_nil_iff.2 (fun q hq => by
        have := hp q hq (by rw [hd]; rfl)
        revert this
        cases q.dflt <;> simp)
      simp only [reqs, dfls, hr, List.nil_append] at ih
      simp [reqs, dfls, hd, hr, ih]

/-- the loop under `use_modifiers_kwoargs` after the plain pieces of the parameters `P` and, if `b`, the star piece
    (`*va` or a bare `*`); `K` is `kwoarg_n`; `i` counts the pieces -/
structure KLive (ua b : Bool) (P : List Param) (va : Option Param) (K : List Nat) (st : RS) (i : Nat) : Prop where
  chev : st.chev = none
  params : st.params = (reqs P ++ dfls P).map (itemU ua 0) ++ va.toList.map (itemU ua 1)
  dflt : st.dfltIdx = if dfls P = [] then none else some (reqs P).length
  fs : st.foundStar = b
  idx : i = (reqs P).length + (dfls P).length + (if b then 1 else 0)
  va0 : b = false → va = none
  kwo : st.kwo = K

theorem KLive.newDfltIdx_eq {ua b : Bool} {P : List Param} {va : Option Param} {K : List Nat} {st : RS} {i : Nat}
    (h : KLive ua b P va K st i) (d : Option Nat) :
    newDfltIdx st i d = if d.isSome = true ∨ dfls P ≠ [] then some (reqs P).length else none := by
  obtain ⟨-, -, hd, hfs, hidx, -, -⟩ := h
  unfold newDfltIdx
  rw [hd, hfs, hidx]
  by_cases hD : dfls P = []
  · rw [hD]
    cases d <;> cases b <;> simp
  · cases d <;> simp [hD]

/-- a named parameter, before or after the star, joins the end of its group; before the star the items are appended,
    so the text has to list the required parameters first -/
theorem KLive.named {ua upo b : Bool} {P : List Param} {va : Option Param} {K : List Nat} {st : RS} {i : Nat}
    (h : KLive ua b P va K st i) (p : Param) (hdf : b = false → (P ++ [p]).Pairwise DF) :
    KLive ua b (P ++ [p]) va (if b then K ++ [p.name] else K) (rsStep ua upo true st i (plainP p)) (i + 1) := by
  obtain ⟨hk1, hf1⟩ := rsStep_plain_frame ua upo st i p
  have hnd := h.newDfltIdx_eq p.dflt
  obtain ⟨hch, hp, hd, hfs, hidx, hva0, hk⟩ := h
  have hsd : b = false → dfls P ≠ [] → p.dflt.isSome = true := fun hb hD => by
    obtain ⟨q, hq⟩ := List.exists_mem_of_ne_nil _ hD
    exact (List.pairwise_append.1 (hdf hb)).2.2 q (List.mem_filter.1 hq).1 p (List.mem_singleton_self p) (dflt_of_mem_dfls hq)
  have hrd : reqs (P ++ [p]) = reqs P ++ (if p.dflt.isSome then [] else [p]) ∧
      dfls (P ++ [p]) = dfls P ++ (if p.dflt.isSome then [p] else []) := by
    cases hpd : p.dflt <;> simp [reqs, dfls, List.filter_append, hpd]
  have key : (rsStep ua upo true st i (plainP p)).params =
        (reqs (P ++ [p]) ++ dfls (P ++ [p])).map (itemU ua 0) ++ va.toList.map (itemU ua 1) ∧
      (rsStep ua upo true st i (plainP p)).dfltIdx =
        if dfls (P ++ [p]) = [] then none else some (reqs (P ++ [p])).length := by
    simp only [plainP, rsStep, rsMeta_eq, hrd.1, hrd.2]
    cases b with
    | false =>
      cases hva0 rfl
      simp only [rsNamed, hfs, Bool.false_eq_true, if_false, hp, hnd]
      cases hpd : p.dflt.isSome
      · have hD : dfls P = [] := Decidable.byContradiction (fun h => by simpa [hpd] using hsd rfl h)
        simp [hD]
      · simp
    | true =>
      rw [rsNamed_kwo _ _ _ _ (by exact hfs)]
      simp only [hp, hnd, pushBeforeStar_items]
      cases hpd : p.dflt.isSome
      · by_cases hD : dfls P = []
        · simp [hD]
        · have hi := insertAt_append ((reqs P).map (itemU ua 0)) ((dfls P).map (itemU ua 0) ++ va.toList.map (itemU ua 1))
            (itemU ua 0 p)
          rw [List.length_map] at hi
          simp [hD, hi]
      · simp
  refine ⟨(rsStep_frame ua upo true st i (plainP p) hch rfl (fun _ h => nomatch h)).1, key.1, key.2, hf1.trans hfs, ?_, hva0,
    by rw [hk1, hfs, hk]⟩
  rw [hidx, hrd.1, hrd.2]
  generalize (if b = true then 1 else 0) = c
  cases p.dflt.isSome <;> simp only [List.length_append, List.length_cons, List.length_nil, if_true, Bool.false_eq_true,
    if_false] <;> omega

theorem KLive.run {ua upo b : Bool} (L : List Param) : ∀ {P : List Param} {va : Option Param} {K : List Nat} {st : RS}
    {i : Nat}, KLive ua b P va K st i → (b = false → (P ++ L).Pairwise DF) →
    KLive ua b (P ++ L) va (if b then K ++ L.map (·.name) else K) (rsLoop ua upo true st i (L.map plainP))
      (i + L.length) := by
  induction L with
  | nil => intro P va K st i h _; simpa [rsLoop] using h
  | cons p L ih =>
    intro P va K st i h hs
    have h1 := h.named (upo := upo) p (fun hb => (hs hb).sublist (by simp))
    have h2 := ih h1 (fun hb => by simpa using hs hb)
    rw [List.length_cons, Nat.add_comm L.length 1, ← Nat.add_assoc]
    simp only [List.map_cons, rsLoop]
    cases b <;> simpa using h2

/-- the star piece between the positional and the keyword-only parameters -/
def midPieces : Option Param → List Param → List Piece
  | some v, _ => [.star false v.name v.ann v.dflt]
  | none, [] => []
  | none, _ :: _ => [.bare]

def vkPieces (vk : Option Param) : List Piece :=
  match vk with
  | some v => [.star true v.name v.ann v.dflt]
  | none => []

theorem KLive.mid {ua upo : Bool} {P : List Param} {K : List Nat} {st : RS} {i : Nat} (h : KLive ua false P none K st i)
    (va : Option Param) (ko : List Param) (hvad : ∀ v ∈ va, v.dflt = none) :
    KLive ua (va.isSome || !ko.isEmpty) P va K (rsLoop ua upo true st i (midPieces va ko))
      (i + (midPieces va ko).length) := by
  obtain ⟨hch, hp, hd, hfs, hidx, -, hk⟩ := h
  cases va with
  | some v =>
    have e : rsLoop ua upo true st i (midPieces (some v) ko) =
        { st with anns := annUpd ua st.anns v, foundStar := true, params := st.params ++ [itemU ua 1 v],
                  va := some v.name } := by
      simp only [midPieces, rsLoop, rsStep, rsMeta_eq, rsChevFix, hch, Bool.false_eq_true, if_false]
      simp [newDfltIdx, hvad v rfl]
    rw [e]
    exact ⟨hch, by simp [hp], hd, rfl, by rw [hidx]; rfl, nofun, hk⟩
  | none =>
    cases ko with
    | nil => exact ⟨hch, hp, hd, hfs, hidx, fun _ => rfl, hk⟩
    | cons k ko =>
      have e : rsLoop ua upo true st i (midPieces none (k :: ko)) = { st with foundStar := true } := by
        simp [midPieces, rsLoop, rsStep, rsChevFix, hch]
      rw [e]
      exact ⟨hch, hp, hd, rfl, by rw [hidx]; rfl, nofun, hk⟩

theorem map_pieceOf_plain (k : Kind) (L : List Param) (hk : ∀ p ∈ L, p.kind = k) (h1 : k ≠ .vp) (h2 : k ≠ .vk) :
    L.map pieceOf = L.map plainP := by
  refine List.map_congr_left (fun p hp => ?_)
  simp only [pieceOf, plainP, hk p hp]

theorem piecesAux_pk (L rest : List Param) (hk : ∀ p ∈ L, p.kind = .pk) :
    ∀ prev, (prev = none ∨ prev = some .pk) →
    piecesAux prev (L ++ rest) = L.map plainP ++ piecesAux (if L = [] then prev else some .pk) rest := by
  intro prev hprev
  rw [← map_pieceOf_plain .pk L hk (by decide) (by decide)]
  exact piecesAux_run .pk L rest hk prev (by rcases hprev with rfl | rfl <;> intro h <;> cases h) (fun h => by cases h)

theorem piecesAux_ko (L rest : List Param) (hk : ∀ p ∈ L, p.kind = .ko) :
    ∀ prev, (prev = some .vp ∨ prev = some .ko) →
    piecesAux prev (L ++ rest) = L.map plainP ++ piecesAux (if L = [] then prev else some .ko) rest := by
  intro prev hprev
  rw [← map_pieceOf_plain .ko L hk (by decide) (by decide)]
  exact piecesAux_run .ko L rest hk prev (by rcases hprev with rfl | rfl <;> intro h <;> cases h) (fun _ => hprev)

theorem piecesAux_vk (vk : Option Param) (hk : ∀ p ∈ vk, p.kind = .vk) (prev : Option Kind) (h : prev ≠ some .po) :
    piecesAux prev vk.toList = vkPieces vk := by
  cases vk with
  | none => simp [piecesAux, vkPieces, h]
  | some v =>
    have := hk v rfl
    simp [piecesAux, vkPieces, this, h]

theorem pieces_buckets {S : Sorted} (bk : BucketKinds S) (hpos : S.pos = []) :
    pieces S.all = S.pok.map plainP ++ midPieces S.va S.kwo ++ S.kwo.map plainP ++ vkPieces S.vk := by
  obtain ⟨_, pk, va, ko, vk, _, _⟩ := S
  obtain ⟨-, hpk, hva, hko, hvk⟩ := bk
  cases hpos
  show piecesAux none (pk ++ va.toList ++ ko ++ vk.toList) = _
  rw [List.append_assoc, List.append_assoc, piecesAux_pk pk _ hpk none (Or.inl rfl)]
  have hprev : (if pk = [] then (none : Option Kind) else some .pk) = none ∨
      (if pk = [] then (none : Option Kind) else some .pk) = some .pk := by split <;> simp
  generalize (if pk = [] then (none : Option Kind) else some .pk) = prev at hprev
  have hnpo : prev ≠ some .po := by rcases hprev with rfl | rfl <;> simp
  cases va with
  | some v =>
    have hv := hva v rfl
    simp only [Option.toList_some, List.cons_append, List.nil_append, midPieces]
    rw [piecesAux_cons, piecesAux_ko ko _ hko _ (Or.inl (by rw [hv])), piecesAux_vk vk hvk _ (by split <;> simp [hv])]
    rcases hprev with rfl | rfl <;> simp [hv, pieceOf]
  | none =>
    simp only [Option.toList_none, List.nil_append, midPieces]
    cases ko with
    | nil => simp [piecesAux_vk vk hvk prev hnpo]
    | cons k ko =>
      have hk := hko k (by simp)
      rw [List.cons_append, piecesAux_cons, piecesAux_ko ko _ (fun q hq => hko q (List.mem_cons_of_mem _ hq)) _ (Or.inr (by rw [hk])),
        piecesAux_vk vk hvk _ (by split <;> simp [hk])]
      rcases hprev with rfl | rfl <;> simp [hk, pieceOf, plainP]

theorem rsLoop_append (ua upo ukw : Bool) (a b : List Piece) : ∀ (st : RS) (i : Nat),
    rsLoop ua upo ukw st i (a ++ b) = rsLoop ua upo ukw (rsLoop ua upo ukw st i a) (i + a.length) b := by
  induction a with
  | nil => intro st i; simp [rsLoop]
  | cons x xs ih => intro st i; simp only [List.cons_append, rsLoop, ih, List.length_cons]; congr 1; omega

theorem rsLoop_vk (ua upo ukw : Bool) (vk : Option Param) (st : RS) (i : Nat) (hch : st.chev = none) :
    (rsLoop ua upo ukw st i (vkPieces vk)).params = st.params ++ vk.toList.map (itemU ua 2) ∧
    (rsLoop ua upo ukw st i (vkPieces vk)).kwo = st.kwo := by
  cases vk with
  | none => exact ⟨(List.append_nil _).symm, rfl⟩
  | some w => simp [vkPieces, rsLoop, rsStep, rsMeta_eq, rsChevFix, hch]

theorem fold_annUpd_pieces (ua : Bool) (s : List Param) : ∀ prev (a : List (Nat × Nat)),
    (piecesAux prev s).foldl (Piece.annUpd ua) a = s.foldl (annUpd ua) a := by
  induction s with
  | nil => intro prev a; simp only [piecesAux]; split <;> rfl
  | cons p ps ih =>
    intro prev a
    rw [piecesAux_cons, List.foldl_append, List.foldl_append, List.foldl_cons, List.foldl_cons, ih]
    congr 1
    have e1 : List.foldl (Piece.annUpd ua) a (if (prev = some Kind.po && p.kind ≠ Kind.po) = true then [Piece.slash] else []) = a := by
      split <;> rfl
    rw [e1]
    have e2 : List.foldl (Piece.annUpd ua) a (if (p.kind = Kind.ko && prev ≠ some Kind.vp && prev ≠ some Kind.ko) = true then [Piece.bare] else []) = a := by
      split <;> rfl
    rw [e2]
    simp only [pieceOf, annUpd]
    cases p.kind <;> rfl

theorem pairwise_DF_append {R D : List Param} (hR : ∀ p ∈ R, p.dflt = none) (hD : ∀ p ∈ D, p.dflt.isSome = true) :
    (R ++ D).Pairwise DF := by
  rw [List.pairwise_append]
  refine ⟨List.pairwise_of_forall_mem_list (fun p hp _ _ hd => ?_), List.pairwise_of_forall_mem_list (fun _ _ q hq _ => hD q hq),
    fun p hp _ _ hd => ?_⟩ <;>
  · rw [hR p hp] at hd
    cases hd

theorem sorted_of_eq (pk : List Param) (h : pk = reqs pk ++ dfls pk) : pk.Pairwise DF := by
  rw [h]
  exact pairwise_DF_append (fun _ => dflt_of_mem_reqs) (fun _ => dflt_of_mem_dfls)

theorem readSig_kwo (ua upo : Bool) {S : Sorted} (bk : BucketKinds S) (hpos : S.pos = []) (hdf : S.pok.Pairwise DF)
    (hvad : ∀ v ∈ S.va, v.dflt = none) :
    let r := readSig ua upo true (pieces S.all)
    r.params = ((reqs S.pok ++ reqs S.kwo).map (itemU ua 0)) ++ ((dfls S.pok ++ dfls S.kwo).map (itemU ua 0))
                ++ (S.va.toList.map (itemU ua 1)) ++ (S.vk.toList.map (itemU ua 2)) ∧
    r.kwo = S.kwo.map (·.name) ∧ r.poso = [] ∧ r.anns = S.all.foldl (annUpd ua) [] := by
  have h0 : KLive ua false [] none [] ({} : RS) 0 := ⟨rfl, rfl, rfl, rfl, rfl, fun _ => rfl, rfl⟩
  -- the layout: the positional parameters, the star piece, the keyword-only parameters, `**vk`
  have h1 := h0.run (upo := upo) S.pok (fun _ => hdf)
  have h2 := h1.mid (upo := upo) S.va S.kwo hvad
  have h3 := h2.run (upo := upo) S.kwo (fun hb => by
    cases hko : S.kwo with
    | nil => simpa using hdf
    | cons _ _ => simp [hko] at hb)
  have hnpo : ∀ p ∈ S.all, p.kind ≠ .po := fun p hp hk => by
    have := (mem_all_of_kind bk hp).1 hk
    rw [hpos] at this
    cases this
  obtain ⟨f1, f2, f3, -⟩ := rsLoop_frame ua upo true (pieces S.all) {} 0 rfl (piecesAux_chevFree _ none)
    (fun _ => slash_not_mem_pieces _ hnpo)
  have e := congrArg (rsLoop ua upo true {} 0) (pieces_buckets bk hpos)
  simp only [rsLoop_append, List.length_append, List.length_map, ← Nat.add_assoc] at e
  simp only [readSig, rsChevFix, f1]
  refine ⟨?_, ?_, f2, f3.trans (fold_annUpd_pieces ua S.all none [])⟩
  · rw [e, (rsLoop_vk ua upo true S.vk _ _ h3.chev).1, h3.params]
    simp [reqs, dfls, List.filter_append]
  · rw [e, (rsLoop_vk ua upo true S.vk _ _ h3.chev).2, h3.kwo]
    cases S.va <;> cases S.kwo <;> simp

end SV
