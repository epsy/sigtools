/-
  Lemmas/C03Closed.lean — closed form of the loop over the names in `_mask`: the final state as a
  function of the *set* of names (positional-or-keyword prefix before the first named parameter,
  the rest converted to keyword-only, named ones removed, `*args` dropped iff a
  positional-or-keyword parameter was named).  Order independence follows.
-/
import Sigverif.Lemmas.C03Main
namespace SV

theorem mem_takeWhile {α : Type} {f : α → Bool} {l : List α} {a : α} (h : a ∈ l.takeWhile f) :
    f a = true ∧ a ∈ l := by
  induction l with
  | nil => simp at h
  | cons b t ih =>
    by_cases hb : f b = true
    · simp only [List.takeWhile, hb, List.mem_cons] at h ⊢
      rcases h with rfl | h
      · exact ⟨hb, Or.inl rfl⟩
      · exact ⟨(ih h).1, Or.inr (ih h).2⟩
    · simp [List.takeWhile, hb] at h

theorem takeWhile_true {α : Type} (l : List α) :
    l.takeWhile (fun _ => true) = l ∧ l.dropWhile (fun _ => true) = [] ∧ l.filter (fun _ => true) = l := by
  induction l with
  | nil => simp
  | cons a t ih => simp [List.takeWhile, List.dropWhile, ih.1, ih.2.1]

def notin (X : List Nat) (p : Param) : Bool := decide (p.name ∉ X)

@[simp] theorem notin_iff {X : List Nat} {p : Param} : notin X p = true ↔ p.name ∉ X := by
  simp [notin]

theorem notin_nil : notin [] = fun _ => true := by
  funext p; simp [notin]

theorem notin_congr {X X' : List Nat} (h : ∀ y, y ∈ X ↔ y ∈ X') : notin X = notin X' := by
  funext p; simp [notin, h]

theorem notin_append (Y X : List Nat) : notin (Y ++ X) = fun p => notin Y p && notin X p := by
  funext p; simp [notin, not_or]

theorem filter_notin_single (x : Nat) (l : List Param) : l.filter (notin [x]) = ppop l x :=
  List.filter_congr fun p _ => by simp [notin]

theorem span_and {α : Type} (p q : α → Bool) (l : List α) :
    l.takeWhile (fun a => q a && p a) = (l.takeWhile p).takeWhile q ∧
    l.dropWhile (fun a => q a && p a) = (l.takeWhile p).dropWhile q ++ l.dropWhile p := by
  induction l with
  | nil => exact ⟨rfl, rfl⟩
  | cons a t ih =>
    by_cases hp : p a = true
    · by_cases hq : q a = true
      · simp [List.takeWhile, List.dropWhile, hp, hq, ih.1, ih.2]
      · simp [List.takeWhile, List.dropWhile, hp, hq]
    · simp [List.takeWhile, List.dropWhile, hp]

theorem span_of {α : Type} {p : α → Bool} {l₁ l₂ : List α} (h1 : ∀ a ∈ l₁, p a = true)
    (h2 : ∀ a, l₂.head? = some a → p a = false) :
    (l₁ ++ l₂).takeWhile p = l₁ ∧ (l₁ ++ l₂).dropWhile p = l₂ := by
  rw [List.takeWhile_append_of_pos h1, List.dropWhile_append_of_pos h1]
  cases l₂ with
  | nil => simp
  | cons b t => simp [List.takeWhile, List.dropWhile, h2 b rfl]

/-- the state after the loop over the names `X`, started in `st0`, in terms of the set `X` -/
structure Closed (st0 : KState) (X : List Nat) (st : KState) : Prop where
  pok : st.pok = st0.pok.takeWhile (notin X)
  va : st.va = if (st0.pok.dropWhile (notin X)).isEmpty then st0.va else none
  kwo : st.kwo.Perm ((st0.kwo ++ (st0.pok.dropWhile (notin X)).map (·.withKind .ko)).filter (notin X))
  consumed : ∀ y, y ∈ st.consumed ↔ y ∈ st0.consumed ∨ y ∈ X

theorem Closed.congr {st0 st : KState} {X X' : List Nat} (h : ∀ y, y ∈ X ↔ y ∈ X')
    (c : Closed st0 X st) : Closed st0 X' st := by
  obtain ⟨a, b, c, e⟩ := c
  rw [notin_congr h] at a b c
  exact ⟨a, b, c, fun y => (e y).trans (or_congr_right (h y))⟩

theorem Closed.init (st0 : KState) : Closed st0 [] st0 := by
  refine ⟨?_, ?_, ?_, by simp⟩
  · rw [notin_nil, (takeWhile_true _).1]
  · rw [notin_nil, (takeWhile_true _).2.1]; rfl
  · rw [notin_nil, (takeWhile_true _).2.1, (takeWhile_true _).2.2]; simp

theorem Closed.sub {st0 st : KState} {X : List Nat} (cl : Closed st0 X st) :
    (∀ p ∈ st.pok, p ∈ st0.pok) ∧ (∀ p, st.va = some p → st0.va = some p) ∧
    (∀ p ∈ st.kwo, p ∈ st0.kwo ∨ ∃ r ∈ st0.pok, p = r.withKind .ko) := by
  refine ⟨fun p hp => ?_, fun p hp => ?_, fun p hp => ?_⟩
  · rw [cl.pok] at hp
    exact (mem_takeWhile hp).2
  · rw [cl.va] at hp
    split at hp
    · exact hp
    · cases hp
  · rw [cl.kwo.mem_iff, List.mem_filter, List.mem_append, List.mem_map] at hp
    rcases hp.1 with h | ⟨r, hr, rfl⟩
    · exact Or.inl h
    · exact Or.inr ⟨r, (List.dropWhile_sublist _).subset hr, rfl⟩

theorem Closed.sub_names {st0 st : KState} {X : List Nat} (cl : Closed st0 X st) :
    ∀ y, (y ∈ names st.pok ∨ y ∈ names st.kwo) → (y ∈ names st0.pok ∨ y ∈ names st0.kwo) := by
  obtain ⟨c1, -, c3⟩ := cl.sub
  rintro y (h | h)
  · obtain ⟨p, hp, rfl⟩ := mem_names.1 h
    exact Or.inl (mem_names_of_mem (c1 p hp))
  · obtain ⟨p, hp, rfl⟩ := mem_names.1 h
    rcases c3 p hp with h1 | ⟨r, hr, rfl⟩
    · exact Or.inr (mem_names_of_mem h1)
    · exact Or.inl (mem_names_of_mem (p := r) hr)

theorem closed_fresh {st0 st : KState} {X : List Nat} {x : Nat}
    (cl : Closed st0 X st) (hx : x ∉ X) (hp : x ∉ names st.pok) (hkw : x ∉ names st.kwo) :
    x ∉ names st0.pok ∧ x ∉ names st0.kwo := by
  have hsplit := List.takeWhile_append_dropWhile (p := notin X) (l := st0.pok)
  constructor
  · intro h
    obtain ⟨q, hq, rfl⟩ := mem_names.1 h
    rw [← hsplit, List.mem_append] at hq
    rcases hq with hq | hq
    · apply hp; rw [cl.pok]; exact mem_names_of_mem hq
    · apply hkw
      have : q.withKind .ko ∈ st.kwo := by
        rw [cl.kwo.mem_iff, List.mem_filter]
        refine ⟨?_, by simpa using hx⟩
        simp only [List.mem_append, List.mem_map]
        exact Or.inr ⟨q, hq, rfl⟩
      exact mem_names_of_mem this (p := q.withKind .ko)
  · intro h
    obtain ⟨q, hq, rfl⟩ := mem_names.1 h
    apply hkw
    have : q ∈ st.kwo := by
      rw [cl.kwo.mem_iff, List.mem_filter]
      exact ⟨by simp [hq], by simpa using hx⟩
    exact mem_names_of_mem this

theorem Closed.goes_iff {vk : Option Param} {st0 st : KState} {X : List Nat} {x : Nat}
    (cl : Closed st0 X st) (hx : x ∉ X) : Goes vk st x ↔ Goes vk st0 x := by
  have hc : x ∈ st.consumed ↔ x ∈ st0.consumed := (cl.consumed x).trans (or_iff_left hx)
  have hp : (x ∈ names st.pok ∨ x ∈ names st.kwo) ↔ (x ∈ names st0.pok ∨ x ∈ names st0.kwo) := by
    refine ⟨cl.sub_names x, fun h => ?_⟩
    by_cases hpar : x ∈ names st.pok ∨ x ∈ names st.kwo
    · exact hpar
    · obtain ⟨f1, f2⟩ := closed_fresh cl hx (fun h => hpar (Or.inl h)) (fun h => hpar (Or.inr h))
      exact absurd h (not_or.2 ⟨f1, f2⟩)
  unfold Goes
  rw [hc, ← or_assoc, ← or_assoc, hp]

theorem Closed.trans {a b c : KState} {X Y : List Nat} (h1 : Closed a X b) (h2 : Closed b Y c) :
    Closed a (Y ++ X) c := by
  obtain ⟨tw, dw⟩ := span_and (notin X) (notin Y) a.pok
  -- what is converted in the second part was in front of the first cut
  have hE : (((a.pok.takeWhile (notin X)).dropWhile (notin Y)).map (·.withKind .ko)).filter (notin X) =
      ((a.pok.takeWhile (notin X)).dropWhile (notin Y)).map (·.withKind .ko) :=
    List.filter_eq_self.2 fun p hp => by
      obtain ⟨q, hq, rfl⟩ := List.mem_map.1 hp
      exact (mem_takeWhile ((List.dropWhile_sublist _).subset hq)).1
  refine ⟨?_, ?_, ?_, fun y => ?_⟩
  · rw [h2.pok, h1.pok, notin_append, tw]
  · rw [h2.va, h1.va, h1.pok, notin_append, dw]
    cases (a.pok.takeWhile (notin X)).dropWhile (notin Y) <;> rfl
  · refine h2.kwo.trans ?_
    rw [h1.pok, notin_append, dw, ← List.filter_filter]
    refine List.Perm.filter _ ?_
    rw [List.map_append, List.filter_append, List.filter_append, hE]
    refine (h1.kwo.append_right _).trans ?_
    rw [List.filter_append, List.append_assoc]
    exact List.Perm.append_left _ List.perm_append_comm
  · rw [h2.consumed, h1.consumed, List.mem_append, or_assoc, or_comm (a := y ∈ X)]

theorem KStep.closed {pos : List Param} {vk : Option Param} {st st' : KState} {x : Nat}
    (inv : Inv pos vk st) (hk : KStep vk st x none st') : Closed st [x] st' := by
  have swf := inv.swf
  unfold sOf at swf
  have hne : ∀ {l : List Param}, x ∉ names l → ∀ a ∈ l, notin [x] a = true := fun h a ha =>
    notin_iff.2 fun e => h (List.mem_singleton.1 e ▸ mem_names_of_mem ha)
  cases hk with
  | hitPok before conv bp hpok hbx =>
    subst hbx
    rw [hpok] at swf
    have hf := hit_fresh swf.nd
    simp only [Sorted.all, names_append, names_map_withKind, List.mem_append, not_or] at hf
    obtain ⟨tw, dw⟩ := span_of (l₂ := bp :: conv) (hne hf.1.1.1.2) fun a ha => by
      cases ha; simp [notin]
    rw [← hpok] at tw dw
    refine ⟨tw.symm, by rw [dw]; rfl, ?_, fun y => List.mem_append⟩
    rw [dw, filter_notin_single]
    simp only [bnd, List.append_nil]
    rw [ppop_hit hf.1.2.1 hf.1.2.2]
  | hitKwo p hp hmem hname =>
    obtain ⟨tw, dw⟩ := span_of (l₂ := []) (hne hp) fun a ha => nomatch ha
    rw [List.append_nil] at tw dw
    refine ⟨tw.symm, by rw [dw]; rfl, ?_, fun y => List.mem_append⟩
    rw [dw, filter_notin_single, List.map_nil, List.append_nil]
  | toVk hp hkw hv =>
    obtain ⟨tw, dw⟩ := span_of (l₂ := []) (hne hp) fun a ha => nomatch ha
    rw [List.append_nil] at tw dw
    refine ⟨tw.symm, by rw [dw]; rfl, ?_, fun y => List.mem_append⟩
    rw [dw, filter_notin_single]
    simp only [absorbed, Option.map_none, Option.toList_none, List.append_nil, List.map_nil, ppop_of_not_mem hkw]
    exact .refl _

theorem KRun.closed {vk : Option Param} {st st' : KState} {l : List (Nat × Option (Nat × Nat))}
    (h : KRun vk st l st') (hl : ∀ a ∈ l, a.2 = none) :
    Closed st (l.map (·.1)).reverse st' ∧ ∀ x ∈ l.map (·.1), Goes vk st x := by
  induction h with
  | nil st => exact ⟨Closed.init st, fun _ h => nomatch h⟩
  | @cons st st1 st' x pv l inv hg hk run ih =>
    have hnd := (KRun.consumed (.cons inv hg hk run)).2.2
    obtain rfl : pv = none := hl _ List.mem_cons_self
    obtain ⟨c, oks⟩ := ih fun a ha => hl a (List.mem_cons_of_mem _ ha)
    have c1 := hk.closed inv
    refine ⟨?_, List.forall_mem_cons.2 ⟨hg, fun y hy => (c1.goes_iff fun e => ?_).1 (oks y hy)⟩⟩
    · rw [List.map_cons, List.reverse_cons]
      exact c1.trans c
    · rw [List.mem_singleton.1 e] at hy
      exact (List.nodup_cons.1 hnd).1 hy

theorem maskNames_closed {pos : List Param} {vk : Option Param} {st0 st' : KState} (inv0 : Inv pos vk st0)
    {xs : List Nat} (h : maskNames vk st0 (plainNames xs) = .ok st') :
    Closed st0 xs st' ∧ ∀ x ∈ xs, Goes vk st0 x := by
  have := (maskNames_run _ inv0.dropPos h).closed fun a => plainNames_snd a
  rw [plainNames_fst] at this
  exact ⟨this.1.congr (by simp), this.2⟩

theorem maskNames_of_goes {pos : List Param} {vk : Option Param} {st0 : KState} (inv0 : Inv pos vk st0)
    {xs : List Nat} (hxs : xs.Nodup) (ok : ∀ x ∈ xs, Goes vk st0 x) :
    ∃ st', maskNames vk st0 (plainNames xs) = .ok st' := by
  rcases maskNames_cases (plainNames xs) inv0.dropPos with ⟨st', h, -⟩ | ⟨-, l1, x, pv, l2, st1, e, run, hng⟩
  · exact ⟨st', h⟩
  · have e' := congrArg (List.map (·.1)) e
    rw [plainNames_fst, List.map_append, List.map_cons] at e'
    have hl1 : ∀ a ∈ l1, a.2 = none := fun a ha => plainNames_snd a (e ▸ List.mem_append_left _ ha)
    rw [e'] at hxs ok
    refine absurd (((run.closed hl1).1.goes_iff ?_).2 (ok x (by simp))) hng
    rw [List.mem_reverse]
    exact fun hx => (List.nodup_append.1 hxs).2.2 x hx x List.mem_cons_self rfl

theorem maskNames_set {pos : List Param} {vk : Option Param} {st0 a : KState} (inv0 : Inv pos vk st0)
    {xs xs' : List Nat} (hxs' : xs'.Nodup) (hmem : ∀ y, y ∈ xs ↔ y ∈ xs')
    (ha : maskNames vk st0 (plainNames xs) = .ok a) :
    ∃ b, maskNames vk st0 (plainNames xs') = .ok b ∧ a.pok = b.pok ∧ a.va = b.va ∧ a.kwo.Perm b.kwo := by
  obtain ⟨ca, oka⟩ := maskNames_closed inv0 ha
  obtain ⟨b, hb⟩ := maskNames_of_goes inv0 hxs' fun x hx => oka x ((hmem x).2 hx)
  have cb := (maskNames_closed inv0 hb).1.congr fun y => (hmem y).symm
  exact ⟨b, hb, ca.pok.trans cb.pok.symm, ca.va.trans cb.va.symm, ca.kwo.trans cb.kwo.symm⟩

theorem SigEquiv.refl (a : USig) : SigEquiv a a := ⟨rfl, List.Perm.refl _, rfl, rfl⟩

theorem sigEquiv_of_states {pos : List Param} {vk : Option Param} {a b : KState}
    (ha : BucketKinds (sOf pos vk a)) (hb : BucketKinds (sOf pos vk b))
    (h1 : a.pok = b.pok) (h2 : a.va = b.va) (h3 : a.kwo.Perm b.kwo)
    (src src' : Srcs) (d d' : Depths) (r : Option Nat) (u : UAnn) :
    SigEquiv { params := (sOf pos vk a).all, src := src, depths := d, ret := r, uret := u }
             { params := (sOf pos vk b).all, src := src', depths := d', ret := r, uret := u } := by
  refine ⟨?_, ?_, rfl, rfl⟩
  · simp only
    rw [filter_all_by_kind ha _ (fun k => decide (k ≠ .ko)) (fun p => rfl),
      filter_all_by_kind hb _ (fun k => decide (k ≠ .ko)) (fun p => rfl)]
    simp [sOf, h1, h2]
  · simp only
    rw [filter_all_by_kind ha _ (fun k => decide (k = .ko)) (fun p => rfl),
      filter_all_by_kind hb _ (fun k => decide (k = .ko)) (fun p => rfl)]
    simpa [sOf] using h3

theorem mem_sOf_all {pos : List Param} {vk : Option Param} {st : KState} {p : Param} :
    p ∈ (sOf pos vk st).all ↔
      p ∈ pos ∨ p ∈ st.pok ∨ st.va = some p ∨ p ∈ st.kwo ∨ vk = some p := by
  simp only [sOf, Sorted.all, List.mem_append, Option.mem_toList, or_assoc]

theorem mask_buckets_from {s : Sorted} (hs : SWF s) {n : Nat} {nms : List Nat} {h : HideFlags} {c : List Nat}
    {pos pok : List Param} {st : KState} (hp : prelude s n h = .ok (c, pos, pok))
    (hm : maskNames s.vk (initState s h c pok) (plainNames (if h.kwargs then [] else nms)) = .ok st) :
    (∀ p ∈ pos, p ∈ s.pos ∧ h.args = false) ∧
    (∀ p ∈ st.pok, p ∈ s.pok ∧ h.args = false ∧ h.kwargs = false) ∧
    (∀ p, st.va = some p → s.va = some p ∧ h.args = false ∧ h.varargs = false) ∧
    (∀ p ∈ st.kwo, (p ∈ s.kwo ∨ ∃ r ∈ s.pok, p = r.withKind .ko) ∧ h.kwargs = false) ∧
    (∀ p, finalVk s h = some p → s.vk = some p ∧ h.kwargs = false ∧ h.varkwargs = false) := by
  have hpre : (∀ p ∈ pos, p ∈ s.pos ∧ h.args = false) ∧ (∀ p ∈ pok, p ∈ s.pok ∧ h.args = false) := by
    rcases prelude_ok hp with ⟨-, -, rfl, rfl⟩ | ⟨ha, -, -, rfl, rfl⟩
    · exact ⟨fun p hp => (nomatch hp), fun p hp => (nomatch hp)⟩
    · exact ⟨fun p hp => ⟨List.mem_of_mem_drop hp, ha⟩, fun p hp => ⟨List.mem_of_mem_drop hp, ha⟩⟩
  have star : ∀ {b b' : Bool} {o : Option Param} {p : Param},
      (if b || b' then none else o) = some p → o = some p ∧ b = false ∧ b' = false := by
    intro b b' o p hp'
    cases b <;> cases b'
    · exact ⟨hp', rfl, rfl⟩
    all_goals cases hp'
  obtain ⟨ha, hk, hv, hvk⟩ := h
  cases hk
  · obtain ⟨c1, c2, c3⟩ := (maskNames_closed (init_inv hs hp rfl) hm).1.sub
    refine ⟨hpre.1, fun p hp' => ?_, fun p hp' => star (c2 p hp'), fun p hp' => ?_, fun p hp' => star hp'⟩
    · exact ⟨(hpre.2 p (c1 p hp')).1, (hpre.2 p (c1 p hp')).2, rfl⟩
    · rcases c3 p hp' with h1 | ⟨r, hr, rfl⟩
      · exact ⟨Or.inl h1, rfl⟩
      · exact ⟨Or.inr ⟨r, (hpre.2 r hr).1, rfl⟩, rfl⟩
  · -- hide_kwargs: the loop does not run, and it starts without keyword parameters
    cases hm
    exact ⟨hpre.1, fun p hp' => (nomatch hp'), fun p hp' => star hp', fun p hp' => (nomatch hp'),
      fun p hp' => (nomatch hp')⟩

end SV
