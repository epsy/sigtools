/-
  Lemmas/C09RCall.lean — from the buckets to call shapes.
-/
import Sigverif.Lemmas.C09RStep
import Sigverif.Lemmas.C09XFold
namespace SV

theorem kwNames_sub_allNames {ps : List Param} {k : Nat} (h : k ∈ kwNames ps) : k ∈ allNames ps := by
  unfold kwNames at h
  obtain ⟨p, hp, rfl⟩ := List.mem_map.1 h
  exact List.mem_map.2 ⟨p, (List.mem_filter.1 hp).1, rfl⟩

theorem accepts_foreign_pos {ps : List Param} {n : Nat} {K : List Nat}
    (hf : ∀ k ∈ K, k ∉ allNames ps) (h : accepts ps n K = true) : accepts ps n [] = true := by
  obtain ⟨h1, -, -, h4⟩ := ((accepts_iff_view_filter ps n K).1 h).2
  exact (accepts_iff_view ps n [] .nil).2 ⟨h1, fun _ hk => (nomatch hk), fun _ hk => (nomatch hk),
    fun x hx => (h4 x hx).imp_right fun ⟨hK, hkw⟩ => absurd (kwNames_sub_allNames hkw) (hf x hK)⟩

theorem accB_of_accepts (s : USig) (hv : validate s.params = .ok ()) {n : Nat} {K : List Nat}
    (h : accepts s.params n K = true) : accB (sortParams s) n K :=
  ((accB_iff (sortParams_swf_of_validate s hv) n K).1
    (accepts_all_view (sortParams_bk s) ((accepts_sortParams s hv n K).symm.trans h))).1

theorem mergeStep_err_no_call (a b : USig) (ha : WF a.params) (hb : WF b.params) {e : Err}
    (h : mergeStep (sortParams a) (sortParams b) = .error e) (n : Nat) (K : List Nat)
    (hf : foreignTo [a.params, b.params] K) :
    ¬ (accepts a.params n K = true ∧ accepts b.params n K = true) := by
  rintro ⟨h1, h2⟩
  have hva := ha.validate
  have hvb := hb.validate
  have fa : ∀ k ∈ K, k ∉ allNames a.params := fun k hk => hf k hk _ (by simp)
  have fb : ∀ k ∈ K, k ∉ allNames b.params := fun k hk => hf k hk _ (by simp)
  exact mergeStep_err_no_pos h n
    ⟨accB_of_accepts a hva (accepts_foreign_pos fa h1),
     accB_of_accepts b hvb (accepts_foreign_pos fb h2)⟩

/-- `IncompatibleSignatures` comes out of the fold: the final validation raises `ValueError` only -/
theorem merge_incompatible_fold {s : USig} {ss : List USig} (h : merge (s :: ss) = .error .incompatible) :
    mergeFold (sortParams s) ss = .error .incompatible := by
  rcases bind_eq_error h with h | ⟨res, -, h⟩
  · exact h
  · cases applyParams_err _ _ _ h

theorem merge_pair_err_step (a b : USig) (h : merge [a, b] = .error .incompatible) :
    ∃ e', mergeStep (sortParams a) (sortParams b) = .error e' := by
  have hf := merge_incompatible_fold h
  cases hs : mergeStep (sortParams a) (sortParams b) with
  | error e' => exact ⟨e', rfl⟩
  | ok s => rw [mergeFold, hs] at hf; cases hf

/-- the canonical call of a signature: all required positionals, then every required keyword-only
    parameter by name -/
def canonN (ps : List Param) : Nat := reqCount (positionals ps)
def canonK (ps : List Param) : List Nat :=
  names (ps.filter (fun p => p.kind = .ko && p.required))

theorem canon_accepts (ps : List Param) (hv : validate ps = .ok ()) :
    (canonK ps).Nodup ∧ (∀ k ∈ canonK ps, k ∈ kwNames ps) ∧
      accepts ps (canonN ps) (canonK ps) = true := by
  have hn := validate_nodup hv
  have hK : (canonK ps).Nodup := nodup_names_filter hn _
  have hko : ∀ k ∈ canonK ps, ∃ p ∈ ps, p.kind = .ko ∧ p.required = true ∧ p.name = k :=
    (forall_mem_names_filter ps _ _).2 fun p hp hc => by
      simp only [Bool.and_eq_true, decide_eq_true_eq] at hc
      exact ⟨p, hp, hc.1, hc.2, rfl⟩
  have hsub : ∀ k ∈ canonK ps, k ∈ kwNames ps := by
    intro k hk
    obtain ⟨p, hp, hkind, -, rfl⟩ := hko k hk
    exact List.mem_map.2 ⟨p, List.mem_filter.2 ⟨hp, by simp [kwPassable, hkind]⟩, rfl⟩
  refine ⟨hK, hsub, (accepts_iff_view ps _ _ hK).2 ⟨?_, ?_, fun k hk h => absurd (hsub k hk) h,
    (forall_reqNames ps _).2 fun p hp hnm hr => ?_⟩⟩
  · exact .inl (by rw [viewOf, names_length]; exact List.countP_le_length)
  ·
    intro k hk _ hb
    obtain ⟨p, hp, hkind, -, rfl⟩ := hko k hk
    obtain ⟨q, hq, hqn⟩ := mem_names.1 (List.mem_of_mem_take hb)
    obtain ⟨hq1, hq2⟩ := List.mem_filter.1 hq
    rw [eq_of_nodup_names hn hq1 hp hqn] at hq2
    simp [isPositional, hkind] at hq2
  · by_cases hk : p.kind = .ko
    · have : p.name ∈ canonK ps := mem_names_of_mem (List.mem_filter.2 ⟨hp, by simp [hk, hr]⟩)
      exact .inr ⟨this, hsub _ this⟩
    ·
      have hpos : p ∈ positionals ps := List.mem_filter.2 ⟨hp,
        (Bool.or_eq_true_iff.1 (show (isPositional p || decide (p.kind = .ko)) = true from hnm)).resolve_right
          fun h => hk (of_decide_eq_true h)⟩
      rw [viewOf, ← names_take]
      exact .inl (mem_names_of_mem (optSuffix_take (validate_suffix hv) (Nat.le_refl _) p hpos hr))

variable {ρ : Roles} {IsIn : Nat → Prop}

theorem mergeFold_err_nary {n : Nat} (ss : List USig) (acc : Sorted) (e : Err)
    (hacc : RI ρ IsIn acc) (hss : ∀ s ∈ ss, RI ρ IsIn (sortParams s))
    (ha : accB acc n []) (hn : ∀ s ∈ ss, accB (sortParams s) n [])
    (h : mergeFold acc ss = .error e) : False := by
  induction ss generalizing acc with
  | nil => cases h
  | cons s ss ih =>
    have hs := hss s List.mem_cons_self
    have ai := hn s List.mem_cons_self
    simp only [mergeFold] at h
    cases hm : mergeStep acc (sortParams s) with
    | error e' => exact mergeStep_err_no_pos hm n ⟨ha, ai⟩
    | ok m =>
      rw [hm] at h
      -- the step of the fold invariant `accW9` for the call shape `(n, [])`: without keywords it needs no alignment
      -- of names, and the guards of both ends of the fold are empty
      obtain ⟨hri, hp⟩ := step_completeW hacc hs (.inr rfl) hm
        (accW9_of_accB hacc ha fun _ hk => (nomatch hk)) (accW9_of_accB hs ai fun _ hk => (nomatch hk))
      exact ih m hri (fun t ht => hss t (List.mem_cons_of_mem _ ht)) (accB_of_accW9 hri hp fun _ hk => (nomatch hk)).1
        (fun t ht => hn t (List.mem_cons_of_mem _ ht)) h

end SV
