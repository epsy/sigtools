/-
  Lemmas/LawsRoles.lean — the final validation of a merge of role-consistent valid inputs cannot fail.  Of the three
  parts of `validate` the kind order holds of every step (`mergeStep_bk`), the order of the defaults as well
  (`mergeStep_df`), and the names are distinct by the role invariant `RI` of Lemmas/C01Roles together with the role
  kinds of the two star parameters (`SK`): every accumulator of the fold is a valid signature.
-/
import Sigverif.Lemmas.C01RFinal
import Sigverif.Lemmas.LawsDflt
import Sigverif.Lemmas.LawsKinds
import Sigverif.Lemmas.LawsErr
namespace SV
variable {ρ : Roles} {IsIn : Nat → Prop} {l r m M : Sorted}

theorem mergeStep_SK (hl : SK ρ l) (hr : SK ρ r) (h : mergeStep l r = .ok m) : SK ρ m := by
  obtain ⟨st, -, rfl⟩ := mergeStep_runs (K := False) False.elim h
  constructor <;> intro v hv <;>
    rcases addStarargs_name_C08 _ _ _ _ _ _ _ _ hv with ⟨p, hp, e⟩ | ⟨p, hp, e⟩ <;> rw [e]
  · exact hl.va p hp
  · exact hr.va p hp
  · exact hl.vk p hp
  · exact hr.vk p hp

theorem SK_sort (s : USig) (hk : ∀ p ∈ s.params, p.kind = ρ.κ p.name) :
    SK ρ (sortParams s) := by
  constructor <;> intro p hp
  · rw [← hk p (mem_sortParams_all (mem_all_va hp))]; exact (sortParams_bk s).va p hp
  · rw [← hk p (mem_sortParams_all (mem_all_vk hp))]; exact (sortParams_bk s).vk p hp

theorem RI.swf (h : RI ρ IsIn M) (hs : SK ρ M) (df : (M.pos ++ M.pok).Pairwise DF) : SWF M :=
  ⟨h.bk, h.nodup_all hs, df⟩

theorem mergeFold_valid_of_roles (s : USig) (ss : List USig) (res : Sorted)
    (hv : ∀ t ∈ s :: ss, validate t.params = .ok ()) (hrc : roleCons ((s :: ss).map (·.params)))
    (h : mergeFold (sortParams s) ss = .ok res) : validate res.all = .ok () := by
  obtain ⟨ρ, hρ, hri⟩ := exists_roles_RI _ hv hrc
  have h0 : ∀ t ∈ s :: ss, RI ρ _ (sortParams t) ∧ SK ρ (sortParams t) ∧
      ((sortParams t).pos ++ (sortParams t).pok).Pairwise DF := fun t ht =>
    ⟨hri t ht, SK_sort t (hρ _ (List.mem_map.2 ⟨t, ht, rfl⟩)).1, (sortParams_swf_of_validate t (hv t ht)).df⟩
  obtain ⟨ri, sk, df⟩ := mergeFold_inv (Inv := fun M => RI ρ _ M ∧ SK ρ M ∧ (M.pos ++ M.pok).Pairwise DF)
    (fun l m t ht hl hm =>
      have hr := h0 t (List.mem_cons_of_mem _ ht)
      ⟨(mergeStep_rfacts hl.1 hr.1 hm).ri, mergeStep_SK hl.2.1 hr.2.1 hm, mergeStep_df hl.2.2 hr.2.2 hm⟩)
    (h0 s List.mem_cons_self) h
  exact (ri.swf sk df).validate

theorem merge_err_of_roles (ss : List USig) (e : Err) (hne : ss ≠ [])
    (hv : ∀ s ∈ ss, validate s.params = .ok ()) (hrc : roleCons (ss.map (·.params)))
    (h : merge ss = .error e) : e = .incompatible := by
  cases ss with
  | nil => exact absurd rfl hne
  | cons s ss =>
    rcases bind_eq_error h with h | ⟨res, hres, h⟩
    · exact mergeFold_err _ _ _ h
    · simp only [applyParams, mergeFold_valid_of_roles s ss res hv hrc hres, bind, Except.bind] at h
      cases h

end SV
