/-
  Lemmas/MergeStep.lean — what a merge step does, said once for every invariant that does not need
  the exact branch of the code.  `MStep K l r` keeps of a step of `ZStep K l r` which heads are consumed,
  of which parameters the new entry is made, which bucket it joins and to whom its name is credited.
  `WStep K l r` adds phase K and the final `_merge_unmatched_kwoargs` calls: a returning `mergeStep` is ONE run of it.
-/
import Sigverif.Lemmas.MergeRun
namespace SV

/-- the only kind changes the property allows: none, or positional-or-keyword to positional-only /
    keyword-only -/
def restricts (k k' : Kind) : Prop := k' = k ∨ (k = .pk ∧ (k' = .po ∨ k' = .ko))

instance (k k' : Kind) : Decidable (restricts k k') := by unfold restricts; exact inferInstance

theorem restricts_refl (k : Kind) : restricts k k := .inl rfl

theorem restricts_trans {a b c : Kind} (h1 : restricts a b) (h2 : restricts b c) : restricts a c := by
  rcases h1 with rfl | ⟨rfl, h1⟩
  · exact h2
  · rcases h2 with rfl | ⟨rfl, _⟩
    · exact .inr ⟨rfl, h1⟩
    · rcases h1 with h1 | h1 <;> cases h1

theorem restricts_pk {k : Kind} (h : restricts k .pk) : k = .pk := h.elim Eq.symm And.left

def sameMeta (p q : Param) : Prop := p.dflt = q.dflt ∧ p.ann = q.ann ∧ p.uann = q.uann

theorem sameMeta.rfl' (p : Param) : sameMeta p p := ⟨rfl, rfl, rfl⟩
theorem sameMeta.trans {p q r : Param} (h1 : sameMeta p q) (h2 : sameMeta q r) : sameMeta p r :=
  ⟨h1.1.trans h2.1, h1.2.1.trans h2.2.1, h1.2.2.trans h2.2.2⟩

structure Restr (x e : Param) : Prop where
  name : e.name = x.name
  same : sameMeta e x
  kind : restricts x.kind e.kind

theorem Restr.refl (x : Param) : Restr x x := ⟨rfl, sameMeta.rfl' x, restricts_refl _⟩

theorem Restr.trans {x y z : Param} (h1 : Restr x y) (h2 : Restr y z) : Restr x z :=
  ⟨h2.name.trans h1.name, h2.same.trans h1.same, restricts_trans h1.kind h2.kind⟩

theorem Restr.withKind {x : Param} {k : Kind} (hx : x.kind = .pk) (hk : k = .po ∨ k = .ko) :
    Restr x (x.withKind k) :=
  ⟨rfl, ⟨rfl, rfl, rfl⟩, .inr ⟨hx, hk⟩⟩

inductive Made (x : Param) : Param → Prop
  | same : Made x x
  | po : Made x (x.withKind .po)
  | ko : Made x (x.withKind .ko)

theorem Made.name {x e : Param} (h : Made x e) : e.name = x.name := by cases h <;> rfl
theorem Made.dflt {x e : Param} (h : Made x e) : e.dflt = x.dflt := by cases h <;> rfl
theorem Made.restr {x e : Param} (h : Made x e) (hk : restricts x.kind e.kind) : Restr x e := by
  cases h <;> exact ⟨rfl, ⟨rfl, rfl, rfl⟩, hk⟩

/-- how an entry `e` joins the buckets, which is the bucket of its kind (by the operands' kinds in `pos`, `pok`);
    `flush`: phase Q on two heads with different names makes all that was positional-or-keyword positional-only -/
inductive Put (K : Prop) (e : Param) (b : Bk) : Bk → Prop
  | pos (h : b.pok = []) (hk : K → e.kind = .po) : Put K e b { b with pos := b.pos ++ [e] }
  | pok (hk : K → e.kind = .pk) : Put K e b { b with pok := b.pok ++ [e] }
  | kwo (hk : e.kind = .ko) : Put K e b { b with kwo := pset b.kwo e }
  | flush (hk : e.kind = .po) :
      Put K e b { b with pos := b.pos ++ b.pok.map (·.withKind .po) ++ [e], pok := [] }

inductive Credit (own other : Srcs) (n : Nat) (s : Srcs) : Srcs → Prop
  | one : Credit own other n s (addSources s n [own])
  | two : Credit own other n s (addSources s n [own, other])
  | twoRev : Credit own other n s (addSources s n [other, own])

theorem Credit.ite {own other : Srcs} {n : Nat} {s : Srcs} (c : Prop) [Decidable c] :
    Credit own other n s (if c then addSources s n [own, other] else addSources s n [own]) := by
  by_cases h : c
  · rw [if_pos h]; exact .two
  · rw [if_neg h]; exact .one

def MState.withBk (st : MState) (b : Bk) : MState :=
  { st with pos := b.pos, pok := b.pok, kwo := b.kwo, lUn := b.lUn, rUn := b.rUn }

/-- One iteration of phase P or Q.  `bothR`: a positional-only parameter of the right operand absorbs a
    positional-or-keyword one of the left operand; `leftLimbo`: the head joins the unmatched keyword-only parameter
    of its name on the other side.  `ho`: an entry that stays keyword-passable is one the other operand takes by
    keyword too, under the same name (`both`) or through its `**kwargs`. -/
inductive MStep (K : Prop) (l r : Sorted) :
    List Param → List Param → MState → List Param → List Param → MState → Prop
  | both (lp rp e : Param) (xs ys : List Param) (st : MState) (b' : Bk) (src' : Srcs)
      (hm : Made (concile lp rp) e) (he : K → restricts (concile lp rp).kind e.kind)
      (ho : K → e.kind ≠ .po → rp.kind = .pk ∧ lp.name = rp.name) (ha : Put K e st.bk b')
      (hs : Credit l.src r.src lp.name st.src src') :
      MStep K l r (lp :: xs) (rp :: ys) st xs ys { st.withBk b' with src := src' }
  | bothR (lp rp e : Param) (xs ys : List Param) (st : MState) (b' : Bk) (src' : Srcs)
      (hk : K → lp.kind = .pk ∧ rp.kind = .po)
      (hm : Made (concile rp lp) e) (he : K → restricts (concile rp lp).kind e.kind) (ha : Put K e st.bk b')
      (hs : Credit r.src l.src rp.name st.src src') :
      MStep K l r (lp :: xs) (rp :: ys) st xs ys { st.withBk b' with src := src' }
  | left (lp e : Param) (xs : List Param) (st : MState) (b' : Bk) (va' : Bool)
      (hm : Made lp e) (he : K → restricts lp.kind e.kind) (ho : K → e.kind ≠ .po → r.vk.isSome = true)
      (ha : Put K e st.bk b') (hv : va' = st.vaR ∨ va' = false) :
      MStep K l r (lp :: xs) [] st xs []
        { st.withBk b' with src := addSources st.src lp.name [l.src], vaR := va' }
  | leftDrop (lp : Param) (xs : List Param) (st : MState) (hd : lp.dflt.isSome = true) :
      MStep K l r (lp :: xs) [] st xs [] st
  | leftLimbo (lp q e : Param) (xs : List Param) (st : MState) (hq : pget st.rUn lp.name = some q)
      (hm : Made (concile lp q) e) (he : K → restricts (concile lp q).kind e.kind) (hk : e.kind = .ko) :
      MStep K l r (lp :: xs) [] st xs []
        { st with kwo := pset st.kwo e, rUn := ppop st.rUn lp.name,
                  src := addSources st.src lp.name [r.src, l.src] }
  | right (rp e : Param) (ys : List Param) (st : MState) (b' : Bk) (va' : Bool)
      (hm : Made rp e) (he : K → restricts rp.kind e.kind) (ho : K → e.kind ≠ .po → l.vk.isSome = true)
      (ha : Put K e st.bk b') (hv : va' = st.vaL ∨ va' = false) :
      MStep K l r [] (rp :: ys) st [] ys
        { st.withBk b' with src := addSources st.src rp.name [r.src], vaL := va' }
  | rightDrop (rp : Param) (ys : List Param) (st : MState) (hd : rp.dflt.isSome = true) :
      MStep K l r [] (rp :: ys) st [] ys st
  | rightLimbo (rp q e : Param) (ys : List Param) (st : MState) (hq : pget st.lUn rp.name = some q)
      (hm : Made (concile rp q) e) (he : K → restricts (concile rp q).kind e.kind) (hk : e.kind = .ko) :
      MStep K l r [] (rp :: ys) st [] ys
        { st with kwo := pset st.kwo e, lUn := ppop st.lUn rp.name,
                  src := addSources st.src rp.name [l.src, r.src] }

variable {K : Prop} {l r : Sorted}

theorem ZOne.toM {x : Param} {st st' : MState} {cf cf' xs : List Param}
    (h : ZOne K l r x st cf cf' st') : MStep K l r (x :: xs) cf st xs cf' st' := by
  have pk : (K → x.kind = .pk) → ∀ k', k' = .po ∨ k' = .ko → K → restricts x.kind k' :=
    fun hx _ hk k => .inr ⟨hx k, hk⟩
  induction h with
  | pull y cf hx hy hp =>
    exact .both x y _ _ _ st { st.bk with pos := st.pos ++ [concile x y] } _ .same
      (fun _ => restricts_refl _) (fun k ne => absurd (hx k) ne) (.pos hp hx) (.ite _)
  | keepP hx _ hp =>
    exact .left x x _ st { st.bk with pos := st.pos ++ [x] } false .same (fun _ => restricts_refl _)
      (fun k ne => absurd (hx k) ne) (.pos hp hx) (.inr rfl)
  | goneP _ _ hd => exact .leftDrop x _ _ hd
  | limbo q hx hq => exact .leftLimbo x q _ _ st hq .ko (pk hx _ (.inr rfl)) rfl
  | keepQ hx _ _ hvk =>
    exact .left x x _ st { st.bk with pok := st.pok ++ [x] } st.vaR .same (fun _ => restricts_refl _)
      (fun _ _ => hvk) (.pok hx) (.inl rfl)
  | own hx _ _ hvk =>
    exact .left x (x.withKind .ko) _ st { st.bk with kwo := pset st.kwo (x.withKind .ko) } st.vaR .ko
      (pk hx _ (.inr rfl)) (fun _ _ => hvk) (.kwo rfl) (.inl rfl)
  | flushQ hx =>
    exact .left x (x.withKind .po) _ st
      { st.bk with pos := st.pos ++ st.pok.map (·.withKind .po) ++ [x.withKind .po], pok := [] } st.vaR .po
      (pk hx _ (.inl rfl)) (fun _ ne => absurd rfl ne) (.flush rfl) (.inl rfl)
  | goneQ _ _ _ _ hd => exact .leftDrop x _ _ hd

theorem ZStep.toM {xs ys xs' ys' : List Param} {st st' : MState}
    (h : ZStep K l r xs ys st xs' ys' st') : MStep K l r xs ys st xs' ys' st' := by
  induction h with
  | pair a c xs ys st ha hc hp =>
    exact .both a c _ _ _ st { st.bk with pos := st.pos ++ [concile a c] } _ .same
      (fun _ => restricts_refl _) (fun k ne => absurd (ha k) ne) (.pos hp ha) (.ite _)
  | same a c xs ys st ha hc hn =>
    exact .both a c _ _ _ st { st.bk with pok := st.pok ++ [concile a c] } _ .same
      (fun _ => restricts_refl _) (fun k _ => ⟨hc k, hn⟩) (.pok ha) .two
  | diff a c xs ys st ha hc hn =>
    exact .both a c ((concile a c).withKind .po) _ _ st
      { st.bk with pos := st.pos ++ st.pok.map (·.withKind .po) ++ [(concile a c).withKind .po], pok := [] } _
      .po (fun k => .inr ⟨ha k, .inl rfl⟩) (fun _ ne => absurd rfl ne) (.flush rfl) .one
  | left x xs ys ys' st st' h => exact h.toM
  | right x xs xs' ys st st' h =>
    have pk : (K → x.kind = .pk) → ∀ k', k' = .po ∨ k' = .ko → K → restricts x.kind k' :=
      fun hx _ hk k => .inr ⟨hx k, hk⟩
    induction h with
    | pull y cf hx hy hp =>
      exact .bothR y x _ _ _ st { st.bk with pos := st.pos ++ [concile x y] } _ (fun k => ⟨hy k, hx k⟩) .same
        (fun _ => restricts_refl _) (.pos hp hx) (.ite _)
    | keepP hx _ hp =>
      exact .right x x _ st { st.bk with pos := st.pos ++ [x] } false .same (fun _ => restricts_refl _)
        (fun k ne => absurd (hx k) ne) (.pos hp hx) (.inr rfl)
    | goneP _ _ hd => exact .rightDrop x _ _ hd
    | limbo q hx hq => exact .rightLimbo x q _ _ st hq .ko (pk hx _ (.inr rfl)) rfl
    | keepQ hx _ _ hvk =>
      exact .right x x _ st { st.bk with pok := st.pok ++ [x] } st.vaL .same (fun _ => restricts_refl _)
        (fun _ _ => hvk) (.pok hx) (.inl rfl)
    | own hx _ _ hvk =>
      exact .right x (x.withKind .ko) _ st { st.bk with kwo := pset st.kwo (x.withKind .ko) } st.vaL .ko
        (pk hx _ (.inr rfl)) (fun _ _ => hvk) (.kwo rfl) (.inl rfl)
    | flushQ hx =>
      exact .right x (x.withKind .po) _ st
        { st.bk with pos := st.pos ++ st.pok.map (·.withKind .po) ++ [x.withKind .po], pok := [] } st.vaL .po
        (pk hx _ (.inl rfl)) (fun _ ne => absurd rfl ne) (.flush rfl) (.inl rfl)
    | goneQ _ _ _ _ hd => exact .rightDrop x _ _ hd

/-- the merger state together with what phase K has still to go through of the keyword-only buckets
    of the two operands -/
structure WState where
  kl : List Param
  kr : List Param
  st : MState

/-- Everything `_merge` does before the star parameters: phase K on a keyword-only parameter of the left operand, then
    of the right one, an iteration of phase P or Q (`pq`), and at the end of the chains the other side's `**kwargs`
    taking what is still unmatched (`unL`, `unR`).  The order of the phases is not recorded beyond that. -/
inductive WStep (K : Prop) (l r : Sorted) :
    List Param → List Param → WState → List Param → List Param → WState → Prop
  | kw (p q : Param) (kl kr xs ys : List Param) (st : MState) (hq : pget r.kwo p.name = some q) :
      WStep K l r xs ys ⟨p :: kl, kr, st⟩ xs ys ⟨kl, kr, { st with
        kwo := pset st.kwo (concile p q),
        src := dset st.src p.name (sget l.src p.name ++ sget r.src p.name) }⟩
  | kwL (p : Param) (kl kr xs ys : List Param) (st : MState) (hq : pget r.kwo p.name = none) :
      WStep K l r xs ys ⟨p :: kl, kr, st⟩ xs ys ⟨kl, kr, { st with lUn := pset st.lUn p }⟩
  | kwSkip (p : Param) (kr xs ys : List Param) (st : MState) (hp : phas l.kwo p.name = true) :
      WStep K l r xs ys ⟨[], p :: kr, st⟩ xs ys ⟨[], kr, st⟩
  | kwR (p : Param) (kr xs ys : List Param) (st : MState) (hp : ¬phas l.kwo p.name = true) :
      WStep K l r xs ys ⟨[], p :: kr, st⟩ xs ys ⟨[], kr, { st with rUn := pset st.rUn p }⟩
  | pq {xs ys xs' ys' : List Param} {st st' : MState} (s : MStep K l r xs ys st xs' ys' st') :
      WStep K l r xs ys ⟨[], [], st⟩ xs' ys' ⟨[], [], st'⟩
  | unL (st : MState) (hun : st.lUn ≠ []) (hvk : r.vk.isSome = true) :
      WStep K l r [] [] ⟨[], [], st⟩ [] [] ⟨[], [], { st with
        kwo := pupdate st.kwo st.lUn, src := addAllSources st.src st.lUn l.src, vkR := false }⟩
  | unR (st : MState) (hun : st.rUn ≠ []) (hvk : l.vk.isSome = true) :
      WStep K l r [] [] ⟨[], [], st⟩ [] [] ⟨[], [], { st with
        kwo := pupdate st.kwo st.rUn, src := addAllSources st.src st.rUn r.src, vkL := false }⟩

abbrev WRuns (K : Prop) (l r : Sorted) := Runs (WStep K l r)

theorem wrun_K1 (kr xs ys ps : List Param) (st : MState) :
    WRuns K l r xs ys ⟨ps, kr, st⟩ xs ys ⟨[], kr, phaseK1 l r ps st⟩ := by
  fun_induction phaseK1 l r ps st with
  | case1 => exact .refl ..
  | case2 p ps st q hq ih => exact .head (.kw p q _ _ _ _ st hq) ih
  | case3 p ps st hq ih => exact .head (.kwL p _ _ _ _ st hq) ih

theorem wrun_K2 (xs ys ps : List Param) (st : MState) :
    WRuns K l r xs ys ⟨[], ps, st⟩ xs ys ⟨[], [], phaseK2 l ps st⟩ := by
  fun_induction phaseK2 l ps st with
  | case1 => exact .refl ..
  | case2 p ps st hp ih => exact .head (.kwSkip p _ _ _ st hp) ih
  | case3 p ps st hp ih => exact .head (.kwR p _ _ _ st hp) ih

theorem wrun_un {side : Side} {st st' : MState} (h : mergeUnmatched side l r st = .ok st') :
    WRuns K l r [] [] ⟨[], [], st⟩ [] [] ⟨[], [], st'⟩ := by
  cases h ▸ mergeUnmatched_out side l r st with
  | none | drop => exact .refl ..
  | take hun hvk =>
    cases side
    · exact .head (.unL st hun hvk) (.refl ..)
    · exact .head (.unR st hun hvk) (.refl ..)

theorem mergeStep_runs {m : Sorted} (hK : K → BucketKinds l ∧ BucketKinds r) (h : mergeStep l r = .ok m) :
    ∃ st : MState,
      WRuns K l r (l.pos ++ l.pok) (r.pos ++ r.pok) ⟨l.kwo, r.kwo, mergeInit l r⟩ [] [] ⟨[], [], st⟩ ∧
      m = { pos := st.pos, pok := st.pok,
            va := (addStarargs l r st.vaL st.vaR l.va r.va st.src).1,
            kwo := st.kwo,
            vk := (addStarargs l r st.vkL st.vkR l.vk r.vk
                    (addStarargs l r st.vaL st.vaR l.va r.va st.src).2).1,
            src := (addStarargs l r st.vkL st.vkR l.vk r.vk
                    (addStarargs l r st.vaL st.vaR l.va r.va st.src).2).2,
            depths := mergeDepths l.depths r.depths } := by
  obtain ⟨st2, st3, st4, run, h3, h4, -, -, rfl⟩ := mergeStep_zrun hK h
  have pq : WRuns K l r (l.pos ++ l.pok) (r.pos ++ r.pok) ⟨[], [], stK l r⟩ [] [] ⟨[], [], st2⟩ :=
    Runs.mono (S := WStep K l r) (fun st => ⟨[], [], st⟩) (fun _ _ _ _ _ _ s => .pq s.toM) run
  exact ⟨st4, ((wrun_K1 ..).trans (wrun_K2 ..)).trans (pq.trans ((wrun_un h3).trans (wrun_un h4))), rfl⟩

end SV
