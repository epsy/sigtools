/-
  Lemmas/C20TextOf.lean — the text of a list of pieces, and back: `readSigText (textOf ps) = readSig ps`.
-/
import Sigverif.Lemmas.C20Bridge
import Sigverif.Lemmas.C20Text
namespace SV

/-- how tokens are written: `dec n` is the text of token `n`; `enc` reads it back -/
structure GoodNames (enc : List Char → Nat) (dec : Nat → List Char) : Prop where
  tok : ∀ n, SimpleTok (dec n)
  nostar : ∀ n, (dec n).head? ≠ some '*'
  nochev : ∀ n, (dec n).head? ≠ some '<'
  noslash : ∀ n, dec n ≠ ['/']
  back : ∀ n, enc (dec n) = n

/-- one piece as a part of the text (`ws` = the white space written in front of it, also in front of the first) -/
def partOf (dec : Nat → List Char) (ws : List Char) : Piece → Part
  | .slash => ⟨ws, ['/'], none, none⟩
  | .bare => ⟨ws, ['*'], none, none⟩
  | .plain n a d => ⟨ws, dec n, a.map dec, d.map dec⟩
  | .star two n a d => ⟨ws, (if two then ['*', '*'] else ['*']) ++ dec n, a.map dec, d.map dec⟩
  | .chev n a d => ⟨ws, '<' :: dec n ++ ['>'], a.map dec, d.map dec⟩

/-- `','.join(...)` of the parts; with `ws = [' ']` the text is `', '.join(...)` with one more blank in front -/
def textOf (dec : Nat → List Char) (ws : List Char) (ps : List Piece) : List Char :=
  joinComma (ps.map (fun pc => (partOf dec ws pc).text))

theorem simpleTok_cons (c : Char) (t : List Char) (ht : SimpleTok t)
    (hc : c ≠ ',' ∧ c ≠ ':' ∧ c ≠ '=' ∧ isWs c = false) : SimpleTok (c :: t) := by
  refine ⟨by simp, ?_⟩
  intro x hx
  rcases List.mem_cons.1 hx with rfl | hx
  · exact hc
  · exact ht.2 x hx

theorem partOf_simple (enc : List Char → Nat) (dec : Nat → List Char) (g : GoodNames enc dec) (ws : List Char)
    (hws : ∀ c ∈ ws, isWs c = true) (pc : Piece) (hc : pc.chevFree = true) : (partOf dec ws pc).Simple := by
  have hopt : ∀ o : Option Nat, ∀ t ∈ o.map dec, SimpleTok t := by
    intro o t ht
    cases o with
    | none => cases ht
    | some n => simp only [Option.map_some, Option.mem_def, Option.some.injEq] at ht; subst ht; exact g.tok n
  have hstar : ('*' : Char) ≠ ',' ∧ ('*' : Char) ≠ ':' ∧ ('*' : Char) ≠ '=' ∧ isWs '*' = false := by decide
  have single : ∀ c : Char, (c ≠ ',' ∧ c ≠ ':' ∧ c ≠ '=' ∧ isWs c = false) → SimpleTok [c] :=
    fun c hc => ⟨List.cons_ne_nil _ _, fun x hx => List.mem_singleton.1 hx ▸ hc⟩
  cases pc with
  | slash => exact ⟨hws, single '/' (by decide), hopt none, hopt none⟩
  | bare => exact ⟨hws, single '*' hstar, hopt none, hopt none⟩
  | chev n a d => simp [Piece.chevFree] at hc
  | plain n a d => exact ⟨hws, g.tok n, hopt a, hopt d⟩
  | star two n a d =>
    refine ⟨hws, ?_, hopt a, hopt d⟩
    cases two
    · exact simpleTok_cons '*' _ (g.tok n) hstar
    · exact simpleTok_cons '*' _ (simpleTok_cons '*' _ (g.tok n) hstar) hstar

theorem toPiece_partOf (enc : List Char → Nat) (dec : Nat → List Char) (g : GoodNames enc dec) (ws : List Char)
    (pc : Piece) (hc : pc.chevFree = true) :
    toPiece enc ((partOf dec ws pc).arg, (partOf dec ws pc).ann, (partOf dec ws pc).dflt) = some pc := by
  have hmap : ∀ o : Option Nat, (o.map dec).map enc = o := by
    intro o; cases o <;> simp [g.back]
  cases pc with
  | slash => exact (toPiece_marks enc).2
  | bare => exact (toPiece_marks enc).1
  | chev n a d => simp [Piece.chevFree] at hc
  | plain n a d =>
    have := toPiece_plain enc (dec n) (a.map dec) (d.map dec) (g.nostar n) (g.nochev n) (g.noslash n)
    simpa [partOf, hmap, g.back] using this
  | star two n a d =>
    have := toPiece_star enc (dec n) (a.map dec) (d.map dec) (g.tok n).1 (g.nostar n)
    cases two
    · simpa [partOf, hmap, g.back] using this.1
    · simpa [partOf, hmap, g.back] using this.2

theorem piecesOfText_textOf (enc : List Char → Nat) (dec : Nat → List Char) (g : GoodNames enc dec) (ws : List Char)
    (hws : ∀ c ∈ ws, isWs c = true) (ps : List Piece) (hne : ps ≠ [])
    (hc : ∀ pc ∈ ps, pc.chevFree = true) :
    piecesOfText enc (textOf dec ws ps) = some ps := by
  have key := piecesOfText_parts enc (ps.map (partOf dec ws)) (by simpa using hne) (fun p hp => by
    obtain ⟨pc, hpc, rfl⟩ := List.mem_map.1 hp
    exact partOf_simple enc dec g ws hws pc (hc pc hpc))
  rw [List.map_map] at key
  refine key.trans ?_
  rw [List.mapM_map]
  exact (mapM_of_forall _ id ps (fun pc hpc => toPiece_partOf enc dec g ws pc (hc pc hpc))).trans (congrArg some ps.map_id)

theorem readSigText_textOf (enc : List Char → Nat) (dec : Nat → List Char) (g : GoodNames enc dec) (ws : List Char)
    (hws : ∀ c ∈ ws, isWs c = true) (ua upo ukw : Bool) (ps : List Piece) (hne : ps ≠ [])
    (hc : ∀ pc ∈ ps, pc.chevFree = true) :
    readSigText enc ua upo ukw (textOf dec ws ps) = some (readSig ua upo ukw ps) := by
  unfold readSigText
  rw [piecesOfText_textOf enc dec g ws hws ps hne hc]; rfl

theorem pieces_ne_nil (s : List Param) (h : s ≠ []) : pieces s ≠ [] := by
  cases s with
  | nil => exact absurd rfl h
  | cons p ps =>
    unfold pieces
    rw [piecesAux_cons]
    simp

theorem sParamsText_pieces (enc : List Char → Nat) (dec : Nat → List Char) (g : GoodNames enc dec) (ws : List Char)
    (hws : ∀ c ∈ ws, isWs c = true) (ua upo ukw : Bool) (s : List Param) (hs : s ≠ []) :
    sParamsText enc ua upo ukw (textOf dec ws (pieces s)) = some (sParams ua upo ukw (pieces s)) := by
  unfold sParamsText
  rw [piecesOfText_textOf enc dec g ws hws (pieces s) (pieces_ne_nil s hs) (piecesAux_chevFree s none)]
  rfl

end SV
