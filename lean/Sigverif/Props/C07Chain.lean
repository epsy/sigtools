/-
  Props/C07Chain.lean — C07 / C15: the fallback chain of `forged_signature` (Model/Chain.lean).

  "… sigtools.signature (with and without automatic discovery) and signatures.signature return an
   UpgradedSignature without raising …; where inspect.signature raises, the same exception type is
   raised (only an explicit forwards_to_* declaration that cannot be honoured surfaces, as ValueError)"
  (C07);  "signature retrieval turns such failures [of the algebra] into its fallback" (C15).

  The chain consults a declared forger, then (with `auto`) the autoforwards hint, then (with `auto`)
  `autoforwards`, then `signatures.signature`.  What each of them does is an `COutcome` (see the header of
  Model/Chain.lean for the reading of every value per component); the theorems are about ANY type of
  signatures `σ`.
-/
import Sigverif.Model.Chain
import Sigverif.Model.Discovery
namespace SV

section
variable {σ : Type}

/-- the forger lets the chain go on: no forger, or it returned `None` -/
def ForgerSilent (f : Option (COutcome σ)) : Prop := f = none ∨ f = some .noOpinion

/-- the forger raises `e` (nothing is caught around a forger, UnknownForwards included) -/
def ForgerRaises (f : Option (COutcome σ)) (e : Err) : Prop :=
  f = some (.raises e) ∨ (f = some .unknownForwards ∧ e = .unknownForwards)

/-- the hint lets the chain go on: no hint, or it returned `None`, or `autoforwards_ast` raised
    UnknownForwards on what it returned -/
def HintSilent (h : Option (COutcome σ)) : Prop :=
  h = none ∨ h = some .noOpinion ∨ h = some .unknownForwards

/-- an exception leaves the hint block uncaught: `autoforwards_ast` raised something else than
    UnknownForwards, or the hint callable itself raised (anything) -/
def HintRaises (h : Option (COutcome σ)) (e : Err) : Prop := h = some (.raises e)

/-- `autoforwards` lets the chain go on: it raised UnknownForwards (either spelling; `.noOpinion` cannot
    occur and is treated alike) -/
def AutoSilent (a : COutcome σ) : Prop :=
  a = .noOpinion ∨ a = .unknownForwards ∨ a = .raises .unknownForwards

/-- an exception leaves the `autoforwards` block uncaught: anything but UnknownForwards -/
def AutoRaises (a : COutcome σ) (e : Err) : Prop := a = .raises e ∧ e ≠ .unknownForwards

theorem forgerStep_eq_none (f : Option (COutcome σ)) : forgerStep f = none ↔ ForgerSilent f := by
  rcases f with _ | (_ | _ | _ | _) <;> simp [forgerStep, ForgerSilent]

theorem forgerStep_eq_ok (f : Option (COutcome σ)) (s : σ) :
    forgerStep f = some (.ok s) ↔ f = some (.sig s) := by
  rcases f with _ | (_ | _ | _ | _) <;> simp [forgerStep]

theorem forgerStep_eq_error (f : Option (COutcome σ)) (e : Err) :
    forgerStep f = some (.error e) ↔ ForgerRaises f e := by
  rcases f with _ | (_ | _ | _ | _) <;> simp [forgerStep, ForgerRaises]
  exact eq_comm

theorem hintStep_eq_none (h : Option (COutcome σ)) : hintStep h = none ↔ HintSilent h := by
  rcases h with _ | (_ | _ | _ | _) <;> simp [hintStep, HintSilent]

theorem hintStep_eq_ok (h : Option (COutcome σ)) (s : σ) :
    hintStep h = some (.ok s) ↔ h = some (.sig s) := by
  rcases h with _ | (_ | _ | _ | _) <;> simp [hintStep]

theorem hintStep_eq_error (h : Option (COutcome σ)) (e : Err) :
    hintStep h = some (.error e) ↔ HintRaises h e := by
  rcases h with _ | (_ | _ | _ | _) <;> simp [hintStep, HintRaises]

/-- the only place where the chain looks at which exception it is -/
theorem autoStep_raises (e : Err) :
    autoStep (.raises e : COutcome σ) = if e = .unknownForwards then none else some (.error e) := by
  cases e <;> rfl

theorem autoStep_eq_none (a : COutcome σ) : autoStep a = none ↔ AutoSilent a := by
  rcases a with _ | _ | _ | e
  case raises => simp [autoStep_raises, AutoSilent]
  all_goals simp [autoStep, AutoSilent]

theorem autoStep_eq_ok (a : COutcome σ) (s : σ) : autoStep a = some (.ok s) ↔ a = .sig s := by
  rcases a with _ | _ | _ | e
  case raises => by_cases he : e = .unknownForwards <;> simp [autoStep_raises, he]
  all_goals simp [autoStep]

theorem autoStep_eq_error (a : COutcome σ) (e : Err) :
    autoStep a = some (.error e) ↔ AutoRaises a e := by
  rcases a with _ | _ | _ | e'
  case raises =>
    by_cases he : e' = .unknownForwards
    · subst he
      simp [autoStep_raises, AutoRaises, eq_comm]
    · simp only [autoStep_raises, he, AutoRaises, if_false, Option.some.injEq, Except.error.injEq,
        COutcome.raises.injEq]
      exact ⟨fun h => ⟨h, h ▸ he⟩, And.left⟩
  all_goals simp [autoStep, AutoRaises]

theorem COutcome.ofExcept_error (e : Err) :
    (COutcome.ofExcept (.error e) : COutcome σ) = if e = .unknownForwards then .unknownForwards else .raises e := by
  cases e <;> rfl

theorem COutcome.ofExcept_eq_sig (x : Except Err σ) (s : σ) : COutcome.ofExcept x = .sig s ↔ x = .ok s := by
  cases x with
  | ok s' => simp [COutcome.ofExcept]
  | error e => by_cases he : e = .unknownForwards <;> simp [COutcome.ofExcept_error, he]

theorem COutcome.ofExcept_eq_raises (x : Except Err σ) (e : Err) :
    COutcome.ofExcept x = .raises e ↔ x = .error e ∧ e ≠ .unknownForwards := by
  cases x with
  | ok s' => simp [COutcome.ofExcept]
  | error e' =>
    by_cases he : e' = .unknownForwards
    · subst he
      simp [COutcome.ofExcept_error, eq_comm]
    · simp only [COutcome.ofExcept_error, he, if_false, COutcome.raises.injEq, Except.error.injEq]
      exact ⟨fun h => ⟨h, h ▸ he⟩, And.left⟩

/-- the result, whatever it is: the first block that has something to say says it -/
theorem forgedSignature_eq_iff (auto : Bool) (c : ChainInputs σ) (r : Except Err σ) :
    forgedSignature auto c = r ↔
      (forgerStep c.forger = some r
       ∨ (forgerStep c.forger = none ∧ auto = true ∧ hintStep c.hint = some r)
       ∨ (forgerStep c.forger = none ∧ auto = true ∧ hintStep c.hint = none ∧ autoStep c.auto_ = some r)
       ∨ (forgerStep c.forger = none
          ∧ (auto = true → hintStep c.hint = none ∧ autoStep c.auto_ = none) ∧ c.plain = r)) := by
  unfold forgedSignature
  cases hf : forgerStep c.forger with
  | some r' => simp
  | none =>
    cases auto with
    | false => simp
    | true =>
      cases hh : hintStep c.hint with
      | some r' => simp
      | none =>
        cases ha : autoStep c.auto_ with
        | some r' => simp
        | none => simp

/-! ## (a) a declared forger that returns a signature decides, whatever the rest -/

theorem chain_forger_priority (auto : Bool) (c : ChainInputs σ) (s : σ)
    (h : c.forger = some (.sig s)) : forgedSignature auto c = .ok s := by
  rw [forgedSignature_eq_iff]
  exact .inl ((forgerStep_eq_ok _ _).mpr h)

/-- non-vacuity: a hint that raises, an `autoforwards` that raises and no plain signature do not matter -/
example : forgedSignature true
    { forger := some (.sig 7), hint := some (.raises .typeError), auto_ := .raises .keyError,
      plain := .error .valueError } = (.ok 7 : Except Err Nat) := rfl

/-! ## (b) every successful result is the forger's, the hint's, autoforwards' or the plain signature -/

/-- each source is used exactly when all the earlier ones let the chain go on -/
theorem chain_ok_iff (auto : Bool) (c : ChainInputs σ) (s : σ) :
    forgedSignature auto c = .ok s ↔
      (c.forger = some (.sig s)
       ∨ (ForgerSilent c.forger ∧ auto = true ∧ c.hint = some (.sig s))
       ∨ (ForgerSilent c.forger ∧ auto = true ∧ HintSilent c.hint ∧ c.auto_ = .sig s)
       ∨ (ForgerSilent c.forger ∧ (auto = true → HintSilent c.hint ∧ AutoSilent c.auto_)
          ∧ c.plain = .ok s)) := by
  rw [forgedSignature_eq_iff, forgerStep_eq_ok, forgerStep_eq_none, hintStep_eq_ok, hintStep_eq_none,
    autoStep_eq_ok, autoStep_eq_none]

theorem chain_cases (auto : Bool) (c : ChainInputs σ) (s : σ)
    (h : forgedSignature auto c = .ok s) :
    c.forger = some (.sig s) ∨ (auto = true ∧ c.hint = some (.sig s))
      ∨ (auto = true ∧ c.auto_ = .sig s) ∨ c.plain = .ok s := by
  rcases (chain_ok_iff auto c s).mp h with h | ⟨_, ha, h⟩ | ⟨_, ha, _, h⟩ | ⟨_, _, h⟩
  · exact .inl h
  · exact .inr (.inl ⟨ha, h⟩)
  · exact .inr (.inr (.inl ⟨ha, h⟩))
  · exact .inr (.inr (.inr h))

/-- non-vacuity: each of the four sources is used by some input -/
example : forgedSignature true
    { forger := some .noOpinion, hint := some (.sig 2), auto_ := .sig 3, plain := .ok 4 }
    = (.ok 2 : Except Err Nat) := rfl
example : forgedSignature true
    { forger := none, hint := some .unknownForwards, auto_ := .sig 3, plain := .ok 4 }
    = (.ok 3 : Except Err Nat) := rfl
example : forgedSignature true
    { forger := none, hint := some .noOpinion, auto_ := .unknownForwards, plain := .ok 4 }
    = (.ok 4 : Except Err Nat) := rfl
example : forgedSignature false
    { forger := none, hint := some (.sig 2), auto_ := .sig 3, plain := .ok 4 }
    = (.ok 4 : Except Err Nat) := rfl

/-! ## (c) exactly when the chain raises, and what -/

/-- the forger raised `e`; else (with `auto`) an uncaught `e` left the hint block; else (with `auto`)
    `autoforwards` raised `e`, not an UnknownForwards; else nothing produced a signature and
    `signatures.signature` raised `e`.

    In the hint slot `.raises e` is by definition an exception that is NOT caught (Model/Chain.lean: the `try` is around
    `autoforwards_ast` only, not around the call of the hint), so there is no side condition on `e` there;
    the UnknownForwards that IS caught is the outcome `.unknownForwards` (part of `HintSilent`). -/
theorem chain_raises_iff (auto : Bool) (c : ChainInputs σ) (e : Err) :
    forgedSignature auto c = .error e ↔
      (ForgerRaises c.forger e
       ∨ (ForgerSilent c.forger ∧ auto = true ∧ HintRaises c.hint e)
       ∨ (ForgerSilent c.forger ∧ auto = true ∧ HintSilent c.hint ∧ AutoRaises c.auto_ e)
       ∨ (ForgerSilent c.forger ∧ (auto = true → HintSilent c.hint ∧ AutoSilent c.auto_)
          ∧ c.plain = .error e)) := by
  rw [forgedSignature_eq_iff, forgerStep_eq_error, forgerStep_eq_none, hintStep_eq_error,
    hintStep_eq_none, autoStep_eq_error, autoStep_eq_none]

/-- non-vacuity: each of the four ways to raise -/
example : forgedSignature true
    { forger := some (.raises .valueError), hint := some (.sig 2), auto_ := .sig 3, plain := .ok 4 }
    = (.error .valueError : Except Err Nat) := rfl
example : forgedSignature true
    { forger := none, hint := some (.raises .typeError), auto_ := .sig 3, plain := .ok 4 }
    = (.error .typeError : Except Err Nat) := rfl
example : forgedSignature true
    { forger := none, hint := none, auto_ := .raises .typeError, plain := .ok 4 }
    = (.error .typeError : Except Err Nat) := rfl
example : forgedSignature true
    { forger := none, hint := none, auto_ := .unknownForwards, plain := .error .valueError }
    = (.error .valueError : Except Err Nat) := rfl

/-! ## (d) `auto = False`: the hint and autoforwards are never consulted -/

/-- the result is the forger's word, else the plain signature -/
theorem chain_no_auto_eq (c : ChainInputs σ) :
    forgedSignature false c = (match forgerStep c.forger with | some r => r | none => c.plain) := by
  unfold forgedSignature
  cases forgerStep c.forger <;> simp

theorem chain_no_auto (f : Option (COutcome σ)) (h h' : Option (COutcome σ)) (a a' : COutcome σ)
    (p : Except Err σ) :
    forgedSignature false { forger := f, hint := h, auto_ := a, plain := p }
      = forgedSignature false { forger := f, hint := h', auto_ := a', plain := p } := by
  rw [chain_no_auto_eq, chain_no_auto_eq]

/-- non-vacuity: with `auto` the same inputs give something else -/
example : forgedSignature false
    { forger := none, hint := some (.raises .typeError), auto_ := .sig 3, plain := .ok 4 }
    = (.ok 4 : Except Err Nat)
  ∧ forgedSignature true
    { forger := none, hint := some (.raises .typeError), auto_ := .sig 3, plain := .ok 4 }
    = (.error .typeError : Except Err Nat) := ⟨rfl, rfl⟩

/-! ## (e) UnknownForwards never comes out of discovery -/

/-- exactly when the chain raises UnknownForwards: a forger raised it, or the hint CALLABLE raised it
    (not `autoforwards_ast`: that one is caught), or `signatures.signature` raised it.  `autoforwards`
    does not occur: whatever it does, no UnknownForwards comes out of it. -/
theorem chain_uf_iff (auto : Bool) (c : ChainInputs σ) :
    forgedSignature auto c = .error .unknownForwards ↔
      ((c.forger = some (.raises .unknownForwards) ∨ c.forger = some .unknownForwards)
       ∨ (ForgerSilent c.forger ∧ auto = true ∧ c.hint = some (.raises .unknownForwards))
       ∨ (ForgerSilent c.forger ∧ (auto = true → HintSilent c.hint ∧ AutoSilent c.auto_)
          ∧ c.plain = .error .unknownForwards)) := by
  rw [chain_raises_iff]
  simp only [ForgerRaises, HintRaises, AutoRaises, ne_eq, not_true_eq_false, and_false, and_true,
    false_or]

/-- ADDED HYPOTHESES `hh` (the hint callable itself does not raise UnknownForwards — outside the `try`)
    and `hp` (`signatures.signature(obj)` does not raise UnknownForwards — it can only do so through a
    forger behind a `__signature__` descriptor).  Nothing is asked of `c.auto_`, nor of what
    `autoforwards_ast` does in the hint block (`some .unknownForwards` is allowed).
    ORIGINAL STATEMENT (false, see `chain_uf_never_escapes_refuted`):
    theorem chain_uf_never_escapes (auto : Bool) (c : ChainInputs σ)
        (hf : c.forger ≠ some (.raises .unknownForwards) ∧ c.forger ≠ some .unknownForwards) :
        forgedSignature auto c ≠ .error .unknownForwards -/
theorem chain_uf_never_escapes_partial (auto : Bool) (c : ChainInputs σ)
    (hf : c.forger ≠ some (.raises .unknownForwards) ∧ c.forger ≠ some .unknownForwards)
    (hh : c.hint ≠ some (.raises .unknownForwards))
    (hp : c.plain ≠ .error .unknownForwards) :
    forgedSignature auto c ≠ .error .unknownForwards := by
  intro h
  rcases (chain_uf_iff auto c).mp h with (h | h) | ⟨_, _, h⟩ | ⟨_, _, h⟩
  · exact hf.1 h
  · exact hf.2 h
  · exact hh h
  · exact hp h

/-- non-vacuity of the partial statement: every UnknownForwards of discovery is there, none escapes -/
example :
    let c : ChainInputs Nat :=
      { forger := some .noOpinion, hint := some .unknownForwards, auto_ := .raises .unknownForwards,
        plain := .ok 4 }
    (c.forger ≠ some (.raises .unknownForwards) ∧ c.forger ≠ some .unknownForwards)
      ∧ c.hint ≠ some (.raises .unknownForwards) ∧ c.plain ≠ .error .unknownForwards
      ∧ forgedSignature true c = .ok 4 := by
  refine ⟨⟨by simp, by simp⟩, by simp, by simp, rfl⟩

/-- the statement with the hypothesis on the forger alone is false: a hint callable that raises
    UnknownForwards is not caught (no forger at all here; observed on the Python code too), and neither is
    an UnknownForwards of `signatures.signature` -/
theorem chain_uf_never_escapes_refuted :
    ¬ (∀ (auto : Bool) (c : ChainInputs Nat),
        (c.forger ≠ some (.raises .unknownForwards) ∧ c.forger ≠ some .unknownForwards) →
        forgedSignature auto c ≠ .error .unknownForwards) := by
  intro h
  exact h true { forger := none, hint := some (.raises .unknownForwards), auto_ := .sig 3, plain := .ok 4 }
    ⟨by simp, by simp⟩ rfl

theorem chain_uf_never_escapes_refuted_plain :
    ¬ (∀ (auto : Bool) (c : ChainInputs Nat),
        (c.forger ≠ some (.raises .unknownForwards) ∧ c.forger ≠ some .unknownForwards) →
        c.hint ≠ some (.raises .unknownForwards) →
        forgedSignature auto c ≠ .error .unknownForwards) := by
  intro h
  exact h false { forger := none, hint := none, auto_ := .sig 3, plain := .error .unknownForwards }
    ⟨by simp, by simp⟩ (by simp) rfl

/-- what C15 says of discovery: when `autoforwards` (or `autoforwards_ast` on the hint) raises
    UnknownForwards the chain does not raise it — it goes on to the next source -/
theorem chain_uf_of_autoforwards_caught (c : ChainInputs σ)
    (hf : ForgerSilent c.forger) (hh : HintSilent c.hint) (ha : AutoSilent c.auto_) :
    forgedSignature true c = c.plain := by
  rw [forgedSignature_eq_iff]
  exact .inr (.inr (.inr ⟨(forgerStep_eq_none _).mpr hf, fun _ => ⟨(hintStep_eq_none _).mpr hh,
    (autoStep_eq_none _).mpr ha⟩, rfl⟩))

example : forgedSignature true
    { forger := none, hint := some .unknownForwards, auto_ := .unknownForwards, plain := .ok 4 }
    = (.ok 4 : Except Err Nat) := rfl

/-! ## (f) benign discovery: total when the plain signature exists -/

theorem ForgerSilent.not_sig {f : Option (COutcome σ)} (hf : ForgerSilent f) (s : σ) :
    f ≠ some (.sig s) := by
  rcases hf with rfl | rfl <;> simp

theorem ForgerSilent.not_raises {f : Option (COutcome σ)} (hf : ForgerSilent f) (e : Err) :
    ¬ ForgerRaises f e := by
  rcases hf with rfl | rfl <;> simp [ForgerRaises]

/-- no forger with an opinion; the hint block and `autoforwards` only return signatures, `None` or raise
    UnknownForwards where it is caught: then an exception of the chain is the exception of
    `signatures.signature` ("where inspect.signature raises, the same exception type is raised") -/
theorem chain_error_of_plain (auto : Bool) (c : ChainInputs σ) (e : Err)
    (hf : ForgerSilent c.forger)
    (hh : ∀ e, ¬ HintRaises c.hint e)
    (ha : ∀ e, ¬ AutoRaises c.auto_ e)
    (hr : forgedSignature auto c = .error e) : c.plain = .error e := by
  rcases (chain_raises_iff auto c e).mp hr with h | ⟨_, _, h⟩ | ⟨_, _, _, h⟩ | ⟨_, _, h⟩
  · exact (hf.not_raises e h).elim
  · exact (hh e h).elim
  · exact (ha e h).elim
  · exact h

/-- … so under the same hypotheses the chain succeeds whenever `signatures.signature` does, with the
    plain signature or a discovered one -/
theorem chain_total_of_plain (auto : Bool) (c : ChainInputs σ) (p : σ)
    (hf : ForgerSilent c.forger)
    (hh : ∀ e, ¬ HintRaises c.hint e)
    (ha : ∀ e, ¬ AutoRaises c.auto_ e)
    (hp : c.plain = .ok p) :
    ∃ s, forgedSignature auto c = .ok s
      ∧ (s = p ∨ (auto = true ∧ (c.hint = some (.sig s) ∨ c.auto_ = .sig s))) := by
  cases hr : forgedSignature auto c with
  | error e =>
    rw [chain_error_of_plain auto c e hf hh ha hr] at hp
    cases hp
  | ok s =>
    refine ⟨s, rfl, ?_⟩
    rcases chain_cases auto c s hr with h | ⟨h1, h2⟩ | ⟨h1, h2⟩ | h
    · exact (hf.not_sig s h).elim
    · exact .inr ⟨h1, .inl h2⟩
    · exact .inr ⟨h1, .inr h2⟩
    · rw [hp] at h
      cases h
      exact .inl rfl

/-- non-vacuity: the hypotheses of (f) hold of an input on which both discovery routes give up, and of
    one where `autoforwards` finds a signature; the conclusion is the plain resp. the discovered one -/
example :
    let c : ChainInputs Nat :=
      { forger := some .noOpinion, hint := some .unknownForwards, auto_ := .unknownForwards, plain := .ok 4 }
    ForgerSilent c.forger ∧ (∀ e, ¬ HintRaises c.hint e) ∧ (∀ e, ¬ AutoRaises c.auto_ e)
      ∧ forgedSignature true c = .ok 4 := by
  refine ⟨.inr rfl, ?_, ?_, rfl⟩
  · intro e h; cases h
  · intro e h; cases h.1
example :
    let c : ChainInputs Nat :=
      { forger := none, hint := none, auto_ := .sig 3, plain := .ok 4 }
    ForgerSilent c.forger ∧ (∀ e, ¬ HintRaises c.hint e) ∧ (∀ e, ¬ AutoRaises c.auto_ e)
      ∧ forgedSignature true c = .ok 3 ∧ forgedSignature false c = .ok 4 := by
  refine ⟨.inl rfl, ?_, ?_, rfl, rfl⟩
  · intro e h; cases h
  · intro e h; cases h.1
example :
    let c : ChainInputs Nat :=
      { forger := none, hint := none, auto_ := .raises .unknownForwards, plain := .error .typeError }
    ForgerSilent c.forger ∧ (∀ e, ¬ HintRaises c.hint e) ∧ (∀ e, ¬ AutoRaises c.auto_ e)
      ∧ forgedSignature true c = .error .typeError := by
  refine ⟨.inl rfl, ?_, ?_, rfl⟩
  · intro e h; cases h
  · intro e h
    obtain ⟨h1, h2⟩ := h
    cases h1
    exact h2 rfl

end

/-! ## (g) Model/Discovery.lean is this chain -/

/-- every failure of `forward_signatures` on one call is an UnknownForwards -/
theorem forwardSig_error (sig : USig) (resolve : RM → RVal) (c : CallRec) (e : Err)
    (h : forwardSig sig resolve c = .error e) : e = .unknownForwards := by
  unfold forwardSig at h
  repeat' split at h
  all_goals cases h
  all_goals rfl

theorem forwardSigs_error (sig : USig) (resolve : RM → RVal) (cs : List CallRec) (e : Err)
    (h : forwardSigs sig resolve cs = .error e) : e = .unknownForwards := by
  induction cs with
  | nil => cases h
  | cons c cs ih =>
    simp only [forwardSigs, bind, Except.bind] at h
    split at h
    · cases h
      exact forwardSig_error sig resolve c _ ‹_›
    · split at h
      · cases h
        exact ih ‹_›
      · cases h

/-- `autoforwards_ast` fails with UnknownForwards only -/
theorem autoforwardsAst_error (sig : USig) (resolve : RM → RVal) (cs : List CallRec) (e : Err)
    (h : autoforwardsAst sig resolve cs = .error e) : e = .unknownForwards := by
  simp only [autoforwardsAst, bind, Except.bind] at h
  split at h
  · cases h
    exact forwardSigs_error sig resolve cs _ ‹_›
  · repeat' split at h
    all_goals cases h
    all_goals rfl

/-- `autoforwards_function` fails with UnknownForwards only: every failure of name resolution, retrieval,
    `forwards`, `merge` is turned into one -/
theorem autoFn_error (own : USig) (resolve : RM → RVal) (calls : Option (List CallRec)) (e : Err)
    (h : autoFn own resolve calls = .error e) : e = .unknownForwards := by
  cases calls with
  | none => cases h; rfl
  | some cs => exact autoforwardsAst_error own resolve cs e h

/-- `discovered` = the chain of a plain function: no forger, no hint, `autoforwards` is
    `autoforwards_function` (`autoFn`), the plain signature exists -/
theorem chain_discovered (own : USig) (resolve : RM → RVal) (calls : Option (List CallRec)) :
    discovered own resolve calls
      = forgedSignature true
          { forger := none, hint := none,
            auto_ := COutcome.ofExcept (autoFn own resolve calls), plain := .ok own } := by
  cases calls with
  | none => rfl
  | some cs =>
    simp only [discovered, autoFn]
    cases h : autoforwardsAst own resolve cs with
    | ok s => rfl
    | error e =>
      cases autoforwardsAst_error own resolve cs e h
      rfl

/-- non-vacuity: a body without forwarding call — discovery gives up (UnknownForwards), the chain
    answers the own signature; on both sides of the equation -/
example :
    let own : USig := { params := [{ name := 1, kind := .pk }, { name := 2, kind := .vp }] }
    autoFn own (fun _ => .other) (some []) = .error .unknownForwards
      ∧ discovered own (fun _ => .other) (some []) = .ok own
      ∧ forgedSignature true
          { forger := none, hint := none,
            auto_ := COutcome.ofExcept (autoFn own (fun _ => .other) (some [])), plain := .ok own }
        = .ok own := ⟨rfl, rfl, rfl⟩

/-- `autoforwards_method(method, args, kwargs)` on top of `autoforwards_function` -/
def autoMethod (own : USig) (resolve : RM → RVal) (calls : Option (List CallRec)) : Except Err USig :=
  match autoFn own resolve calls with
  | .ok s => (match mask s 1 [] {} with
              | .ok r => .ok r
              | .error _ => .error .unknownForwards)      -- `except ValueError: raise UnknownForwards()`
  | .error e => .error e

/-- a bound method: `autoforwards` is `autoforwards_method` (`autoMethod`), the plain signature is
    `mask(own, 1)` -/
theorem chain_discovered_method (own : USig) (resolve : RM → RVal) (calls : Option (List CallRec)) :
    discoveredMethod own resolve calls
      = forgedSignature true
          { forger := none, hint := none,
            auto_ := COutcome.ofExcept (autoMethod own resolve calls), plain := mask own 1 [] {} } := by
  unfold discoveredMethod autoMethod
  cases h : autoFn own resolve calls with
  | ok s =>
    dsimp only
    cases mask s 1 [] {} <;> rfl
  | error e =>
    cases autoFn_error own resolve calls e h
    rfl

/-- `autoforwards_partial(par, args, kwargs)` on top of `autoforwards_function` -/
def autoPartial (own : USig) (resolve : RM → RVal) (calls : Option (List CallRec))
    (n : Nat) (kw : List (Nat × Nat)) (pobj : Nat) : Except Err USig :=
  match autoFn own resolve calls with
  | .ok s => (match maskPartial s n kw pobj with
              | .ok r => .ok r
              | .error _ => .error .unknownForwards)      -- `except ValueError: raise UnknownForwards()`
  | .error e => .error e

/-- a `functools.partial` object: `autoforwards` is `autoforwards_partial` (`autoPartial`) -/
theorem chain_discovered_partial (own : USig) (resolve : RM → RVal) (calls : Option (List CallRec))
    (n : Nat) (kw : List (Nat × Nat)) (pobj : Nat) :
    discoveredPartial own resolve calls n kw pobj
      = forgedSignature true
          { forger := none, hint := none,
            auto_ := COutcome.ofExcept (autoPartial own resolve calls n kw pobj),
            plain := maskPartial own n kw pobj } := by
  unfold discoveredPartial autoPartial
  cases h : autoFn own resolve calls with
  | ok s =>
    dsimp only
    cases maskPartial s n kw pobj <;> rfl
  | error e =>
    cases autoFn_error own resolve calls e h
    rfl

/-- what the hint of `modifiers._PokTranslator` followed by `autoforwards_ast` does on the rewritten
    signature `own'`: no source = the hint returns `None` -/
def hintOutcome (own' : USig) (resolve : RM → RVal) (calls : Option (List CallRec)) : COutcome USig :=
  match calls with
  | none => .noOpinion
  | some cs => COutcome.ofExcept (autoforwardsAst own' resolve cs)

/-- a function behind `modifiers.kwoargs / posoargs / autokwoargs` whose decoration succeeded: the object
    HAS a hint (`hintOutcome`: `None` without source, else `autoforwards_ast` on the rewritten signature),
    and its `autoforwards` is `autoforwards_hint`, which asks the hint again -/
theorem chain_discovered_hint (own : USig) (P W : List Nat) (resolve : RM → RVal)
    (calls : Option (List CallRec)) (ps : List Param) (x : List (Nat × Param))
    (hp : prepare own.params P W = .ok (ps, x)) :
    discoveredHint own P W resolve calls
      = forgedSignature true
          { forger := none, hint := some (hintOutcome { own with params := ps } resolve calls),
            auto_ := COutcome.ofExcept (autoFn { own with params := ps } resolve calls),
            plain := .ok { own with params := ps } } := by
  unfold discoveredHint
  rw [hp]
  cases calls with
  | none => rfl
  | some cs =>
    simp only [discovered, hintOutcome, autoFn]
    cases h : autoforwardsAst { own with params := ps } resolve cs with
    | ok s => rfl
    | error e =>
      cases autoforwardsAst_error _ resolve cs e h
      rfl

/-- the `autoforwards` of the model is benign in the sense of (f): `autoforwards_function` fails with
    UnknownForwards only (every failure of name resolution, retrieval, `forwards`, `merge` is turned into
    one), so no exception leaves its block -/
theorem chain_discovery_benign (own : USig) (resolve : RM → RVal) (calls : Option (List CallRec)) (e : Err) :
    ¬ AutoRaises (COutcome.ofExcept (autoFn own resolve calls)) e := by
  intro ⟨h1, h2⟩
  exact h2 (autoFn_error own resolve calls e ((COutcome.ofExcept_eq_raises _ _).mp h1).1)

/-- so what (f) says of the chain holds of `discovered` without any hypothesis (`discovered_total`,
    Props/C06.lean, obtained through the chain): the result is the own signature or the discovered one -/
theorem chain_discovered_total (own : USig) (resolve : RM → RVal) (calls : Option (List CallRec)) :
    ∃ s, discovered own resolve calls = .ok s
      ∧ (s = own ∨ autoFn own resolve calls = .ok s) := by
  rw [chain_discovered]
  obtain ⟨s, hs, h⟩ := chain_total_of_plain true
    { forger := none, hint := none, auto_ := COutcome.ofExcept (autoFn own resolve calls),
      plain := .ok own } own (.inl rfl) (by intro e h; cases h)
    (chain_discovery_benign own resolve calls) rfl
  refine ⟨s, hs, ?_⟩
  rcases h with h | ⟨_, h | h⟩
  · exact .inl h
  · cases h
  · exact .inr ((COutcome.ofExcept_eq_sig _ _).mp h)

end SV
