/-
  Props/C05Sound.lean — property C05 end to end, on the model: *what discovery reports can be
  honoured*.

  `discovery_sound_pos`  : for any list of call records (in particular: the visitor's records of a
      program), any number of forwarding calls — if retrieval returns R, then R is the plain
      signature, or every all-positional call R accepts is bound by the wrapper's own parameter
      list AND by every callee it forwards to (with the positionals written in the call followed
      by the surplus the wrapper collected in *args): `wrapperRuns`.
  `discovery_sound_single`: one forwarding call: the same for every non-colliding call, with
      keywords.
  `flat_program_sound_pos` / `program_sound_pos`: composed with `visitor_eq_truth(_flat)`: for every
      program of the forwarding grammar (the second: nested functions, lambdas and `nonlocal`
      included) the conclusion holds for the *ground-truth* calls of the program — i.e. the real
      forwarding that happens when the program runs — not for what the walker says.

  Restrictions (each is where a known finding or a weaker clause of the property lives):
  several forwarding calls + keywords needs role-consistency (finding D23); calls with a `hide_*`
  flag (a tainted star passed anyway) and `functools.partial` calls only get the narrowing
  statement of Props/C07.
-/
import Sigverif.Props.C05
import Sigverif.Props.C05Full
import Sigverif.Props.C07kw
import Sigverif.Props.C04
import Sigverif.Props.Laws
namespace SV

/-- a forwarding call whose soundness statement is `wrapperRuns`: resolved to a function, no
    `hide_*` flag, duplicate-free keywords none of which names a positional-only callee parameter -/
structure PlainFwd (resolve : RM → RVal) (c : CallRec) (w : USig) : Prop where
  res : resolve c.wrapped = .fn w
  hideA : c.hideA = false
  hideK : c.hideK = false
  nd : (c.kwargs.map (·.1)).Nodup
  po : ∀ p ∈ w.params, p.kind = .po → p.name ∉ c.kwargs.map (·.1)

theorem declared_plain (own : USig) (resolve : RM → RVal) (c : CallRec) (w s : USig) (h : PlainFwd resolve c w)
    (hd : declared own resolve c = .ok s) :
    forwards own w c.args.length (c.kwargs.map (·.1)) false false c.useVa c.useVk false = .ok s := by
  have hf := declared_fn h.res hd
  rw [h.hideA, h.hideK] at hf
  exact hf

theorem plain_call_runs {own w s : USig} {resolve : RM → RVal} {c : CallRec} {m : Nat} {K : List Nat}
    (ho : WF own.params) (hw : WF w.params) (hK : K.Nodup)
    (hp : PlainFwd resolve c w) (hd : declared own resolve c = .ok s)
    (hdisj : ∀ k ∈ K, k ∉ c.kwargs.map (·.1))
    (hnc : nonColl s.params [own.params, w.params] K) (hacc : accepts s.params m K = true) :
    wrapperRuns own.params w.params c.args.length (c.kwargs.map (·.1)) c.useVa c.useVk m K = true :=
  forwards_sound own w s _ m _ K _ _ ho hw hp.nd hK hp.po hdisj (declared_plain own resolve c w s hp hd) hnc hacc

theorem discovery_sound_of {own R : USig} {resolve : RM → RVal} {cs : List CallRec} {m : Nat} {K : List Nat}
    (ho : WF own.params) (hres : ∀ r w, resolve r = .fn w → WF w.params) (hK : K.Nodup)
    (hd : discovered own resolve (some cs) = .ok R)
    (hmerge : ∀ ss, declaredAll own resolve (forwarding cs) = .ok ss → merge ss = .ok R →
      ∀ s ∈ ss, accepts s.params m K = true)
    (hnc : ∀ c ∈ forwarding cs, ∀ w s, PlainFwd resolve c w → declared own resolve c = .ok s →
      nonColl s.params [own.params, w.params] K) :
    R = own ∨ ∀ c ∈ forwarding cs, ∀ w, PlainFwd resolve c w → (∀ k ∈ K, k ∉ c.kwargs.map (·.1)) →
      wrapperRuns own.params w.params c.args.length (c.kwargs.map (·.1)) c.useVa c.useVk m K = true := by
  rcases discovered_some_ok hd with h | ⟨s, ss, hall, hm⟩
  · exact .inl h
  · right
    intro c hc w hp hdisj
    obtain ⟨sc, hsc, hdc⟩ := declaredAll_all own resolve _ _ hall c hc
    exact plain_call_runs ho (hres _ _ hp.res) hK hp hdc hdisj (hnc c hc w sc hp hdc) (hmerge _ hall hm sc hsc)

/-- **discovery is sound, all-positional calls, any number of forwarding calls** -/
theorem discovery_sound_pos (own R : USig) (resolve : RM → RVal) (cs : List CallRec) (m : Nat)
    (ho : WF own.params) (hres : ∀ r w, resolve r = .fn w → WF w.params)
    (hd : discovered own resolve (some cs) = .ok R) (hacc : accepts R.params m [] = true) :
    R = own ∨ ∀ c ∈ forwarding cs, ∀ w, PlainFwd resolve c w →
      wrapperRuns own.params w.params c.args.length (c.kwargs.map (·.1)) c.useVa c.useVk m [] = true := by
  -- without keywords nothing can collide
  rcases discovery_sound_of ho hres List.nodup_nil hd
    (fun ss hall hm => merge_sound_pos ss R m (declaredAll_wf hres hall) hm hacc)
    (fun _ _ _ _ _ _ k hk => nomatch hk) with h | h
  · exact .inl h
  · exact .inr fun c hc w hp => h c hc w hp (fun k hk => nomatch hk)

/-- **discovery is sound, one forwarding call, every non-colliding call** -/
theorem discovery_sound_single (own R w : USig) (resolve : RM → RVal) (cs : List CallRec) (c : CallRec) (m : Nat) (K : List Nat)
    (ho : WF own.params) (hw : WF w.params) (hK : K.Nodup)
    (hone : forwarding cs = [c]) (hp : PlainFwd resolve c w)
    (hdisj : ∀ k ∈ K, k ∉ c.kwargs.map (·.1))
    (hd : discovered own resolve (some cs) = .ok R)
    (hnc : nonColl R.params [own.params, w.params] K)
    (hacc : accepts R.params m K = true) :
    R = own ∨ wrapperRuns own.params w.params c.args.length (c.kwargs.map (·.1)) c.useVa c.useVk m K = true := by
  rcases discovered_some_ok hd with h | ⟨s, ss, hall, hm⟩
  · exact .inl h
  · right
    rw [hone] at hall
    obtain ⟨s', ss', hdc, ht, he⟩ := declaredAll_cons_ok.1 hall
    cases ht
    cases he
    have hswf : WF s.params := forwards_result_wf own w s _ _ _ _ _ _ _ hw (declared_plain own resolve c w s hp hdc)
    rw [merge_single s hswf] at hm
    cases hm
    exact plain_call_runs ho hw hK hp hdc hdisj hnc hacc

theorem truth_mem_forwarding {p : Prog} {cs : List CallRec}
    (ht : (runVisitor (render p)).map forwarding = .ok ((truth p).map (FwdCall.toRec p)))
    (hv : runVisitor (render p) = .ok cs) : ∀ f ∈ truth p, f.toRec p ∈ forwarding cs := by
  rw [hv] at ht
  simp only [Except.map, Except.ok.injEq] at ht
  intro f hf
  rw [ht]
  exact List.mem_map.2 ⟨f, hf, rfl⟩

/-- for every flat program of the forwarding grammar: what retrieval makes of the walker's records
    is sound for the calls that really happen when the program runs (the generator's ground truth) -/
theorem flat_program_sound_pos (p : Prog) (hflat : FlatProg p) (own R : USig) (resolve : RM → RVal) (m : Nat)
    (ho : WF own.params) (hres : ∀ r w, resolve r = .fn w → WF w.params)
    (cs : List CallRec) (hv : runVisitor (render p) = .ok cs)
    (hd : discovered own resolve (some cs) = .ok R) (hacc : accepts R.params m [] = true) :
    R = own ∨ ∀ f ∈ truth p, ∀ w, PlainFwd resolve (f.toRec p) w →
      wrapperRuns own.params w.params (f.toRec p).args.length ((f.toRec p).kwargs.map (·.1)) f.useVa f.useVk m [] = true :=
  (discovery_sound_pos own R resolve cs m ho hres hd hacc).imp_right fun h f hf w hp =>
    h _ (truth_mem_forwarding (visitor_eq_truth_flat p hflat) hv f hf) w hp

/-- the same for every program of the whole grammar (nested functions, lambdas, `nonlocal`) -/
theorem program_sound_pos (p : Prog) (hp : GrammarProg p) (own R : USig) (resolve : RM → RVal) (m : Nat)
    (ho : WF own.params) (hres : ∀ r w, resolve r = .fn w → WF w.params)
    (cs : List CallRec) (hv : runVisitor (render p) = .ok cs)
    (hd : discovered own resolve (some cs) = .ok R) (hacc : accepts R.params m [] = true) :
    R = own ∨ ∀ f ∈ truth p, ∀ w, PlainFwd resolve (f.toRec p) w →
      wrapperRuns own.params w.params (f.toRec p).args.length ((f.toRec p).kwargs.map (·.1)) f.useVa f.useVk m [] = true :=
  (discovery_sound_pos own R resolve cs m ho hres hd hacc).imp_right fun h f hf w hpw =>
    h _ (truth_mem_forwarding (visitor_eq_truth p hp) hv f hf) w hpw

/-! ### `def w(a, *args, **kwargs): return g(*args, **kwargs)` with `def g(x, y=1)` (Props/C07kw): the call is a plain
    forwarding call in the sense of `PlainFwd`, and `forwarding` keeps its record -/
example : PlainFwd resolveK recK calleeK :=
  ⟨rfl, rfl, rfl, by simp [recK], by intro p _ _; simp [recK]⟩

example : forwarding [recK] = [recK] := by decide

end SV
