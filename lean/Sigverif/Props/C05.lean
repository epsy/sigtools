/-
  Props/C05.lean — properties C05 / C06: on the un-nested part of the forwarding grammar the AST
  walker reports exactly the ground truth.

  `visitor_eq_truth_flat`: for every program whose body consists of forwarding calls (in any
  statement context: expression, assignment, `if`/`try`/`with` blocks nested to any depth),
  taints of either star (rebinding, mutation through a method, deletion, handing the object to
  other code), decoy calls and unrelated assignments — any number of statements, any nesting of
  blocks — the forwarding records of `CallListerVisitor` are, in order, the ground-truth calls:
  same callee marker, same written positionals and keywords, and `use_varargs` / `use_varkwargs`
  set exactly when the star is still pristine when the call executes (`hide_*` exactly when it is
  passed but no longer pristine).  In particular a star is reported as forwarded ONLY when it is
  pristine (`taint_sound_flat`).

  Nested function definitions and lambdas (deferred calls) and `nonlocal` — where finding D19
  lives — are the subject of `visitor_eq_truth` (Props/C05Full); a flat program is a program of the
  whole grammar (`FlatProg.grammarProg`), and the theorems here are that special case.
-/
import Sigverif.Props.C05Full
namespace SV
open Flat

mutual
  theorem nestedS_flat : (s : Stmt) → flatS s = true → ∀ t, nestedS s t = []
    | .block body, h, t => by simp only [nestedS]; exact nestedSL_flat body (by simpa [flatS] using h) t
    | .nested _, h, _ => by simp [flatS] at h
    | .fwd _ _ _ _ _ _, _, _ | .rebind _, _, _ | .mutate _ _, _, _ | .delete _, _, _ | .handOver _ _, _, _
    | .decoy _ _, _, _ | .unrelated _, _, _ | .nonlocalRebind _, _, _ => rfl
  theorem nestedSL_flat : (l : StmtList) → flatSL l = true → ∀ t, nestedSL l t = []
    | .nil, _, _ => rfl
    | .cons s rest, h, t => by
      simp only [flatSL, Bool.and_eq_true] at h
      simp only [nestedSL, nestedS_flat s h.1 t, nestedSL_flat rest h.2 t, List.append_nil]
end

/-- the static hypotheses of the theorem, all decidable from the program text -/
structure FlatProg (p : Prog) : Prop where
  flat : flatSL p.body = true
  ok : okSL [p.va, p.vk] p.body = true
  clean : Clean p (rootsSL p.body) (assignedSL p.body)

theorem allSL_flat : (l : StmtList) → flatSL l = true →
    assignedAllSL l = assignedSL l ∧ rootsAllSL l = rootsSL l
  | .nil, _ => ⟨rfl, rfl⟩
  | .cons s rest, h => by
    simp only [flatSL, Bool.and_eq_true] at h
    obtain ⟨ih1, ih2⟩ := allSL_flat rest h.2
    cases s with
    | block body =>
      obtain ⟨b1, b2⟩ := allSL_flat body (by simpa [flatS] using h.1)
      simp only [assignedAllSL, assignedAllS, assignedSL, assignedS, rootsAllSL, rootsAllS, rootsSL, rootsS,
        ih1, ih2, b1, b2, and_self]
    | nested _ => simp [flatS] at h
    | nonlocalRebind _ => simp [flatS] at h
    | _ => simp only [assignedAllSL, assignedAllS, assignedSL, rootsAllSL, rootsAllS, rootsSL, ih1, ih2, and_self]

theorem FlatProg.grammarProg {p : Prog} (h : FlatProg p) : GrammarProg p := by
  obtain ⟨e1, e2⟩ := allSL_flat p.body h.flat
  exact ⟨h.ok, by rw [e1, e2]; exact h.clean⟩

/-- **visitor = ground truth** on flat programs of the forwarding grammar -/
theorem visitor_eq_truth_flat (p : Prog) (h : FlatProg p) :
    (runVisitor (render p)).map forwarding = .ok ((truth p).map (FwdCall.toRec p)) :=
  visitor_eq_truth p h.grammarProg

/-- in particular: a star is reported as forwarded only when the ground truth says it is
    pristine at that call -/
theorem taint_sound_flat (p : Prog) (h : FlatProg p) (cs : List CallRec) (hr : runVisitor (render p) = .ok cs) :
    ∀ c ∈ forwarding cs, ∃ f ∈ truth p, c = f.toRec p ∧ c.useVa = f.useVa ∧ c.useVk = f.useVk :=
  taint_sound p h.grammarProg cs hr

/-! ### non-vacuity: a program satisfying `FlatProg`, and what the theorem says about it

```
def wrapper(a, *args, **kwargs):
    g(*args, **kwargs)                      # both stars pristine
    kwargs = 0                              # taints **kwargs
    r = ns.g(1, *args, x=0, **kwargs)       # *args still pristine, **kwargs hidden
    if c:
        args.count()                        # taints *args
        g(*args, **kwargs)                  # forwards nothing pristine: ignored
``` -/
def exProg : Prog :=
  { params := [1], va := 11, vk := 12,
    body := .cons (.fwd (.name 21 .load) 0 [] true true none)
           (.cons (.rebind .K)
           (.cons (.fwd (.attr (.name 22 .load) 3) 1 [5] true true (some 31))
           (.cons (.block (.cons (.mutate .A 7) (.cons (.fwd (.name 21 .load) 0 [] true true none) .nil)))
            .nil))) }

example : FlatProg exProg :=
  ⟨by decide, by decide, ⟨by decide, by decide, by decide, by decide, by decide, by decide⟩⟩

example : (truth exProg).map (fun f => (f.useVa, f.useVk, f.hideA, f.hideK)) =
    [(true, true, false, false), (true, false, false, true)] := by decide

end SV
