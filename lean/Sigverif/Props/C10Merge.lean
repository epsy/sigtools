/-
  Props/C10Merge.lean — property C10 on the RESULT of `merge`, tied to the inputs
  (Props/C10.lean has the rules of one conciliation; here they are attached to what `merge` returns).

  Property text (C10): "A parameter of a combined signature is optional only if every input
  parameter it stands for is optional; its default is their common default value, or None when they
  differ; its annotation is the one all annotated contributors agree on, otherwise none.  A
  parameter's kind only ever changes to the more restrictive form required (positional-or-keyword
  to positional-only or keyword-only), positional parameters keep the relative order they have in
  each input, …"

  The metadata theorems are for two inputs; star parameters are excluded — their names need not match.
-/
import Sigverif.Props.C10
import Sigverif.Lemmas.C10MMeta
import Sigverif.Lemmas.C10MOrder
import Sigverif.Lemmas.C10MPair
import Sigverif.Lemmas.Eval
namespace SV

set_option linter.unusedVariables false in
/-- (1) ANY number of inputs, no hypothesis on roles: every parameter of the result comes from an
    input parameter of the same name whose kind it only restricts.
    (`hwf` is not used by the proof; it is there because the property speaks of valid signatures.) -/
theorem merge_kind_only_restricts (ss : List USig) (R : USig) (hwf : ∀ s ∈ ss, WF s.params)
    (hR : merge ss = .ok R) :
    ∀ p ∈ R.params, ∃ s ∈ ss, ∃ q ∈ s.params, q.name = p.name ∧ restricts q.kind p.kind := by
  exact merge_fromInput ss R hR

/-- (2) any number of role-consistent inputs: EVERY input parameter with the name of a result
    parameter is only restricted -/
theorem merge_kind_restricts_all (ss : List USig) (R : USig) (hwf : ∀ s ∈ ss, WF s.params)
    (hrc : roleCons (ss.map (·.params))) (hR : merge ss = .ok R) :
    ∀ p ∈ R.params, ∀ s ∈ ss, ∀ q ∈ s.params, q.name = p.name → restricts q.kind p.kind := by
  intro p hp s hs q hq hn
  obtain ⟨s0, hs0, q0, hq0, hn0, hr⟩ := merge_fromInput ss R hR p hp
  -- `q0` and `q` bear the same name in two role-consistent inputs, so they have the kind of its role
  obtain ⟨ρ, hρ, -⟩ := exists_roles_RI ss (fun s hs => (hwf s hs).validate) hrc
  exact roles_kind (hρ _ (List.mem_map.2 ⟨s0, hs0, rfl⟩)) (hρ _ (List.mem_map.2 ⟨s, hs, rfl⟩)) hq0 hq
    (hn0.trans hn.symm) ▸ hr

/-- (2) for two inputs -/
theorem merge_kind_restricts_all_pair (a b R : USig) (ha : WF a.params) (hb : WF b.params)
    (hrc : roleCons [a.params, b.params]) (hR : merge [a, b] = .ok R) :
    ∀ p ∈ R.params, ∀ s ∈ [a, b], ∀ q ∈ s.params, q.name = p.name → restricts q.kind p.kind := by
  exact merge_kind_restricts_all [a, b] R (by simpa using ⟨ha, hb⟩) hrc hR

/-- (3) any number of role-consistent inputs: positional parameters keep the relative order they
    have in each input — the positional names of the result that are positional names of the input
    `s` form, in the order of the result, a subsequence of the positional names of `s` -/
theorem merge_pos_order (ss : List USig) (R : USig) (hwf : ∀ s ∈ ss, WF s.params)
    (hrc : roleCons (ss.map (·.params))) (hR : merge ss = .ok R) :
    ∀ s ∈ ss,
      ((names (positionals R.params)).filter (fun x => x ∈ names (positionals s.params))).Sublist
        (names (positionals s.params)) := by
  have hv : ∀ s ∈ ss, validate s.params = .ok () := fun s hs => (hwf s hs).validate
  -- role-consistent inputs have a common assignment `ρ` of positional indices to names; the positional
  -- chain of every input and of every accumulator of the fold is indexed by it (`RI`)
  obtain ⟨ρ, hρ, hri⟩ := exists_roles_RI ss hv hrc
  obtain ⟨s0, ss', res, rfl, hf, ha⟩ := merge_inv hR
  obtain ⟨hres, _⟩ := mergeFold_accB ss' _ res (hri s0 List.mem_cons_self)
    (fun t ht => hri t (List.mem_cons_of_mem _ ht)) hf
  intro s hs
  have hm : s.params ∈ (s0 :: ss').map (·.params) := List.mem_map.2 ⟨s, hs, rfl⟩
  rw [(applyParams_fields ha).1, positionals_all hres.bk]
  exact x10_idxOK_sublist ρ 0 _ _ hres.idx (hρ s.params hm).2

/-- (3) for two inputs -/
theorem merge_pos_order_pair (a b R : USig) (ha : WF a.params) (hb : WF b.params)
    (hrc : roleCons [a.params, b.params]) (hR : merge [a, b] = .ok R) :
    ∀ s ∈ [a, b],
      ((names (positionals R.params)).filter (fun x => x ∈ names (positionals s.params))).Sublist
        (names (positionals s.params)) := by
  exact merge_pos_order [a, b] R (by simpa using ⟨ha, hb⟩) hrc hR

/-- (3) is FALSE without role-consistency: merge((a, b, /), (b, a)) = (a, b, /), and `a, b` is not
    a subsequence of `b, a` -/
theorem merge_pos_order_refuted_without_roles :
    ∃ a b R : USig, WF a.params ∧ WF b.params ∧ merge [a, b] = .ok R ∧
      ¬ ∀ s ∈ [a, b],
        ((names (positionals R.params)).filter (fun x => x ∈ names (positionals s.params))).Sublist
          (names (positionals s.params)) := by
  have h : ∃ R, merge [{ params := [{ name := 1, kind := .po }, { name := 2, kind := .po }] },
                       { params := [{ name := 2, kind := .pk }, { name := 1, kind := .pk }] }] = .ok R ∧
      R.params = [{ name := 1, kind := .po }, { name := 2, kind := .po }] := by
    simp only [merge, mergeFold, mergeStep_eq]; exact exists_ok_and (by decide +kernel)
  obtain ⟨R, hR, hp⟩ := h
  refine ⟨_, _, R, by decide +kernel, by decide +kernel, hR, ?_⟩
  intro hall
  have := hall _ (List.mem_cons_of_mem _ List.mem_cons_self)
  rw [hp] at this
  revert this
  decide +kernel

/-- the metadata rule of C10 for a parameter `p` of the combination of `a` and `b`, BY NAME:
    `p` is conciled (`concile`, see Props/C10.lean: optional iff both are, common default or None,
    agreed annotation or none) from the two parameters of its name when both inputs have one, and
    carries the metadata of the only one otherwise -/
def metaRule (a b : List Param) (p : Param) : Prop :=
  match a.find? (fun q => q.name = p.name), b.find? (fun q => q.name = p.name) with
  | some qa, some qb =>
      p.dflt = (concile qa qb).dflt ∧ p.ann = (concile qa qb).ann ∧ p.uann = (concile qa qb).uann
  | some qa, none => p.dflt = qa.dflt ∧ p.ann = qa.ann ∧ p.uann = qa.uann
  | none, some qb => p.dflt = qb.dflt ∧ p.ann = qb.ann ∧ p.uann = qb.uann
  | none, none => False

/-- (4) as first stated — for role-consistent inputs — is FALSE: merge((a=1, /), (b=2)) = (a=None, /).
    `a` and `b` share no name (so the inputs are role-consistent) but sit at the same positional
    index, and `_merge` conciles them; the result `a` has the default None although the only
    input parameter called `a` has the default 1.
    ORIGINAL STATEMENT:
    theorem merge_meta_pair (a b R : USig) (ha : WF a.params) (hb : WF b.params)
        (hrc : roleCons [a.params, b.params]) (hR : merge [a, b] = .ok R) :
        ∀ p ∈ R.params, p.kind ≠ .vp → p.kind ≠ .vk → metaRule a.params b.params p -/
theorem merge_meta_pair_refuted :
    ∃ a b R : USig, WF a.params ∧ WF b.params ∧ roleCons [a.params, b.params] ∧ merge [a, b] = .ok R ∧
      ¬ ∀ p ∈ R.params, p.kind ≠ .vp → p.kind ≠ .vk → metaRule a.params b.params p := by
  have h : ∃ R, merge [{ params := [{ name := 1, kind := .po, dflt := some 1 }] },
                       { params := [{ name := 2, kind := .pk, dflt := some 2 }] }] = .ok R ∧
      R.params = [{ name := 1, kind := .po, dflt := some 0 }] := by
    simp only [merge, mergeFold, mergeStep_eq]; exact exists_ok_and (by decide +kernel)
  obtain ⟨R, hR, hp⟩ := h
  refine ⟨_, _, R, by decide +kernel, by decide +kernel, by decide +kernel, hR, ?_⟩
  intro hall
  have := hall { name := 1, kind := .po, dflt := some 0 } (by rw [hp]; decide +kernel) (by decide +kernel) (by decide +kernel)
  simp [metaRule] at this

/-- (4) two NAME-ALIGNED inputs: the metadata rules, stated on the result of `merge`, by name.
    ADDED HYPOTHESIS `hal : aligned [a.params, b.params]` instead of `roleCons [a.params, b.params]`
    (`aligned` = role-consistent + the positional parameters have the same names position by
    position): see `merge_meta_pair_refuted`.  Star parameters are excluded. -/
theorem merge_meta_pair_partial (a b R : USig) (ha : WF a.params) (hb : WF b.params)
    (hal : aligned [a.params, b.params]) (hR : merge [a, b] = .ok R) :
    ∀ p ∈ R.params, p.kind ≠ .vp → p.kind ≠ .vk → metaRule a.params b.params p := by
  intro p hp k1 k2
  -- name-aligned inputs have no differently named positional parameters at the same index
  have noMix : ∀ {i : Nat} {qa qb : Param}, (positionals a.params)[i]? = some qa →
      (positionals b.params)[i]? = some qb → qa.name = qb.name := by
    intro i qa qb h1 h2
    obtain ⟨i1, _⟩ := List.getElem?_eq_some_iff.1 h1
    obtain ⟨i2, _⟩ := List.getElem?_eq_some_iff.1 h2
    have := hal.2 a.params (by simp) b.params (by simp) i i1 i2
    rw [List.getElem?_map, List.getElem?_map, h1, h2] at this
    exact Option.some.inj this
  unfold metaRule
  cases x10_merge_pair_orig2 a b R ha hb hal.1 hR p hp k1 k2 with
  | shared fa fb hm =>
    rw [fa, fb]
    exact hm
  | onlyA fa fb hm =>
    rw [fa, fb]
    exact hm
  | onlyB fa fb hm =>
    rw [fa, fb]
    exact hm
  | mixA fa fb ha' hb' hm =>
    -- `qb` would bear the name of `p`, and the lookup in `b` found nothing of that name
    exact absurd ((noMix ha' hb').symm.trans (x10_find_name fa).2)
      (x10_ne_of_find_none fb (mem_positionals.1 (List.mem_of_getElem? hb')).1)
  | mixB fa fb ha' hb' hm =>
    exact absurd ((noMix ha' hb').trans (x10_find_name fb).2)
      (x10_ne_of_find_none fa (mem_positionals.1 (List.mem_of_getElem? ha')).1)

/-- (4) what remains true for merely role-consistent inputs, I: a result parameter whose name occurs
    in BOTH inputs is conciled from exactly these two parameters -/
theorem merge_meta_pair_shared (a b R : USig) (ha : WF a.params) (hb : WF b.params)
    (hrc : roleCons [a.params, b.params]) (hR : merge [a, b] = .ok R) :
    ∀ p ∈ R.params, p.kind ≠ .vp → p.kind ≠ .vk → ∀ qa qb,
      a.params.find? (fun q => q.name = p.name) = some qa →
      b.params.find? (fun q => q.name = p.name) = some qb →
      p.dflt = (concile qa qb).dflt ∧ p.ann = (concile qa qb).ann ∧ p.uann = (concile qa qb).uann := by
  intro p hp k1 k2 qa qb fa fb
  cases x10_merge_pair_orig2 a b R ha hb hrc hR p hp k1 k2 with
  | shared fa' fb' hm =>
    cases fa.symm.trans fa'
    cases fb.symm.trans fb'
    exact hm
  | onlyA fa' fb' hm => cases fb.symm.trans fb'
  | onlyB fa' fb' hm => cases fa.symm.trans fa'
  | mixA fa' fb' _ _ hm => cases fb.symm.trans fb'
  | mixB fa' fb' _ _ hm => cases fa.symm.trans fa'

/-- (4) what remains true for merely role-consistent inputs, II (the first sentence of C10): a result
    parameter is optional only if every input parameter of that name is optional -/
theorem merge_optional_only_if_pair (a b R : USig) (ha : WF a.params) (hb : WF b.params)
    (hrc : roleCons [a.params, b.params]) (hR : merge [a, b] = .ok R) :
    ∀ p ∈ R.params, p.kind ≠ .vp → p.kind ≠ .vk → p.dflt.isSome = true →
      ∀ s ∈ [a, b], ∀ q ∈ s.params, q.name = p.name → q.dflt.isSome = true := by
  intro p hp k1 k2 hd
  have key : ∀ x y : Param, sameMeta p (concile x y) → x.dflt.isSome = true ∧ y.dflt.isSome = true := by
    intro x y hm
    have := concile_optional x y
    rw [← hm.1, hd] at this
    simpa using this.symm
  -- it is enough to look at the parameter of that name each input has, if any
  suffices h : (∀ q, a.params.find? (fun q => q.name = p.name) = some q → q.dflt.isSome = true) ∧
      (∀ q, b.params.find? (fun q => q.name = p.name) = some q → q.dflt.isSome = true) by
    intro s hs q hq hqn
    simp only [List.mem_cons, List.mem_nil_iff, or_false] at hs
    rcases hs with rfl | rfl
    · exact h.1 q (x10_find_of_mem (WF_inv _ ha).2.1 hq hqn.symm)
    · exact h.2 q (x10_find_of_mem (WF_inv _ hb).2.1 hq hqn.symm)
  -- in every class the two lookups are known
  have found : ∀ {ps : List Param} {q0 : Param}, ps.find? (fun q => q.name = p.name) = some q0 →
      q0.dflt.isSome = true →
      ∀ q, ps.find? (fun q => q.name = p.name) = some q → q.dflt.isSome = true :=
    fun f0 h q f => Option.some.inj (f0.symm.trans f) ▸ h
  have missing : ∀ {ps : List Param}, ps.find? (fun q => q.name = p.name) = none →
      ∀ q, ps.find? (fun q => q.name = p.name) = some q → q.dflt.isSome = true :=
    fun f0 q f => nomatch f0.symm.trans f
  cases x10_merge_pair_orig2 a b R ha hb hrc hR p hp k1 k2 with
  | shared fa fb hm => exact ⟨found fa (key _ _ hm).1, found fb (key _ _ hm).2⟩
  | onlyA fa fb hm => exact ⟨found fa (hm.1 ▸ hd), missing fb⟩
  | onlyB fa fb hm => exact ⟨missing fa, found fb (hm.1 ▸ hd)⟩
  | mixA fa fb _ _ hm => exact ⟨found fa (key _ _ hm).1, missing fb⟩
  | mixB fa fb _ _ hm => exact ⟨missing fa, found fb (key _ _ hm).1⟩

/-- (x: 3, y=1) -/
def c10A : USig := { params := [{ name := 1, kind := .pk, ann := some 3, uann := .pre 3 },
                                { name := 2, kind := .pk, dflt := some 1 }] }
/-- (x: 4, **kw) -/
def c10B : USig := { params := [{ name := 1, kind := .pk, ann := some 4, uann := .pre 4 },
                                { name := 9, kind := .vk }] }
/-- (x=5, y=1) -/
def c10C : USig := { params := [{ name := 1, kind := .pk, dflt := some 5 },
                                { name := 2, kind := .pk, dflt := some 1 }] }
/-- (x=6, *args) -/
def c10D : USig := { params := [{ name := 1, kind := .pk, dflt := some 6 },
                                { name := 8, kind := .vp }] }

/-- merge((x: 3, y=1), (x: 4, **kw)) = (x, *, y=1): `y` goes from positional-or-keyword to
    keyword-only, the differing annotations of `x` give none -/
theorem c10AB : ∃ R, merge [c10A, c10B] = .ok R ∧
    R.params = [{ name := 1, kind := .pk }, { name := 2, kind := .ko, dflt := some 1 }] := by
  simp only [merge, mergeFold, mergeStep_eq]; exact exists_ok_and (by decide +kernel)

/-- merge((x=5, y=1), (x=6, *args)) = (x=None, y=1, /): `x`, `y` go from positional-or-keyword to
    positional-only, the differing defaults of `x` give None (token 0) -/
theorem c10CD : ∃ R, merge [c10C, c10D] = .ok R ∧
    R.params = [{ name := 1, kind := .po, dflt := some 0 }, { name := 2, kind := .po, dflt := some 1 }] := by
  simp only [merge, mergeFold, mergeStep_eq]; exact exists_ok_and (by decide +kernel)

-- the hypotheses of every theorem above are met by both pairs …
example : WF c10A.params ∧ WF c10B.params ∧ WF c10C.params ∧ WF c10D.params := by decide +kernel
theorem c10AB_aligned : aligned [c10A.params, c10B.params] := by decide +kernel
theorem c10CD_aligned : aligned [c10C.params, c10D.params] := by decide +kernel
example : aligned [c10A.params, c10B.params] := c10AB_aligned
example : aligned [c10C.params, c10D.params] := c10CD_aligned
example : roleCons ([c10A, c10B].map (·.params)) := c10AB_aligned.1
example : roleCons ([c10C, c10D].map (·.params)) := c10CD_aligned.1

-- three inputs for the n-ary theorems: merge(C, D, C) = (x=None, y=1, /)
example : roleCons ([c10C, c10D, c10C].map (·.params)) := by decide +kernel
example : ∃ R, merge [c10C, c10D, c10C] = .ok R ∧
    R.params = [{ name := 1, kind := .po, dflt := some 0 }, { name := 2, kind := .po, dflt := some 1 }] := by
  simp only [merge, mergeFold, mergeStep_eq]; exact exists_ok_and (by decide +kernel)

-- … and the conclusions say something: pk → ko (A, B), pk → po (C, D), and `restricts` forbids
-- e.g. keyword-only → positional-or-keyword
example : restricts .pk .ko ∧ restricts .pk .po ∧ restricts .ko .ko ∧ ¬ restricts .ko .pk ∧
    ¬ restricts .po .pk ∧ ¬ restricts .pk .vp := by decide +kernel
example : ∃ R, merge [c10A, c10B] = .ok R ∧ ∃ p ∈ R.params, ∃ q ∈ c10A.params,
    q.name = p.name ∧ q.kind = .pk ∧ p.kind = .ko := by
  obtain ⟨R, hR, hp⟩ := c10AB
  exact ⟨R, hR, by rw [hp]; decide +kernel⟩
example : ∃ R, merge [c10C, c10D] = .ok R ∧ ∃ p ∈ R.params, ∃ q ∈ c10C.params,
    q.name = p.name ∧ q.kind = .pk ∧ p.kind = .po := by
  obtain ⟨R, hR, hp⟩ := c10CD
  exact ⟨R, hR, by rw [hp]; decide +kernel⟩
-- order: the result of (C, D) has the positional names x, y — those of C in C's order
example : ∃ R, merge [c10C, c10D] = .ok R ∧ names (positionals R.params) = [1, 2] ∧
    names (positionals c10C.params) = [1, 2] ∧ names (positionals c10D.params) = [1] := by
  obtain ⟨R, hR, hp⟩ := c10CD
  exact ⟨R, hR, by rw [hp]; decide +kernel⟩
-- metadata: differing annotations → none (A, B); differing defaults → None (C, D); `y` occurs in
-- one input only and keeps its default; all instances of `metaRule` are of the non-trivial kinds
example : ∃ R, merge [c10A, c10B] = .ok R ∧
    (∃ p ∈ R.params, p.name = 1 ∧ p.ann = none ∧ p.uann = .empty ∧
      c10A.params.find? (fun q => q.name = p.name) =
        some { name := 1, kind := .pk, ann := some 3, uann := .pre 3 } ∧
      c10B.params.find? (fun q => q.name = p.name) =
        some { name := 1, kind := .pk, ann := some 4, uann := .pre 4 }) ∧
    (∃ p ∈ R.params, p.name = 2 ∧ p.dflt = some 1 ∧
      c10B.params.find? (fun q => q.name = p.name) = none) := by
  obtain ⟨R, hR, hp⟩ := c10AB
  exact ⟨R, hR, by rw [hp]; decide +kernel⟩
example : ∃ R, merge [c10C, c10D] = .ok R ∧
    ∃ p ∈ R.params, p.name = 1 ∧ p.dflt = some 0 ∧ p.kind ≠ .vp ∧ p.kind ≠ .vk ∧
      c10C.params.find? (fun q => q.name = p.name) = some { name := 1, kind := .pk, dflt := some 5 } ∧
      c10D.params.find? (fun q => q.name = p.name) = some { name := 1, kind := .pk, dflt := some 6 } := by
  obtain ⟨R, hR, hp⟩ := c10CD
  exact ⟨R, hR, by rw [hp]; decide +kernel⟩
-- `merge_optional_only_if_pair`: the optional `y` of the result of (C, D)
example : ∃ R, merge [c10C, c10D] = .ok R ∧ ∃ p ∈ R.params, p.dflt.isSome = true ∧
    ∃ q ∈ c10C.params, q.name = p.name := by
  obtain ⟨R, hR, hp⟩ := c10CD
  exact ⟨R, hR, by rw [hp]; decide +kernel⟩

end SV
