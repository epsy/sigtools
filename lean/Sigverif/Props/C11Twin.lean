/-
  Props/C11Twin.lean — the algebra commutes with any map on parameter METADATA:
  twin invariance (C11, second sentence) and plain-input invariance (C15, last sentence).
  ONLY property theorems + non-vacuity examples; the general statements are `merge_rel`, `embed_rel`,
  `maskCore_rel`, `forwards_rel` (Lemmas/ParamRel*.lean) and their instances `*_graph` (Lemmas/ParamGraph.lean).

  C11: "Computing on functions compiled with `from __future__ import annotations` and then calling
        evaluated() gives the same result as computing on eagerly annotated twins."
  C15: "Passing plain inspect.Signature objects yields the same parameters as passing upgraded ones."

  The control flow of merge / embed / mask / forwards only looks at names, kinds and defaults of
  parameters; annotations are touched only inside `_concile_meta` (`concile`).  Hence for any map
  `f : Param → Param` that keeps name, kind and default (`MetaMap f`) and commutes with `concile` on
  the parameters that can occur, every operation commutes with mapping `f` over the parameters of the
  inputs — results AND errors, provenance (`src`, `depths`) included, any number of inputs.
  `mask` never conciliates: it commutes with every metadata map unconditionally.

  Vocabulary (defined in Lemmas/C11TBasic.lean, C11TTwin.lean because the lemma files need it; spelt
  out below by `rfl` examples):
    MetaMap f        f keeps name / kind / default and commutes with replace(kind=…) / replace(default=…)
    FreshFix f       f fixes the fresh keyword-only parameter `name=value` that partial mode creates
    twinSig env s    the eagerly compiled twin of s: `twin env` (Props/C11.lean) on every parameter and
                     the same on the return annotation
    eraseSig s       the plain `inspect.Signature` under s: every upgraded annotation (parameters and
                     return) is `EmptyAnnotation`; names, kinds, defaults, raw annotations are kept

  The signature-level return annotation is copied verbatim from the first (merge / embed / mask) or
  outer (forwards) input: `*_ret_commute`.  The twin / plain corollaries map both components.

  Twin invariance is REFUTED at full strength for merge / embed / forwards (finding D10: conciliation
  compares spellings; `*_twin_invariant_refuted`) and PROVED under faithful spellings
  (`*_twin_invariant_partial`); for mask it holds unconditionally.  Plain-input invariance holds
  unconditionally for all four operations.
-/
import Sigverif.Lemmas.C11TEval
import Sigverif.Props.C11
namespace SV

/-! ## the vocabulary, spelt out -/

example (f : Param → Param) : MetaMap f ↔
    ((∀ p, (f p).name = p.name) ∧ (∀ p, (f p).kind = p.kind) ∧ (∀ p, (f p).dflt = p.dflt) ∧
     (∀ p k, f (p.withKind k) = (f p).withKind k) ∧ (∀ p d, f (p.withDflt d) = (f p).withDflt d)) :=
  ⟨fun h => ⟨h.name, h.kind, h.dflt, h.withKind, h.withDflt⟩, fun ⟨a, b, c, d, e⟩ => ⟨a, b, c, d, e⟩⟩
example (f : Param → Param) (s : USig) : mapSig f s = { s with params := s.params.map f } := rfl
example (g : RetMap) (s : USig) :
    mapRet g s = { s with ret := (g (s.ret, s.uret)).1, uret := (g (s.ret, s.uret)).2 } := rfl
example (f : Param → Param) (P : Param → Prop) :
    ConcComm f P ↔ ∀ a b, P a → P b → f (concile a b) = concile (f a) (f b) := Iff.rfl
example (f : Param → Param) :
    FreshFix f ↔ ∀ n v, f { name := n, kind := .ko, dflt := some v } = { name := n, kind := .ko, dflt := some v } :=
  Iff.rfl
example (p : Param) : erase p = { p with uann := .empty } := rfl
example (s : USig) : eraseSig s = { s with params := s.params.map erase, uret := .empty } := rfl
example (env : Nat → Nat → Nat) (s : USig) :
    (twinSig env s).params = s.params.map (twin env) ∧
    (twinSig env s).ret = sourceValue env s.uret ∧
    sourceValue env (twinSig env s).uret = sourceValue env s.uret ∧
    (twinSig env s).src = s.src ∧ (twinSig env s).depths = s.depths := by
  refine ⟨rfl, ?_, ?_, rfl, rfl⟩ <;>
    (simp only [twinSig, mapRet, mapSig, twinRet]; cases sourceValue env s.uret <;> rfl)
example (env : Nat → Nat → Nat) (ps : List Param) :
    FaithfulSet env ps ↔ ∀ l ∈ ps, ∀ r ∈ ps, Faithful env l r := Iff.rfl

/-! ## GENERIC: every operation commutes with a metadata map -/

/-- **merge**, any number of inputs, results and errors: if `P` is an invariant of the algebra
    (`ClosedP P`), holds of all input parameters, and `f` commutes with `concile` on `P`-parameters,
    then merging the `f`-mapped inputs gives the `f`-mapped result (same provenance, same error). -/
theorem merge_map_commute (f : Param → Param) (hf : MetaMap f) (P : Param → Prop) (hc : ClosedP P)
    (hcomm : ∀ a b, P a → P b → f (concile a b) = concile (f a) (f b))
    (ss : List USig) (hin : ∀ s ∈ ss, AllP P s.params) :
    merge (ss.map (mapSig f)) = (merge ss).map (mapSig f) :=
  (merge_graph hf hc hcomm id ss hin).2

/-- **embed**, any number of inputs, both flags -/
theorem embed_map_commute (f : Param → Param) (hf : MetaMap f) (P : Param → Prop) (hc : ClosedP P)
    (hcomm : ∀ a b, P a → P b → f (concile a b) = concile (f a) (f b))
    (uva uvk : Bool) (ss : List USig) (hin : ∀ s ∈ ss, AllP P s.params) :
    embed uva uvk (ss.map (mapSig f)) = (embed uva uvk ss).map (mapSig f) :=
  (embed_graph hf hc hcomm id uva uvk ss hin).2

/-- **mask** (plain mode) never conciliates: it commutes with EVERY metadata map, for every input
    signature (valid or not), every count, every list of names, all flags.  (`_mask` finds a parameter
    by `list.index`, i.e. by equality of parameters, which `f` need not reflect; but the parameter
    looked for is always the first of its name among those not consumed, and `f` keeps names.) -/
theorem mask_map_commute (f : Param → Param) (hf : MetaMap f)
    (sig : USig) (n : Nat) (nms : List Nat) (flags : HideFlags) :
    mask (mapSig f sig) n nms flags = (mask sig n nms flags).map (mapSig f) :=
  (mask_graph hf true_closed id sig n nms flags (allTrue _)).2

/-- **mask in partial mode** (`signatures.signature(functools.partial(...))`): a keyword that only
    `**kwargs` accepts becomes a fresh keyword-only parameter without annotation, which `f` must fix. -/
theorem maskPartial_map_commute (f : Param → Param) (hf : MetaMap f) (hfresh : FreshFix f)
    (sig : USig) (n : Nat) (kw : List (Nat × Nat)) (pobj : Nat) :
    maskPartial (mapSig f sig) n kw pobj = (maskPartial sig n kw pobj).map (mapSig f) :=
  (maskPartial_graph hf true_closed (fun _ _ => trivial) hfresh id sig n kw pobj (allTrue _)).2

/-- **forwards**, all flags (including `partial=True`, which re-validates the inner signature) -/
theorem forwards_map_commute (f : Param → Param) (hf : MetaMap f) (P : Param → Prop) (hc : ClosedP P)
    (hcomm : ∀ a b, P a → P b → f (concile a b) = concile (f a) (f b))
    (outer inner : USig) (n : Nat) (nms : List Nat) (hideArgs hideKwargs uva uvk partial_ : Bool)
    (ho : AllP P outer.params) (hi : AllP P inner.params) :
    forwards (mapSig f outer) (mapSig f inner) n nms hideArgs hideKwargs uva uvk partial_ =
      (forwards outer inner n nms hideArgs hideKwargs uva uvk partial_).map (mapSig f) :=
  (forwards_graph hf hc hcomm id id outer inner n nms hideArgs hideKwargs uva uvk partial_ ho hi).2

/-! ### the signature-level return annotation is carried over verbatim -/

theorem merge_ret_commute (g : RetMap) (ss : List USig) :
    merge (ss.map (mapRet g)) = (merge ss).map (mapRet g) := by
  have h := (merge_graph id_metaMap true_closed id_concComm g ss fun _ _ => allTrue _).2
  rwa [mapSig_id] at h

theorem embed_ret_commute (g : RetMap) (uva uvk : Bool) (ss : List USig) :
    embed uva uvk (ss.map (mapRet g)) = (embed uva uvk ss).map (mapRet g) := by
  have h := (embed_graph id_metaMap true_closed id_concComm g uva uvk ss fun _ _ => allTrue _).2
  rwa [mapSig_id] at h

theorem mask_ret_commute (g : RetMap) (sig : USig) (n : Nat) (nms : List Nat) (flags : HideFlags) :
    mask (mapRet g sig) n nms flags = (mask sig n nms flags).map (mapRet g) := by
  have h := (mask_graph id_metaMap true_closed g sig n nms flags (allTrue _)).2
  rwa [mapSig_id] at h

theorem maskPartial_ret_commute (g : RetMap) (sig : USig) (n : Nat) (kw : List (Nat × Nat)) (pobj : Nat) :
    maskPartial (mapRet g sig) n kw pobj = (maskPartial sig n kw pobj).map (mapRet g) := by
  have h := (maskPartial_graph id_metaMap true_closed (fun _ _ => trivial) (fun _ _ => rfl) g sig n kw pobj
    (allTrue _)).2
  rwa [mapSig_id] at h

/-- the result of `forwards` has the return annotation of the OUTER signature; the inner one is
    dropped (so it may be changed arbitrarily: `g'`) -/
theorem forwards_ret_commute (g g' : RetMap) (outer inner : USig) (n : Nat) (nms : List Nat)
    (hideArgs hideKwargs uva uvk partial_ : Bool) :
    forwards (mapRet g outer) (mapRet g' inner) n nms hideArgs hideKwargs uva uvk partial_ =
      (forwards outer inner n nms hideArgs hideKwargs uva uvk partial_).map (mapRet g) := by
  have h := (forwards_graph id_metaMap true_closed id_concComm g g' outer inner n nms hideArgs hideKwargs
    uva uvk partial_ (allTrue _) (allTrue _)).2
  rwa [mapSig_id] at h

/-! ## C11: twin invariance -/

/-- `twin env` is a metadata map that fixes fresh parameters -/
theorem twin_is_metaMap (env : Nat → Nat → Nat) : MetaMap (twin env) ∧ FreshFix (twin env) :=
  ⟨twin_metaMap env, twin_fresh env⟩

/-- one conciliation commutes with eager compilation under `Faithful` — as an equality of
    PARAMETERS (strengthens `concile_twin_partial` below, which compares `evaluated`) -/
theorem concile_twin_param (env : Nat → Nat → Nat) (l r : Param) (hf : Faithful env l r) :
    twin env (concile l r) = concile (twin env l) (twin env r) :=
  twin_concile env l r hf

/-- one conciliation commutes with eager compilation when spellings are faithful -/
theorem concile_twin_partial (env : Nat → Nat → Nat) (l r : Param) (hf : Faithful env l r) :
    evaluated env (concile l r) = evaluated env (concile (twin env l) (twin env r)) := by
  unfold evaluated
  rw [← twin_value env (concile l r), twin_concile env l r hf]

/-- REFUTATION of twin invariance at full strength (finding D10), stated on whole signatures:
    ORIGINAL STATEMENT
      theorem merge_twin_invariant (env) (ss) : merge (ss.map (twinSig env)) = (merge ss).map (twinSig env)
    fails on `def f(x: T)` in module 1 and `def g(x: T)` in module 2 where `T` is bound to different
    objects (41 / 42): the postponed merge keeps the left annotation, the eager twins drop it. -/
theorem merge_twin_invariant_refuted :
    merge ([d10L, d10R].map (twinSig d10env)) ≠ (merge [d10L, d10R]).map (twinSig d10env) := by
  -- `evaluated()` tells the two sides apart: `twin_invariance_refuted`
  intro h
  have h2 : (merge ([d10L, d10R].map (twinSig d10env))).toOption.map
      (fun R => R.params.map (evaluated d10env)) = some [none] := twin_invariance_refuted.2
  rw [h, evaluated_map_twinSig, twin_invariance_refuted.1] at h2
  cases h2

/-- **merge, twin invariance under faithful spellings**, any number of inputs.
    ADDED HYPOTHESIS `hfaith`: the parameters of the inputs are pairwise `Faithful` w.r.t. `env`
    (they are spelled alike exactly when they denote the same object, and annotated exactly when their
    wrapper is non-empty).  Computing on the eagerly compiled twins then gives the twin of the
    result — equal parameters (not only equal `evaluated()`), equal provenance, equal return
    annotation, and the same error when the inputs are incompatible.
    ORIGINAL STATEMENT: see `merge_twin_invariant_refuted`. -/
theorem merge_twin_invariant_partial (env : Nat → Nat → Nat) (ss : List USig)
    (hfaith : ∀ l ∈ allParams ss, ∀ r ∈ allParams ss, Faithful env l r) :
    merge (ss.map (twinSig env)) = (merge ss).map (twinSig env) :=
  (merge_graph (twin_metaMap env) (annFrom_closed _) (twin_concComm env _ hfaith) (twinRet env) ss
    (annFrom_allParams ss)).2

/-- … in the words of the property: "calling evaluated() gives the same result" -/
theorem merge_twin_evaluated_partial (env : Nat → Nat → Nat) (ss : List USig)
    (hfaith : ∀ l ∈ allParams ss, ∀ r ∈ allParams ss, Faithful env l r) :
    (merge (ss.map (twinSig env))).map (fun R => R.params.map (evaluated env)) =
      (merge ss).map (fun R => R.params.map (evaluated env)) := by
  rw [merge_twin_invariant_partial env ss hfaith]
  cases merge ss with
  | error e => rfl
  | ok R => exact congrArg Except.ok (evaluated_twinSig env R)

/-- REFUTATION for embed: `def outer(*args: T)` (module 1) forwarding to `def inner(*args: T)`
    (module 2), `T` bound to different objects -/
theorem embed_twin_invariant_refuted :
    embed true true ([d10O, d10I].map (twinSig d10env)) ≠ (embed true true [d10O, d10I]).map (twinSig d10env) := by
  refine fun h => absurd (congrArg Except.toOption h) ?_
  simp only [List.map_cons, List.map_nil, embed, embedFold, embedStep_evalEq]; decide +kernel

/-- **embed, twin invariance under faithful spellings** (ADDED HYPOTHESIS `hfaith`, as for merge) -/
theorem embed_twin_invariant_partial (env : Nat → Nat → Nat) (uva uvk : Bool) (ss : List USig)
    (hfaith : ∀ l ∈ allParams ss, ∀ r ∈ allParams ss, Faithful env l r) :
    embed uva uvk (ss.map (twinSig env)) = (embed uva uvk ss).map (twinSig env) :=
  (embed_graph (twin_metaMap env) (annFrom_closed _) (twin_concComm env _ hfaith) (twinRet env) uva uvk ss
    (annFrom_allParams ss)).2

/-- **mask, twin invariance**: unconditional (full strength) -/
theorem mask_twin_invariant (env : Nat → Nat → Nat) (sig : USig) (n : Nat) (nms : List Nat) (flags : HideFlags) :
    mask (twinSig env sig) n nms flags = (mask sig n nms flags).map (twinSig env) :=
  (mask_graph (twin_metaMap env) true_closed (twinRet env) sig n nms flags (allTrue _)).2

/-- **`functools.partial`, twin invariance**: unconditional (full strength) -/
theorem maskPartial_twin_invariant (env : Nat → Nat → Nat) (sig : USig) (n : Nat) (kw : List (Nat × Nat))
    (pobj : Nat) :
    maskPartial (twinSig env sig) n kw pobj = (maskPartial sig n kw pobj).map (twinSig env) :=
  (maskPartial_graph (twin_metaMap env) true_closed (fun _ _ => trivial) (twin_fresh env) (twinRet env) sig n kw pobj
    (allTrue _)).2

/-- REFUTATION for forwards (same pair as for embed) -/
theorem forwards_twin_invariant_refuted :
    forwards (twinSig d10env d10O) (twinSig d10env d10I) 0 [] false false true true false ≠
      (forwards d10O d10I 0 [] false false true true false).map (twinSig d10env) := by
  rw [forwards_of_mask _ _ _ _ d10_mask,
    forwards_of_mask _ _ _ _ (by rw [mask_twin_invariant, d10_mask]; rfl)]
  exact embed_twin_invariant_refuted

/-- **forwards, twin invariance under faithful spellings**, all flags.
    ADDED HYPOTHESIS `hfaith`: the parameters of outer and inner are pairwise `Faithful`. -/
theorem forwards_twin_invariant_partial (env : Nat → Nat → Nat) (outer inner : USig) (n : Nat) (nms : List Nat)
    (hideArgs hideKwargs uva uvk partial_ : Bool)
    (hfaith : ∀ l ∈ outer.params ++ inner.params, ∀ r ∈ outer.params ++ inner.params, Faithful env l r) :
    forwards (twinSig env outer) (twinSig env inner) n nms hideArgs hideKwargs uva uvk partial_ =
      (forwards outer inner n nms hideArgs hideKwargs uva uvk partial_).map (twinSig env) :=
  (forwards_graph (twin_metaMap env) (annFrom_closed _) (twin_concComm env _ hfaith) _ _ outer inner n nms
    hideArgs hideKwargs uva uvk partial_
    (annFrom_sub fun _ => List.mem_append_left _) (annFrom_sub fun _ => List.mem_append_right _)).2

/-! ## C15: plain inputs yield the same parameters as upgraded ones -/

/-- `erase` is a metadata map that commutes with `concile` on ALL parameters -/
theorem erase_is_metaMap : MetaMap erase ∧ FreshFix erase ∧ ∀ a b, erase (concile a b) = concile (erase a) (erase b) :=
  ⟨erase_metaMap, erase_fresh, fun a b => erase_concComm a b trivial trivial⟩

/-- **merge on plain signatures**: erasing the upgraded annotations of the inputs erases them in the
    result and changes nothing else (names, kinds, defaults, raw annotations, provenance, errors) —
    unconditional, any number of inputs -/
theorem merge_erase_commute (ss : List USig) :
    merge (ss.map eraseSig) = (merge ss).map eraseSig :=
  (merge_graph erase_metaMap true_closed erase_concComm eraseRet ss fun _ _ => allTrue _).2

theorem embed_erase_commute (uva uvk : Bool) (ss : List USig) :
    embed uva uvk (ss.map eraseSig) = (embed uva uvk ss).map eraseSig :=
  (embed_graph erase_metaMap true_closed erase_concComm eraseRet uva uvk ss fun _ _ => allTrue _).2

theorem mask_erase_commute (sig : USig) (n : Nat) (nms : List Nat) (flags : HideFlags) :
    mask (eraseSig sig) n nms flags = (mask sig n nms flags).map eraseSig :=
  (mask_graph erase_metaMap true_closed eraseRet sig n nms flags (allTrue _)).2

theorem maskPartial_erase_commute (sig : USig) (n : Nat) (kw : List (Nat × Nat)) (pobj : Nat) :
    maskPartial (eraseSig sig) n kw pobj = (maskPartial sig n kw pobj).map eraseSig :=
  (maskPartial_graph erase_metaMap true_closed (fun _ _ => trivial) erase_fresh eraseRet sig n kw pobj (allTrue _)).2

theorem forwards_erase_commute (outer inner : USig) (n : Nat) (nms : List Nat)
    (hideArgs hideKwargs uva uvk partial_ : Bool) :
    forwards (eraseSig outer) (eraseSig inner) n nms hideArgs hideKwargs uva uvk partial_ =
      (forwards outer inner n nms hideArgs hideKwargs uva uvk partial_).map eraseSig :=
  (forwards_graph erase_metaMap true_closed erase_concComm _ _ outer inner n nms
    hideArgs hideKwargs uva uvk partial_ (allTrue _) (allTrue _)).2

/-- in the words of the property: the plain inputs yield the same parameters up to the upgraded
    annotation — same names, kinds, defaults and raw annotations, in the same order -/
theorem merge_plain_same_parameters (ss : List USig) (R : USig) (h : merge ss = .ok R) :
    ∃ R', merge (ss.map eraseSig) = .ok R' ∧
      R'.params.map (fun p => (p.name, p.kind, p.dflt, p.ann)) =
        R.params.map (fun p => (p.name, p.kind, p.dflt, p.ann)) ∧
      R'.src = R.src ∧ R'.depths = R.depths ∧ R'.ret = R.ret := by
  refine ⟨eraseSig R, by rw [merge_erase_commute, h]; rfl, ?_, rfl, rfl, rfl⟩
  show (R.params.map erase).map _ = _
  rw [List.map_map]; rfl

/-- two signatures from different modules (`def f(x: T, z: S)` in module 1, `def g(x: T, z: R)` in
    module 2, `T` the same object in both): the hypothesis of `merge_twin_invariant_partial` holds … -/
example : ∀ l ∈ allParams [nvA, nvB], ∀ r ∈ allParams [nvA, nvB], Faithful nvEnv l r := nv_faithful

/-- … the merge succeeds and `x` keeps its (postponed, module 1) annotation while the differently
    spelled annotation of `z` is dropped … -/
example : merge [nvA, nvB] =
    .ok { params := [⟨1, .pk, none, some 7, .post 7 1⟩, ⟨2, .pk, none, none, .empty⟩],
          src := [(1, []), (2, [])] } := nv_merge

/-- … so the merge of the eager twins is the twin of that: `x` annotated with the object 40 -/
example : merge ([nvA, nvB].map (twinSig nvEnv)) =
    .ok { params := [⟨1, .pk, none, some 40, .pre 40⟩, ⟨2, .pk, none, none, .empty⟩],
          src := [(1, []), (2, [])] } := by
  rw [merge_twin_invariant_partial nvEnv [nvA, nvB] nv_faithful, nv_merge]
  rfl

/-- the D10 pair does NOT meet the hypothesis -/
example : ¬ (∀ l ∈ allParams [d10L, d10R], ∀ r ∈ allParams [d10L, d10R], Faithful d10env l r) :=
  d10_not_faithful

/-- the generic theorem has instances: `erase` with the trivial invariant -/
example : merge ([nvA, nvB].map (mapSig erase)) = (merge [nvA, nvB]).map (mapSig erase) :=
  merge_map_commute erase erase_metaMap (fun _ => True) true_closed (fun a b _ _ => erase_concComm a b trivial trivial)
    [nvA, nvB] (fun _ _ => allTrue _)

/-- plain inputs, concretely -/
example : merge ([nvA, nvB].map eraseSig) =
    .ok { params := [⟨1, .pk, none, some 7, .empty⟩, ⟨2, .pk, none, none, .empty⟩],
          src := [(1, []), (2, [])] } := by
  rw [merge_erase_commute, nv_merge]
  rfl

/-- mask / forwards: a successful run on the twin side -/
example : mask (twinSig nvEnv nvA) 1 [] {} = .ok { params := [⟨2, .pk, none, some 50, .pre 50⟩] } := by
  rw [mask_twin_invariant]
  exact eq_ok_of (by decide +kernel)

/-- `functools.partial` with a keyword only `**kw` accepts: the fresh parameter is its own twin -/
example : maskPartial (twinSig nvEnv nvK) 0 [(5, 99)] 77 =
    .ok { params := [⟨1, .pk, none, some 40, .pre 40⟩, ⟨5, .ko, some 99, none, .empty⟩,
                     ⟨3, .vk, none, some 50, .pre 50⟩],
          src := [(5, [77])], depths := [(77, 0)] } := by
  rw [maskPartial_twin_invariant, nv_partial]
  rfl

/-- forwards: `def outer(*args: T)` (module 1) forwarding to `def inner(z: S, *args: T)` (module 2)
    meets the hypothesis of `forwards_twin_invariant_partial`; the two `*args: T` are conciled, the
    annotation survives, and the twins give the twin -/
example : (∀ l ∈ d10O.params ++ nvI.params, ∀ r ∈ d10O.params ++ nvI.params, Faithful nvEnv l r) ∧
    forwards d10O nvI 0 [] false false true true false =
      .ok { params := [⟨2, .po, none, some 8, .post 8 2⟩, ⟨1, .vp, none, some 7, .post 7 2⟩],
            src := [(2, []), (1, [])] } ∧
    forwards (twinSig nvEnv d10O) (twinSig nvEnv nvI) 0 [] false false true true false =
      .ok { params := [⟨2, .po, none, some 50, .pre 50⟩, ⟨1, .vp, none, some 40, .pre 40⟩],
            src := [(2, []), (1, [])] } := by
  refine ⟨nv_fwd_faithful, nv_forwards, ?_⟩
  rw [forwards_twin_invariant_partial nvEnv d10O nvI 0 [] false false true true false nv_fwd_faithful,
    nv_forwards]
  rfl

end SV
