/-
  Props/C13Attr.lean — C13, `wrappers.wrappers(obj)` lists the wrapping functions outermost first,
  once each — also when ordinary `functools.wraps` decorators sit between the levels.
-/
import Sigverif.Model.WrappersAttr
namespace SV

/-- the tuple an object carries was made at or below it, so its identity is smaller than the number
    of levels from the object down -/
theorem buildW_head_id_lt (ls : List WLevel) (id : Nat)
    (h : ((buildW ls).head?.getD none).map (·.1) = some id) : id < ls.length := by
  induction ls with
  | nil => cases h
  | cons l rest ih =>
    cases l with
    | sig w =>
      cases h
      exact Nat.lt_succ_self _
    | wraps => exact Nat.lt_succ_of_lt (ih h)

/-- an object that carries the very tuple of the object it wraps is invisible to the walk -/
theorem wrappersNew_copy (l : List WAttr) : wrappersNew (l.head?.getD none :: l) = wrappersNew l := by
  rcases l with _ | ⟨_ | ⟨id, w⟩, l⟩ <;> simp [wrappersNew]

/-- **`wrappers()` lists exactly the wrapping functions, outermost first, once each** -/
theorem wrappers_exact (ls : List WLevel) : wrappersNew (buildW ls) = ls.filterMap sigOf := by
  induction ls with
  | nil => simp [buildW, wrappersNew]
  | cons l rest ih =>
    cases l with
    | sig w =>
      simp only [buildW, wrappersNew, List.filterMap_cons, sigOf]
      have hne : ((buildW rest).head?.getD none).map (·.1) ≠ some rest.length :=
        fun h => Nat.lt_irrefl _ (buildW_head_id_lt rest _ h)
      simp [hne, ih]
    | wraps =>
      simp only [buildW, List.filterMap_cons, sigOf, wrappersNew_copy]
      exact ih

/-- finding D43, on the code before it: `d1 / functools.wraps / d2` is listed as `[d1, d2, d2]` -/
theorem wrappers_old_refuted :
    wrappersOld (buildW [.sig 1, .wraps, .sig 2]) = [1, 2, 2] ∧
    wrappersNew (buildW [.sig 1, .wraps, .sig 2]) = [1, 2] := by decide

end SV
