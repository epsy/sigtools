/-
  Props/C05Def.lean — properties C05 / C06: `visitor_eq_truth` for programs whose nested function
  definitions are NAMED, which is how Python writes them (`def sub(): …`) and how the real visitor
  sees them since repair D85 (`visit_FunctionDef` first treats the name as stored).

  The ground truth of a `def` statement is that of its two halves — `sub = <function object>`,
  then the anonymous function whose calls are judged later — (`dsProg`); so

  * `visitor_eq_truth_named`: on the tree with named definitions (`renderNamed sub p`, the tree
    the correspondence check compares with `ast.parse` of the program text on every run) the
    walker's forwarding records are exactly the ground-truth calls of `dsProg sub p`;
  * `truth_named_fresh`: when `sub` is not the name of a star parameter the `def` statements
    change nothing: the ground truth is that of `p`;
  * when `sub` IS the name of a star parameter (`def kwargs(): …` — the defect D85 on the code
    before the repair) the definition is a rebinding of that star, and the example at the end
    shows the call after it judged accordingly.

  `GrammarProg (dsProg sub p)` asks of `sub` what `GrammarProg` asks of every assignment target
  (not a parameter, not a callee root, not a helper) unless it is a star name.
-/
import Sigverif.Props.C05Full
import Sigverif.Lemmas.C05Def
namespace SV

/-- **visitor = ground truth, nested definitions named** -/
theorem visitor_eq_truth_named (sub : Nat) (p : Prog) (h : GrammarProg (dsProg sub p)) :
    (runVisitor (renderNamed sub p)).map forwarding =
      .ok ((truth (dsProg sub p)).map (FwdCall.toRec p)) := by
  rw [runVisitor_renderNamed]
  exact visitor_eq_truth (dsProg sub p) h

theorem truthS_nameStmt_fresh (sub va vk : Nat) (h1 : sub ≠ va) (h2 : sub ≠ vk) (t : Bool × Bool) :
    truthS (nameStmt sub va vk) t = ([], t) := by
  obtain ⟨tA, tK⟩ := t
  simp [nameStmt, h1, h2, truthS, taintsNow]

theorem truthSL_ds (sub va vk : Nat) (h1 : sub ≠ va) (h2 : sub ≠ vk) :
    ∀ (l : StmtList) (t : Bool × Bool), truthSL (dsSL sub va vk l) t = truthSL l t
  | .nil, t => by simp [dsSL]
  | .cons s rest, t => by
    have ih := truthSL_ds sub va vk h1 h2 rest
    cases s with
    | nested body => simp only [dsSL, truthSL, truthS_nameStmt_fresh sub va vk h1 h2, List.nil_append, ih]
    | nonlocalRebind s => simp only [dsSL, truthSL, truthS_nameStmt_fresh sub va vk h1 h2, List.nil_append, ih]
    | block body => simp only [dsSL, truthSL, truthS, truthSL_ds sub va vk h1 h2 body, ih]
    | _ => simp only [dsSL, truthSL, ih]

theorem nestedS_nameStmt (sub va vk : Nat) (t : Bool × Bool) : nestedS (nameStmt sub va vk) t = [] := by
  unfold nameStmt; split
  · simp [nestedS]
  · split <;> simp [nestedS]

theorem nestedSL_ds (sub va vk : Nat) :
    ∀ (l : StmtList) (t : Bool × Bool), nestedSL (dsSL sub va vk l) t = nestedSL l t
  | .nil, t => by simp [dsSL]
  | .cons s rest, t => by
    have ih := nestedSL_ds sub va vk rest
    cases s with
    | nested body => simp only [dsSL, nestedSL, nestedS_nameStmt, List.nil_append, ih]
    | nonlocalRebind s => simp only [dsSL, nestedSL, nestedS_nameStmt, List.nil_append, ih]
    | block body => simp only [dsSL, nestedSL, nestedS, nestedSL_ds sub va vk body, ih]
    | _ => simp only [dsSL, nestedSL, ih]

/-- a `def` whose name is not a star parameter changes nothing in the ground truth -/
theorem truth_named_fresh (sub : Nat) (p : Prog) (h1 : sub ≠ p.va) (h2 : sub ≠ p.vk) :
    truth (dsProg sub p) = truth p := by
  simp only [truth, dsProg]
  rw [truthSL_ds sub p.va p.vk h1 h2, nestedSL_ds]

/-- the two composed: with a fresh name for the nested definitions the walker reports the ground
    truth of the program itself -/
theorem visitor_eq_truth_named_fresh (sub : Nat) (p : Prog) (h : GrammarProg (dsProg sub p))
    (h1 : sub ≠ p.va) (h2 : sub ≠ p.vk) :
    (runVisitor (renderNamed sub p)).map forwarding = .ok ((truth p).map (FwdCall.toRec p)) := by
  rw [visitor_eq_truth_named sub p h, truth_named_fresh sub p h1 h2]

/-- a nested definition called like `**kwargs` taints `**kwargs` from that statement on … -/
theorem truthS_nameStmt_vk (va vk : Nat) (h : vk ≠ va) (tA tK : Bool) :
    truthS (nameStmt vk va vk) (tA, tK) = ([], (tA, true)) := by
  simp [nameStmt, h, truthS, taintsNow]

/-- … and one called like `*args` taints `*args` -/
theorem truthS_nameStmt_va (va vk : Nat) (tA tK : Bool) :
    truthS (nameStmt va va vk) (tA, tK) = ([], (true, tK)) := by
  simp [nameStmt, truthS, taintsNow]

/-- hence a forwarding call that follows `def kwargs(): …` does not forward `**kwargs`: whatever the
    rest of the body, the first ground-truth call of `def kwargs(): body` ; `callee(*args, **kwargs)`
    uses `*args` only and hides `**kwargs` (the defect D85 was exactly the walker not seeing this) -/
theorem call_after_def_named_kwargs (va vk : Nat) (h : vk ≠ va) (callee : Tree) (nb : NStmtList) (rest : StmtList) :
    (truthSL (dsSL vk va vk (.cons (.nested nb) (.cons (.fwd callee 0 [] true true none) rest))) (false, false)).1.head? =
      some { callee := callee, npos := 0, kws := [], useVa := true, useVk := false, hideA := false, hideK := true } := by
  simp [dsSL, truthSL, truthS_nameStmt_vk va vk h, truthS, taintsNow, mkFwd]

/-! ### the hypothesis on examples

`exProgN` of `Props/C05Full` with its nested definitions called `sub` (= 50) satisfies `GrammarProg`; so does
`exProgD`, the program below, with its nested definition called `kwargs` (= 12), and its one ground-truth record
changes with the renaming as `call_after_def_named_kwargs` says.

```
def wrapper(a, *args, **kwargs):          # D85: the nested definition is called like **kwargs
    def kwargs(): h(0)
    g(*args, **kwargs)                    # *args pristine, **kwargs is now a function
``` -/
example : GrammarProg (dsProg 50 exProgN) :=
  ⟨by decide, ⟨by decide, by decide, by decide, by decide, by decide, by decide⟩⟩

def exProgD : Prog :=
  { params := [1], va := 11, vk := 12,
    body := .cons (.nested (.cons (.decoy 41 1) .nil))
           (.cons (.fwd (.name 21 .load) 0 [] true true none) .nil) }

example : GrammarProg (dsProg 12 exProgD) :=
  ⟨by decide, ⟨by decide, by decide, by decide, by decide, by decide, by decide⟩⟩

example : (truth (dsProg 12 exProgD)).map (fun f => (f.useVa, f.useVk, f.hideA, f.hideK)) =
    [(true, false, false, true)] := by decide

example : (truth exProgD).map (fun f => (f.useVa, f.useVk, f.hideA, f.hideK)) =
    [(true, true, false, false)] := by decide

end SV
