/-
  Props/C08.lean — property C08 (parameter provenance is complete, truthful, depth-ordered).

  `ProvWF u`  : exactly one entry per parameter (`keys`), no entry empty (`ne`), every listed
                callable has a depth (`dep`);  `ProvWF1` adds that no key is listed twice.
  Truthfulness is stated without a declaration table: every callable listed for a name in a
  result is listed *for that same name* by one of the inputs — so if the inputs' maps only name
  callables that declare the parameter, so does the result's (`*_truthful`).  Both are readings of
  one statement per operation (`merge_prov`, `embed_prov`, `mask_prov`, `forwards_prov`): whatever
  holds of every credit of every input holds of every credit of the result.

  Proved for all inputs: `merge` of any number of signatures, `embed` of two (what `forwards`
  is built from), default sources, the depth rules (`merge_depths` keeps the minimum, `embed`
  adds one per level).
  REFUTED on the code as it stands:
    * duplicate-freedom of the lists (finding D15): `merge_nodup_refuted`
-/
import Sigverif.Lemmas.C08EmbedFold
import Sigverif.Lemmas.C02Embed
namespace SV

/-- a provenance map only names callables that declare a parameter of that name -/
def Truthful (decl : Nat → List Nat) (src : Srcs) : Prop := ∀ k f, f ∈ sget src k → k ∈ decl f

/-- `e` succeeded with a result satisfying the (decidable) predicate `p` -/
def okAnd (e : Except Err USig) (p : USig → Bool) : Bool :=
  match e with
  | .ok R => p R
  | .error _ => false

theorem sget_defaultSources (ps : List Param) (f k : Nat) (acc : Srcs) :
    sget (ps.foldl (fun acc p => dset acc p.name [f]) acc) k = if k ∈ names ps then [f] else sget acc k := by
  induction ps generalizing acc with
  | nil => simp [names]
  | cons p t ih =>
    simp only [List.foldl_cons]
    rw [ih, sget_dset]
    simp only [names, List.map_cons, List.mem_cons]
    by_cases h1 : k = p.name <;> by_cases h2 : k ∈ List.map (fun x => x.name) t <;> simp [h1, h2]

/-- `default_sources(sig, f)`: one entry `[f]` per parameter, `f` at depth 0 -/
theorem default_provWF (ps : List Param) (f : Nat) :
    ProvWF1 { params := ps, src := (defaultSources ps f).1, depths := (defaultSources ps f).2 } ∧
      ∀ k, k ∈ names ps → sget (defaultSources ps f).1 k = [f] := by
  have hk : ∀ k, dhas (defaultSources ps f).1 k = true ↔ k ∈ names ps := by
    intro k
    simp only [defaultSources]
    rw [dhas_foldl_dset (fun p : Param => p.name) (fun _ _ => [f])]
    simp [dhas, dget, names]
  have hv : ∀ k, k ∈ names ps → sget (defaultSources ps f).1 k = [f] := by
    intro k hkn
    simp only [defaultSources]
    rw [sget_defaultSources, if_pos hkn]
  refine ⟨⟨⟨hk, ?_, ?_⟩, KeysND.nil.foldl_dset (fun p : Param => p.name) (fun _ _ => [f]) ps⟩, hv⟩
  · intro k hkn; rw [hv k hkn]; simp
  · intro k g hg
    have hd := dhas_of_mem_sget _ _ _ hg
    rw [hv k ((hk k).1 hd)] at hg
    simp only [List.mem_singleton] at hg
    subst hg
    simp [defaultSources, dhas, dget]

/-- **merge keeps provenance well-formed** (one entry per parameter, none empty, every
    callable has a depth) and only lists, for a name, callables that an input lists for it -/
theorem merge_wfsrc (ss : List USig) (R : USig) (hss : ∀ s ∈ ss, WF s.params ∧ ProvWF s)
    (h : merge ss = .ok R) :
    ProvWF R ∧ ∀ k f, f ∈ sget R.src k → ∃ s ∈ ss, f ∈ sget s.src k :=
  merge_prov (P := fun k f => ∃ s ∈ ss, f ∈ sget s.src k)
    (fun s hs => ⟨(hss s hs).1, (hss s hs).2, fun _ _ hf => ⟨s, hs, hf⟩⟩) h

theorem merge_truthful (decl : Nat → List Nat) (ss : List USig) (R : USig)
    (hss : ∀ s ∈ ss, WF s.params ∧ ProvWF s) (ht : ∀ s ∈ ss, Truthful decl s.src)
    (h : merge ss = .ok R) : Truthful decl R.src :=
  (merge_prov (P := fun k f => k ∈ decl f) (fun s hs => ⟨(hss s hs).1, (hss s hs).2, ht s hs⟩) h).2

/-- no parameter name is listed twice in the map of a merge result -/
theorem merge_keys_nodup (ss : List USig) (R : USig) (hn : 2 ≤ ss.length) (h : merge ss = .ok R) :
    KeysND R.src := by
  obtain ⟨s, ss', r, rfl, hfold, h⟩ := merge_inv h
  rw [(applyParams_fields h).2.1]
  match ss', hn with
  | t :: rest, _ =>
    -- the accumulator after at least one step is a `mergeStep` result
    obtain ⟨acc', hstep, hfold⟩ := mergeFold_cons_ok hfold
    exact mergeFold_nd acc' r rest (mergeStep_nd _ _ _ hstep) hfold

/-- depths of a merge: every input callable keeps the smallest depth it has in any input -/
theorem mergeDepths_min (l r : Depths) (f : Nat) :
    dget (mergeDepths l r) f =
      r.foldl (fun acc e => if e.1 = f then minDepth acc (some e.2) else acc) (dget l f) :=
  dget_mergeDepths l r f

-- The two-signature statements share one list of hypotheses: provenance does not use `hid`; the
-- depths use nothing else.
section
set_option linter.unusedVariables false

theorem embed_wfsrc (o i R : USig) (uva uvk : Bool)
    (ho : WF o.params) (hi : WF i.params) (po : ProvWF1 o) (pi : ProvWF i) (hid : KeysND i.depths)
    (h : embed uva uvk [o, i] = .ok R) :
    ProvWF1 R ∧ (∀ k f, f ∈ sget R.src k → f ∈ sget o.src k ∨ f ∈ sget i.src k) :=
  embed_prov (P := fun k f => f ∈ sget o.src k ∨ f ∈ sget i.src k) ho po (fun _ _ => .inl)
    (List.forall_mem_singleton.2 ⟨hi, pi, fun _ _ => .inr⟩) h

theorem embed_truthful (decl : Nat → List Nat) (o i R : USig) (uva uvk : Bool)
    (ho : WF o.params) (hi : WF i.params) (po : ProvWF1 o) (pi : ProvWF i) (hid : KeysND i.depths)
    (to : Truthful decl o.src) (ti : Truthful decl i.src)
    (h : embed uva uvk [o, i] = .ok R) : Truthful decl R.src :=
  (embed_prov ho po to (List.forall_mem_singleton.2 ⟨hi, pi, ti⟩) h).2

/-- **depths strictly increase along forwarding**: in `embed(outer, inner)` every callable of
    the inner signature sits one level below where it sits in `inner`, the outer ones keep
    their depth, and a callable reached both ways keeps the smaller one -/
theorem embed_depths (o i R : USig) (uva uvk : Bool)
    (ho : WF o.params) (hi : WF i.params) (po : ProvWF1 o) (pi : ProvWF i) (hid : KeysND i.depths)
    (h : embed uva uvk [o, i] = .ok R) (f : Nat) :
    dget R.depths f = minDepth (dget o.depths f) ((dget i.depths f).map (· + 1)) := by
  rw [(embed_depths_of (List.forall_mem_singleton.2 hid) h).1 f, embed_nary_two]

/-- the outermost callable stays at depth 0 -/
theorem embed_outer_depth0 (o i R : USig) (uva uvk : Bool)
    (ho : WF o.params) (hi : WF i.params) (po : ProvWF1 o) (pi : ProvWF i) (hid : KeysND i.depths)
    (h : embed uva uvk [o, i] = .ok R) (f : Nat) (h0 : dget o.depths f = some 0) :
    dget R.depths f = some 0 := by
  rw [embed_depths o i R uva uvk ho hi po pi hid h f, h0]
  cases dget i.depths f <;> simp [minDepth]

end

/-! ### non-vacuity: concrete signatures satisfying the hypotheses -/

private def pA : Param := { name := 1, kind := .pk }
private def pB : Param := { name := 2, kind := .pk }
private def pVA : Param := { name := 11, kind := .vp }
private def pVK : Param := { name := 12, kind := .vk }
private def sigO : USig :=
  { params := [pA, pVA, pVK], src := (defaultSources [pA, pVA, pVK] 100).1, depths := [(100, 0)] }
private def sigI : USig :=
  { params := [pB, pVA, pVK], src := (defaultSources [pB, pVA, pVK] 101).1, depths := [(101, 0)] }

example : WF sigO.params ∧ WF sigI.params := by decide +kernel
example : okAnd (embed true true [sigO, sigI]) (fun R => R.params = [pA, pB, pVA, pVK] ∧
    sget R.src 11 = [101] ∧ R.depths = [(100, 0), (101, 1)]) = true := by
  simp only [embed, embedFold, embedStep_evalEq]; decide +kernel
example : okAnd (merge [sigO, sigI]) (fun R => sget R.src 11 = [100, 101]) = true := by
  simp only [merge, mergeFold, mergeStep_eq]; decide +kernel

/-! ### refutations on the code as it stands -/

/-- finding D15: `merge(s, s)` lists the same callable twice -/
theorem merge_nodup_refuted :
    ∃ R, merge [sigO, sigO] = .ok R ∧ sget R.src 1 = [100, 100] := by
  simp only [merge, mergeFold, mergeStep_eq]; exact exists_ok_and (by decide +kernel)

private def sigF : USig :=    -- def f(args, *a, **k)
  { params := [{ name := 11, kind := .pk }, { name := 21, kind := .vp }, { name := 22, kind := .vk }],
    src := [(11, [100]), (21, [100]), (22, [100])], depths := [(100, 0)] }
private def sigG : USig :=    -- def g(*args, **k2)
  { params := [{ name := 11, kind := .vp }, { name := 23, kind := .vk }],
    src := [(11, [101]), (23, [101])], depths := [(101, 0)] }
private def sigH : USig :=    -- def h(x)
  { params := [{ name := 3, kind := .pk }], src := [(3, [102])], depths := [(102, 0)] }

/-- D29 (repaired by a `fix:` commit): `embed(f, g, h)` with `f(args, *a, **k)`, `g(*args, **k2)`,
    `h(x)` used to return `(args, x)` whose map had no entry for `args` — the intermediate result
    held a named and a star parameter both called `args`, the map is keyed by name, and dropping the
    forwarded star dropped the named parameter's entry.  `_embed` now rejects the intermediate
    result, exactly as `embed(embed(f, g), h)` always did. -/
theorem embed3_homonym_rejected : embed true true [sigF, sigG, sigH] = .error .incompatible := by
  simp only [embed, embedFold, embedStep_evalEq]; exact eq_error_of (by decide +kernel)

end SV
