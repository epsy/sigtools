/-
  Props/C02Defs.lean — the notions in which property C02 (embed) is stated.
-/
import Sigverif.Props.Defs
namespace SV

/-- calling outer, which forwards the surplus it collects in its star parameters to inner -/
def composite (o i : List Param) (uva uvk : Bool) (n : Nat) (K : List Nat) : Bool :=
  accepts o n K &&
  accepts i (if uva then n - (positionals o).length else 0)
            (if uvk then K.filter (fun k => !(kwNames o).contains k) else [])

/-- "outer has defaulted positional parameters that end up followed by inner positional parameters" -/
def defaultedOuterBeforeInner (o i R : List Param) : Prop :=
  (∃ p ∈ positionals o, p.dflt.isSome) ∧
  (∃ p ∈ positionals R, p.name ∈ names (i.filter isNamed) ∧ p.name ∉ names (o.filter isNamed))

/-- both declare a same-named parameter — other than a star parameter of the same kind in both,
    which is the forwarding itself.  (Until `fix:` D29 a star parameter of one side named like a
    named parameter of the other only surfaced as the constructor's plain ValueError, or — three
    signatures deep — as a result whose provenance lacked an entry.) -/
def sharedNamed (o i : List Param) : Prop :=
  ∃ p ∈ o, ∃ q ∈ i, p.name = q.name ∧ ¬ (p.kind = q.kind ∧ (p.kind = .vp ∨ p.kind = .vk))

end SV
