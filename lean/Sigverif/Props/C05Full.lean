/-
  Props/C05Full.lean — properties C05 / C06: **the AST walker reports exactly the ground truth on
  the whole forwarding grammar** — nested function definitions and lambdas (whose calls are
  analysed after the whole body, against the final state of the stars) and `nonlocal` rebinding
  included.

  `visitor_eq_truth`: for every program of the grammar — forwarding calls in any statement context
  (expression, assignment, `if`/`try`/`with` blocks to any depth), taints of either star (rebinding,
  mutation through a method, deletion, handing the object to other code, `nonlocal` rebinding from
  a nested function), decoy calls, unrelated assignments, nested functions/lambdas containing
  forwarding calls, decoys, assignments and blocks; any number of statements — the forwarding
  records of `CallListerVisitor` are, in order, the ground-truth calls of the program: the
  top-level ones in execution order judged by the taints that precede them, then those of the
  nested functions judged by ALL taints of the body (the documented conservative rule).

  Hypotheses (`GrammarProg`, decidable from the program text): the star names differ from each
  other, from the ordinary parameters, from the callee roots and helper names; assignment targets
  (nested ones included) are none of these.
-/
import Sigverif.Lemmas.C05Nest
namespace SV
open Flat

structure GrammarProg (p : Prog) : Prop where
  ok : okSL [p.va, p.vk] p.body = true
  clean : Clean p (rootsAllSL p.body) (assignedAllSL p.body)

/-- **visitor = ground truth** on the whole forwarding grammar -/
theorem visitor_eq_truth (p : Prog) (h : GrammarProg p) :
    (runVisitor (render p)).map forwarding = .ok ((truth p).map (FwdCall.toRec p)) := by
  have c := h.clean
  obtain ⟨n', i', recs, e, hf, hr⟩ := nsimSL p _ _ c p.body h.ok (fun x hx => hx) (fun r hr => hr)
    [] [] false false _ _ [] (initial_inv p _ _ c)
  simp only [visit, List.nil_append, List.length_nil, Nat.zero_add] at e
  rw [deferSL_eq] at e
  have hplaced := itemsSL_placed p _ _ c p.body h.ok (fun x hx => hx) (fun r hr => hr) 1
  have hall : ∀ x ∈ itemsSL 1 p.body, ItemOk (rootsAllSL p.body) x.1 ∧
      PlainChild (kidsSL p.va p.vk p.body) x.2 (rootsAllSL p.body ++ [p.va, p.vk]) := by
    intro x hx
    obtain ⟨ok, off, child, e1, hk, h1, h2, h3⟩ := hplaced x hx
    exact ⟨ok, off, child, by omega, hk, h1, h2, h3⟩
  obtain ⟨n2, cur2, recs2, e2, hf2, hr2⟩ := revisit_items p _ _ c (kidsSL p.va p.vk p.body)
    (truthSL p.body (false, false)).2.1 (truthSL p.body (false, false)).2.2 i'
    (itemsSL 1 p.body) [] 0 n' recs ((renderSL p.va p.vk p.body).size + 1) hf hall
    (Nat.le_succ_of_le (itemsSL_size p.va p.vk 1 p.body))
  simp only [List.nil_append, List.length_nil] at e2
  simp only [render, runVisitor, processParams_main, e]
  rw [mk_eq_mkAt] at *
  rw [e2]
  simp only [Except.map]
  have hc : (mkAt cur2 (kidsSL p.va p.vk p.body) (List.map (treeOf p.va p.vk) (itemsSL 1 p.body)) n2 i' (recs ++ recs2)).calls =
      recs ++ recs2 := rfl
  rw [hc, forwarding_append, hr, hr2]
  simp only [truth]
  rw [nestedSL_items _ 1 p.body]
  simp

/-- in particular: a star is reported as forwarded only when the ground truth says it is pristine
    at that call — nested functions included -/
theorem taint_sound (p : Prog) (h : GrammarProg p) (cs : List CallRec) (hr : runVisitor (render p) = .ok cs) :
    ∀ c ∈ forwarding cs, ∃ f ∈ truth p, c = f.toRec p ∧ c.useVa = f.useVa ∧ c.useVk = f.useVk := by
  have := visitor_eq_truth p h
  rw [hr] at this
  simp only [Except.map, Except.ok.injEq] at this
  intro c hc
  rw [this] at hc
  obtain ⟨f, hf, rfl⟩ := List.mem_map.1 hc
  exact ⟨f, hf, rfl, rfl, rfl⟩

/-! ### non-vacuity: a program with nested functions satisfying `GrammarProg`

```
def wrapper(a, *args, **kwargs):
    g(*args, **kwargs)                      # both stars pristine
    def sub():
        r = ns.g(1, *args, x=0, **kwargs)   # judged at the end: **kwargs rebound below
        h(0)
    def sub2():
        nonlocal kwargs
        kwargs = 0                          # taints **kwargs in the main namespace, at once
    g(*args, **kwargs)                      # *args pristine, **kwargs hidden
``` -/
def exProgN : Prog :=
  { params := [1], va := 11, vk := 12,
    body := .cons (.fwd (.name 21 .load) 0 [] true true none)
           (.cons (.nested (.cons (.fwd (.attr (.name 22 .load) 3) 1 [5] true true (some 31))
                           (.cons (.decoy 41 1) .nil)))
           (.cons (.nonlocalRebind .K)
           (.cons (.fwd (.name 21 .load) 0 [] true true none)
            .nil))) }

example : GrammarProg exProgN :=
  ⟨by decide, ⟨by decide, by decide, by decide, by decide, by decide, by decide⟩⟩

example : (truth exProgN).map (fun f => (f.useVa, f.useVk, f.hideA, f.hideK)) =
    [(true, true, false, false), (true, false, false, true), (true, false, false, true)] := by decide

end SV
