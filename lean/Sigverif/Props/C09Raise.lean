/-
  Props/C09Raise.lean — property C09, first sentence, the RAISES half:
  ONLY property theorems + non-vacuity examples (helper lemmas in Sigverif/Lemmas/C09R*.lean).

  C09: "When the inputs give the same name to their positional parameters position by position and
  shared names keep their role, merge accepts exactly the non-colliding calls that all inputs accept,
  and raises IncompatibleSignatures exactly when no such call exists."

  Reading of "no such call exists": when merge raises there is no result for a keyword to be
  keyword-passable in, so a non-colliding call is one whose keywords are all foreign to every input
  (`foreignTo`, Props/Defs.lean).  Conversely, when merge returns `R`, a non-colliding call
  (`nonColl R …`) that `R` and every input accept exists.
-/
import Sigverif.Props.Defs
import Sigverif.Lemmas.C09RCall
import Sigverif.Lemmas.Eval
import Sigverif.Props.Laws
namespace SV

/-- (1) if merge of two aligned inputs raises, it raises IncompatibleSignatures and no call whose
    keywords are foreign to both inputs is accepted by both.  (`K.Nodup` and the second half of
    `aligned` are not needed for the second conjunct; `aligned` is what excludes the ValueError of
    the final `Signature(...)` validation.) -/
theorem merge_raises_aligned_pair (a b : USig) (e : Err)
    (ha : WF a.params) (hb : WF b.params) (hal : aligned [a.params, b.params])
    (hE : merge [a, b] = .error e) :
    e = .incompatible ∧
    ∀ (n : Nat) (K : List Nat), K.Nodup → foreignTo [a.params, b.params] K →
      ¬ (accepts a.params n K = true ∧ accepts b.params n K = true) := by
  have he := merge_err_roles a b e ha hb hal.1 hE
  subst he
  obtain ⟨e', hs⟩ := merge_pair_err_step a b hE
  exact ⟨rfl, fun n K _ hf => mergeStep_err_no_call a b ha hb hs n K hf⟩

/-- (1') the same conclusion for ANY two valid signatures (aligned or not) once the error is known to
    be IncompatibleSignatures: the error points of `_Merger._merge` each exhibit a required
    parameter of one input that the other input cannot receive. -/
theorem merge_incompatible_pair (a b : USig) (ha : WF a.params) (hb : WF b.params)
    (hE : merge [a, b] = .error .incompatible) :
    ∀ (n : Nat) (K : List Nat), foreignTo [a.params, b.params] K →
      ¬ (accepts a.params n K = true ∧ accepts b.params n K = true) := by
  obtain ⟨e', hs⟩ := merge_pair_err_step a b hE
  exact fun n K hf => mergeStep_err_no_call a b ha hb hs n K hf

/-- (2) every valid signature accepts some call that uses only its own keyword-passable names
    (all required positionals positionally, every required keyword-only parameter by name) -/
theorem valid_has_call (ps : List Param) (h : WF ps) :
    ∃ (n : Nat) (K : List Nat), K.Nodup ∧ (∀ k ∈ K, k ∈ kwNames ps) ∧ accepts ps n K = true :=
  ⟨canonN ps, canonK ps, canon_accepts ps (h.validate)⟩

/-- (3) hence: when merge returns, a non-colliding call accepted by the result and by every input
    exists (any number of role-consistent inputs) -/
theorem merge_ok_common_call (ss : List USig) (R : USig)
    (hwf : ∀ s ∈ ss, WF s.params) (hrc : roleCons (ss.map (·.params))) (hR : merge ss = .ok R) :
    ∃ (n : Nat) (K : List Nat), K.Nodup ∧ nonColl R.params (ss.map (·.params)) K ∧
      accepts R.params n K = true ∧ ∀ s ∈ ss, accepts s.params n K = true := by
  have hvR : validate R.params = .ok () := validOk_iff_validate.1 (merge_valid ss R hR)
  obtain ⟨hK, hsub, hacc⟩ := canon_accepts R.params hvR
  have hnc : nonColl R.params (ss.map (·.params)) (canonK R.params) :=
    fun k hk => Or.inl (hsub k hk)
  exact ⟨canonN R.params, canonK R.params, hK, hnc, hacc,
    merge_sound_roles_core ss R _ _ (fun s hs => (hwf s hs).validate) hK hrc hR hnc hacc⟩

/-- the converse of (1) stated outright: two aligned inputs that have a common call with foreign
    keywords only do merge -/
theorem merge_returns_of_common_call (a b : USig)
    (ha : WF a.params) (hb : WF b.params) (hal : aligned [a.params, b.params])
    (hc : ∃ (n : Nat) (K : List Nat), K.Nodup ∧ foreignTo [a.params, b.params] K ∧
      accepts a.params n K = true ∧ accepts b.params n K = true) :
    ∃ R, merge [a, b] = .ok R := by
  cases hm : merge [a, b] with
  | ok R => exact ⟨R, rfl⟩
  | error e =>
    obtain ⟨n, K, hK, hf, h1, h2⟩ := hc
    exact absurd ⟨h1, h2⟩ ((merge_raises_aligned_pair a b e ha hb hal hm).2 n K hK hf)

/-- (1, n-ary) any number of role-consistent valid inputs: when merge raises
    IncompatibleSignatures, no call whose keywords are foreign to every input is accepted by all
    inputs.  Only the role-consistency half of `aligned` is needed.

    The error is a HYPOTHESIS here, not a conclusion; that it is the only error such inputs can
    raise ("the final `Signature(...)` validation cannot fail") is `merge_err_of_roles`
    (Lemmas/LawsRoles.lean, any number of inputs), of which `merge_err_roles` (Props/Laws.lean) is
    the two-input case.
    (Brute force on 3.1 million aligned triples of a 452-signature universe in the model found
    neither a ValueError nor a counterexample to this statement.) -/
theorem merge_incompatible_aligned (ss : List USig) (hwf : ∀ s ∈ ss, WF s.params)
    (hrc : roleCons (ss.map (·.params))) (hE : merge ss = .error .incompatible) :
    ∀ (n : Nat) (K : List Nat), foreignTo (ss.map (·.params)) K →
      ¬ ∀ s ∈ ss, accepts s.params n K = true := by
  intro n K hf hall
  have hv : ∀ s ∈ ss, validate s.params = .ok () := fun s hs => (hwf s hs).validate
  have hpos : ∀ s ∈ ss, accB (sortParams s) n [] := by
    intro s hs
    exact accB_of_accepts s (hv s hs)
      (accepts_foreign_pos (fun k hk => hf k hk _ (List.mem_map.2 ⟨s, hs, rfl⟩)) (hall s hs))
  cases ss with
  | nil => simp [merge] at hE
  | cons s0 rest =>
    obtain ⟨ρ, -, hri⟩ := exists_roles_RI _ hv hrc
    exact mergeFold_err_nary rest (sortParams s0) _ (hri s0 List.mem_cons_self)
      (fun s hs => hri s (List.mem_cons_of_mem _ hs)) (hpos s0 List.mem_cons_self)
      (fun s hs => hpos s (List.mem_cons_of_mem _ hs)) (merge_incompatible_fold hE)

/-! non-vacuity -/

-- error point `_merge_unbalanced_pos`: `(x, y, /)` against `(x, /)`
def c9r1a : USig := { params := [⟨1, .po, none, none, .empty⟩, ⟨2, .po, none, none, .empty⟩] }
def c9r1b : USig := { params := [⟨1, .po, none, none, .empty⟩] }
theorem c9r1_hyps : WF c9r1a.params ∧ WF c9r1b.params ∧ aligned [c9r1a.params, c9r1b.params] := by
  decide +kernel
example : WF c9r1a.params ∧ WF c9r1b.params ∧ aligned [c9r1a.params, c9r1b.params] := c9r1_hyps
theorem c9r1_raises : merge [c9r1a, c9r1b] = .error .incompatible := by
  simp only [merge, mergeFold, mergeStep_eq]; exact eq_error_of (by decide +kernel)
/-- the error is raised in phase P (`_merge_unbalanced_pos`) -/
example : phaseP (sortParams c9r1a) (sortParams c9r1b) (sortParams c9r1a).pos (sortParams c9r1b).pos
    (sortParams c9r1a).pok (sortParams c9r1b).pok (stK (sortParams c9r1a) (sortParams c9r1b)) =
      .error .valueError := by
  rw [phaseP_eq]; exact eq_error_of (by decide +kernel)
/-- each input is callable, with foreign keywords only, but not by a common call -/
example : foreignTo [c9r1a.params, c9r1b.params] [] ∧
    accepts c9r1a.params 2 [] = true ∧ accepts c9r1b.params 1 [] = true ∧
    ∀ (n : Nat) (K : List Nat), K.Nodup → foreignTo [c9r1a.params, c9r1b.params] K →
      ¬ (accepts c9r1a.params n K = true ∧ accepts c9r1b.params n K = true) :=
  ⟨by decide +kernel, by decide +kernel, by decide +kernel,
    (merge_raises_aligned_pair c9r1a c9r1b _ c9r1_hyps.1 c9r1_hyps.2.1 c9r1_hyps.2.2 c9r1_raises).2⟩

-- error point `_merge_unbalanced_pok`: `(x, y)` against `(x)`
def c9r2a : USig := { params := [⟨1, .pk, none, none, .empty⟩, ⟨2, .pk, none, none, .empty⟩] }
def c9r2b : USig := { params := [⟨1, .pk, none, none, .empty⟩] }
theorem c9r2_hyps : WF c9r2a.params ∧ WF c9r2b.params ∧ aligned [c9r2a.params, c9r2b.params] := by
  decide +kernel
example : WF c9r2a.params ∧ WF c9r2b.params ∧ aligned [c9r2a.params, c9r2b.params] := c9r2_hyps
theorem c9r2_raises : merge [c9r2a, c9r2b] = .error .incompatible := by
  simp only [merge, mergeFold, mergeStep_eq]; exact eq_error_of (by decide +kernel)
/-- phase P returns, the error is raised in phase Q (`_merge_unbalanced_pok`) -/
example :
    (∃ x, phaseP (sortParams c9r2a) (sortParams c9r2b) (sortParams c9r2a).pos (sortParams c9r2b).pos
      (sortParams c9r2a).pok (sortParams c9r2b).pok (stK (sortParams c9r2a) (sortParams c9r2b)) = .ok x) ∧
    (phaseP (sortParams c9r2a) (sortParams c9r2b) (sortParams c9r2a).pos (sortParams c9r2b).pos
      (sortParams c9r2a).pok (sortParams c9r2b).pok (stK (sortParams c9r2a) (sortParams c9r2b)) >>=
      fun x => phaseQ (sortParams c9r2a) (sortParams c9r2b) x.2.1 x.2.2 x.1) = .error .valueError := by
  simp only [phaseP_eq, phaseQ_eq]
  exact ⟨exists_ok (by decide +kernel), eq_error_of (by decide +kernel)⟩
example : accepts c9r2a.params 2 [] = true ∧ accepts c9r2b.params 1 [] = true ∧
    ∀ (n : Nat) (K : List Nat), K.Nodup → foreignTo [c9r2a.params, c9r2b.params] K →
      ¬ (accepts c9r2a.params n K = true ∧ accepts c9r2b.params n K = true) :=
  ⟨by decide +kernel, by decide +kernel,
    (merge_raises_aligned_pair c9r2a c9r2b _ c9r2_hyps.1 c9r2_hyps.2.1 c9r2_hyps.2.2 c9r2_raises).2⟩

-- error point `_merge_unmatched_kwoargs`: `(x, *, k)` against `(x)`
def c9r3a : USig := { params := [⟨1, .pk, none, none, .empty⟩, ⟨5, .ko, none, none, .empty⟩] }
def c9r3b : USig := { params := [⟨1, .pk, none, none, .empty⟩] }
theorem c9r3_hyps : WF c9r3a.params ∧ WF c9r3b.params ∧ aligned [c9r3a.params, c9r3b.params] := by
  decide +kernel
example : WF c9r3a.params ∧ WF c9r3b.params ∧ aligned [c9r3a.params, c9r3b.params] := c9r3_hyps
theorem c9r3_raises : merge [c9r3a, c9r3b] = .error .incompatible := by
  simp only [merge, mergeFold, mergeStep_eq]; exact eq_error_of (by decide +kernel)
/-- phases P and Q return, the error is raised by `_merge_unmatched_kwoargs` for the left operand -/
example :
    (∃ x, (phaseP (sortParams c9r3a) (sortParams c9r3b) (sortParams c9r3a).pos (sortParams c9r3b).pos
      (sortParams c9r3a).pok (sortParams c9r3b).pok (stK (sortParams c9r3a) (sortParams c9r3b)) >>=
      fun x => phaseQ (sortParams c9r3a) (sortParams c9r3b) x.2.1 x.2.2 x.1) = .ok x) ∧
    (phaseP (sortParams c9r3a) (sortParams c9r3b) (sortParams c9r3a).pos (sortParams c9r3b).pos
      (sortParams c9r3a).pok (sortParams c9r3b).pok (stK (sortParams c9r3a) (sortParams c9r3b)) >>=
      fun x => phaseQ (sortParams c9r3a) (sortParams c9r3b) x.2.1 x.2.2 x.1 >>=
      fun st => mergeUnmatched .L (sortParams c9r3a) (sortParams c9r3b) st) = .error .valueError := by
  simp only [phaseP_eq, phaseQ_eq]
  exact ⟨exists_ok (by decide +kernel), eq_error_of (by decide +kernel)⟩
/-- here the input `(x, *, k)` itself accepts no call with foreign keywords only (`k` is required
    and is not foreign); it does accept the call `(1, k=…)` -/
example : accepts c9r3a.params 1 [5] = true ∧ accepts c9r3b.params 1 [] = true ∧
    ¬ foreignTo [c9r3a.params, c9r3b.params] [5] ∧
    ∀ (n : Nat) (K : List Nat), K.Nodup → foreignTo [c9r3a.params, c9r3b.params] K →
      ¬ (accepts c9r3a.params n K = true ∧ accepts c9r3b.params n K = true) :=
  ⟨by decide +kernel, by decide +kernel, by decide +kernel,
    (merge_raises_aligned_pair c9r3a c9r3b _ c9r3_hyps.1 c9r3_hyps.2.1 c9r3_hyps.2.2 c9r3_raises).2⟩

-- (1, n-ary): `(x, y=1)`, `(x, *args)`, `(x, y, z)`: the first two merge (to `(x, y=1, /)`), the
-- third input raises in the second step of the fold
def c9r7a : USig := { params := [⟨1, .pk, none, none, .empty⟩, ⟨2, .pk, some 1, none, .empty⟩] }
def c9r7b : USig := { params := [⟨1, .pk, none, none, .empty⟩, ⟨11, .vp, none, none, .empty⟩] }
def c9r7c : USig := { params := [⟨1, .pk, none, none, .empty⟩, ⟨2, .pk, none, none, .empty⟩,
                                 ⟨3, .pk, none, none, .empty⟩] }
theorem c9r7_hyps : (∀ s ∈ [c9r7a, c9r7b, c9r7c], WF s.params) ∧
    aligned ([c9r7a, c9r7b, c9r7c].map (·.params)) := by decide +kernel
example : (∀ s ∈ [c9r7a, c9r7b, c9r7c], WF s.params) ∧
    aligned ([c9r7a, c9r7b, c9r7c].map (·.params)) := c9r7_hyps
example : ∃ R, merge [c9r7a, c9r7b] = .ok R := by
  simp only [merge, mergeFold, mergeStep_eq]; exact exists_ok (by decide +kernel)
theorem c9r7_raises : merge [c9r7a, c9r7b, c9r7c] = .error .incompatible := by
  simp only [merge, mergeFold, mergeStep_eq]; exact eq_error_of (by decide +kernel)
/-- every two of the three inputs have a common call, all three have none -/
example : accepts c9r7a.params 2 [] = true ∧ accepts c9r7b.params 2 [] = true ∧
    accepts c9r7b.params 3 [] = true ∧ accepts c9r7c.params 3 [] = true ∧
    ∀ (n : Nat) (K : List Nat), foreignTo ([c9r7a, c9r7b, c9r7c].map (·.params)) K →
      ¬ ∀ s ∈ [c9r7a, c9r7b, c9r7c], accepts s.params n K = true :=
  ⟨by decide +kernel, by decide +kernel, by decide +kernel, by decide +kernel,
    merge_incompatible_aligned _ c9r7_hyps.1 c9r7_hyps.2.1 c9r7_raises⟩

-- (1') on a pair that is NOT aligned: `(x, y)` against `(z)`
def c9r5b : USig := { params := [⟨3, .pk, none, none, .empty⟩] }
example : WF c9r5b.params ∧ ¬ aligned [c9r2a.params, c9r5b.params] ∧
    merge [c9r2a, c9r5b] = .error .incompatible := by
  refine ⟨by decide +kernel, by decide +kernel, ?_⟩
  simp only [merge, mergeFold, mergeStep_eq]; exact eq_error_of (by decide +kernel)

-- a returning pair: `(p, /, q, r=7, *, k, o=1)` and `(p, /, q, *args, **kwargs)`
def c9r4a : USig := { params := [⟨1, .po, none, none, .empty⟩, ⟨2, .pk, none, none, .empty⟩,
                               ⟨3, .pk, some 7, none, .empty⟩, ⟨5, .ko, none, none, .empty⟩,
                               ⟨6, .ko, some 1, none, .empty⟩] }
def c9r4b : USig := { params := [⟨1, .po, none, none, .empty⟩, ⟨2, .pk, none, none, .empty⟩,
                               ⟨11, .vp, none, none, .empty⟩, ⟨12, .vk, none, none, .empty⟩] }
theorem c9r4_hyps : WF c9r4a.params ∧ WF c9r4b.params ∧ aligned [c9r4a.params, c9r4b.params] := by
  decide +kernel
example : WF c9r4a.params ∧ WF c9r4b.params ∧ aligned [c9r4a.params, c9r4b.params] := c9r4_hyps
theorem c9r4_returns : ∃ R, merge [c9r4a, c9r4b] = .ok R ∧ R.params = c9r4a.params := by
  simp only [merge, mergeFold, mergeStep_eq]; exact exists_ok_and (by decide +kernel)
/-- this pair merges although it has NO common call with foreign keywords only (`k` is required
    by `c9r4a`, so e.g. the call with two positionals and the foreign keyword 9 is rejected by it):
    (1) is an implication, its converse `merge_returns_of_common_call` needs such a call … -/
example : foreignTo [c9r4a.params, c9r4b.params] [9] ∧ accepts c9r4a.params 2 [9] = false ∧
    accepts c9r4b.params 2 [9] = true := by decide +kernel
/-- … which a pair without required keyword-only parameters has: `(p, /, q, r=7, **kw)` and
    `c9r4b` share the call `(2, [9])`, so they merge -/
def c9r6a : USig := { params := [⟨1, .po, none, none, .empty⟩, ⟨2, .pk, none, none, .empty⟩,
                               ⟨3, .pk, some 7, none, .empty⟩, ⟨12, .vk, none, none, .empty⟩] }
example : ∃ R, merge [c9r6a, c9r4b] = .ok R :=
  merge_returns_of_common_call c9r6a c9r4b (by decide +kernel) (by decide +kernel) (by decide +kernel)
    ⟨2, [9], by decide +kernel, by decide +kernel, by decide +kernel, by decide +kernel⟩

/-- the witness call of (2) on a signature with required positional-only, positional-or-keyword
    and keyword-only parameters: `(p, /, q, r=7, *, k, o=1)` is called as `(_, _, k=_)` -/
example : canonN c9r4a.params = 2 ∧ canonK c9r4a.params = [5] ∧
    accepts c9r4a.params 2 [5] = true ∧
    accepts c9r4a.params 1 [5] = false ∧ accepts c9r4a.params 2 [] = false := by decide +kernel
example : ∃ (n : Nat) (K : List Nat), K.Nodup ∧ (∀ k ∈ K, k ∈ kwNames c9r4a.params) ∧
    accepts c9r4a.params n K = true := valid_has_call c9r4a.params (by decide +kernel)

/-- (3) on the returning pair: the hypotheses hold, and the witness call `(2, [5])` is a
    non-colliding call (5 is keyword-passable in the result, not foreign) accepted by the result and
    both inputs -/
example : ∃ R, merge [c9r4a, c9r4b] = .ok R ∧
    roleCons ([c9r4a, c9r4b].map (·.params)) ∧
    nonColl R.params ([c9r4a, c9r4b].map (·.params)) [5] ∧ ¬ foreignTo ([c9r4a, c9r4b].map (·.params)) [5] ∧
    accepts R.params 2 [5] = true ∧ ∀ s ∈ [c9r4a, c9r4b], accepts s.params 2 [5] = true := by
  obtain ⟨R, hR, hp⟩ := c9r4_returns
  refine ⟨R, hR, c9r4_hyps.2.2.1, ?_, by decide +kernel, ?_, by decide +kernel⟩
  · rw [hp]; decide +kernel
  · rw [hp]; decide +kernel
example : ∃ (n : Nat) (K : List Nat), K.Nodup ∧
    (∃ R, merge [c9r4a, c9r4b] = .ok R ∧ nonColl R.params ([c9r4a, c9r4b].map (·.params)) K ∧
      accepts R.params n K = true) ∧ ∀ s ∈ [c9r4a, c9r4b], accepts s.params n K = true := by
  obtain ⟨R, hR, -⟩ := c9r4_returns
  obtain ⟨n, K, hK, hnc, hacc, hall⟩ :=
    merge_ok_common_call [c9r4a, c9r4b] R (by decide +kernel) c9r4_hyps.2.2.1 hR
  exact ⟨n, K, hK, ⟨R, hR, hnc, hacc⟩, hall⟩

end SV
