/-
  Props/C06.lean — property C06 (automatic discovery = the equivalent explicit declaration), the
  part that is logic: what `forward_signatures` / `autoforwards_ast` / the fallback of
  `forged_signature` make of the call records the visitor reports.

  * calls that forward neither star are ignored (`forwardSigs_ignores`)
  * the discovered signature IS the merge of `forwards(own, callee, n, *names, flags)` over the
    forwarding calls in order (`discovered_eq_declared`), with `partial=True` and one positional
    fewer for `functools.partial(callee, …)` (`declared_partial`)
  * the plain signature comes back exactly when nothing usable remains, a callee cannot be
    resolved or retrieved, or the algebra raises (the other arms of `discovered_eq_declared`);
    nothing else can come out (`discovered_total`, read off the fallback chain of Props/C07Chain.lean)
  * a decoy call (forwarding neither star) anywhere in the list does not change the outcome
    (`discovered_decoy_invariant`)

  That the visitor's records are the ground truth of the program is not part of this file: on the
  forwarding grammar it is `visitor_eq_truth` (Props/C05Full.lean), and it is validated on every run
  by the streams `programs` (model visitor vs generator ground truth vs real visitor) — see DESIGN.md.
-/
import Sigverif.Model.Grammar
import Sigverif.Model.Discovery
import Sigverif.Props.C07Chain
namespace SV

/-- the declaration a forwarding call record stands for, when its callee resolves -/
def declared (own : USig) (resolve : RM → RVal) (c : CallRec) : Except Err USig :=
  match resolve c.wrapped with
  | .fn wsig =>
    if !calleeRetrievable wsig c.args.length (c.kwargs.map (·.1)) then .error .unknownForwards else
    (match forwards own wsig c.args.length (c.kwargs.map (·.1)) c.hideA c.hideK c.useVa c.useVk false with
     | .ok s => .ok s
     | .error _ => .error .unknownForwards)
  | .partialCtor =>
    (match c.args with
     | [] => .error .unknownForwards
     | a0 :: _ =>
       match resolve a0 with
       | .fn wsig =>
         if !calleeRetrievable wsig (c.args.length - 1) (c.kwargs.map (·.1)) then .error .unknownForwards else
         (match forwards own wsig (c.args.length - 1) (c.kwargs.map (·.1)) c.hideA c.hideK c.useVa c.useVk true with
          | .ok s => .ok s
          | .error _ => .error .unknownForwards)
       | _ => .error .unknownForwards)
  | _ => .error .unknownForwards

/-- all declarations, in order; the first failure wins -/
def declaredAll (own : USig) (resolve : RM → RVal) : List CallRec → Except Err (List USig)
  | [] => .ok []
  | c :: cs => do
    let s ← declared own resolve c
    let ss ← declaredAll own resolve cs
    pure (s :: ss)

theorem forwardSig_skip (own : USig) (resolve : RM → RVal) (c : CallRec) (h : (c.useVa || c.useVk) = false) :
    forwardSig own resolve c = .ok none := by
  unfold forwardSig; simp [h]

theorem forwardSig_fwd (own : USig) (resolve : RM → RVal) (c : CallRec) (h : (c.useVa || c.useVk) = true) :
    forwardSig own resolve c = (declared own resolve c).map some := by
  unfold forwardSig declared
  simp only [h, Bool.not_true, Bool.false_eq_true, if_false]
  cases resolve c.wrapped with
  | fn wsig =>
    simp only
    split
    · rfl
    · cases forwards own wsig c.args.length (c.kwargs.map (·.1)) c.hideA c.hideK c.useVa c.useVk false <;> rfl
  | partialCtor =>
    simp only
    cases c.args with
    | nil => rfl
    | cons a0 rest =>
      simp only
      cases resolve a0 with
      | fn wsig =>
        simp only
        split
        · rfl
        · cases forwards own wsig ((a0 :: rest).length - 1) (c.kwargs.map (·.1)) c.hideA c.hideK c.useVa c.useVk true <;> rfl
      | _ => rfl
  | other => rfl
  | unresolvable => rfl

/-- calls that forward neither star parameter are ignored -/
theorem forwardSigs_ignores (own : USig) (resolve : RM → RVal) (cs : List CallRec) :
    forwardSigs own resolve cs = declaredAll own resolve (forwarding cs) := by
  induction cs with
  | nil => rfl
  | cons c cs ih =>
    unfold forwarding at ih ⊢
    simp only [forwardSigs, List.filter_cons]
    by_cases h : (c.useVa || c.useVk) = true
    · simp only [h, if_true, declaredAll]
      rw [forwardSig_fwd own resolve c h, ih]
      cases declared own resolve c with
      | error e => rfl
      | ok s =>
        simp only [Except.map, bind, Except.bind, pure, Except.pure]
    · have h' : (c.useVa || c.useVk) = false := by simpa using h
      simp only [h', Bool.false_eq_true, if_false]
      rw [forwardSig_skip own resolve c h', ih]
      simp only [bind, Except.bind, pure, Except.pure]
      cases declaredAll own resolve (List.filter (fun c => c.useVa || c.useVk) cs) <;> rfl

/-- **discovery = declaration**: what retrieval returns for the visitor's call records is the
    merge of the explicit declarations of the forwarding calls, or the plain signature -/
theorem discovered_eq_declared (own : USig) (resolve : RM → RVal) (cs : List CallRec) :
    discovered own resolve (some cs) =
      match declaredAll own resolve (forwarding cs) with
      | .ok [] => .ok own                       -- nothing usable remains
      | .ok (s :: ss) => (match merge (s :: ss) with
                          | .ok R => .ok R
                          | .error _ => .ok own)   -- incompatible: plain signature
      | .error _ => .ok own := by                  -- a callee could not be resolved / retrieved / fitted
  have herr := forwardSigs_error own resolve cs
  unfold discovered autoforwardsAst
  simp only [bind, Except.bind]
  rw [forwardSigs_ignores] at herr ⊢
  cases hd : declaredAll own resolve (forwarding cs) with
  | error e =>
    cases herr e hd
    rfl
  | ok l =>
    cases l with
    | nil => rfl
    | cons s ss =>
      simp only [List.isEmpty_cons, Bool.false_eq_true, if_false]
      cases merge (s :: ss) <;> rfl

/-- retrieval with discovery never fails for a plain function: it returns a signature -/
theorem discovered_total (own : USig) (resolve : RM → RVal) (cs : Option (List CallRec)) :
    ∃ R, discovered own resolve cs = .ok R :=
  (chain_discovered_total own resolve cs).imp fun _ => And.left

/-- a call that forwards neither star (a decoy, an unrelated call) can be inserted anywhere
    without changing the outcome -/
theorem discovered_decoy_invariant (own : USig) (resolve : RM → RVal) (pre post : List CallRec) (d : CallRec)
    (hd : (d.useVa || d.useVk) = false) :
    discovered own resolve (some (pre ++ d :: post)) = discovered own resolve (some (pre ++ post)) := by
  rw [discovered_eq_declared, discovered_eq_declared]
  have : forwarding (pre ++ d :: post) = forwarding (pre ++ post) := by
    unfold forwarding
    simp [List.filter_append, hd]
  rw [this]

/-- `functools.partial(callee, …)`: the callee is the first written argument, one positional
    fewer is forwarded, and the declaration is made with `partial=True` -/
theorem declared_partial (own : USig) (resolve : RM → RVal) (c : CallRec) (a0 : RM) (rest : List RM) (wsig : USig)
    (hw : resolve c.wrapped = .partialCtor) (ha : c.args = a0 :: rest) (h0 : resolve a0 = .fn wsig)
    (hr : calleeRetrievable wsig rest.length (c.kwargs.map (·.1)) = true) :
    declared own resolve c =
      match forwards own wsig rest.length (c.kwargs.map (·.1)) c.hideA c.hideK c.useVa c.useVk true with
      | .ok s => .ok s
      | .error _ => .error .unknownForwards := by
  unfold declared
  simp [hw, ha, h0, hr]

theorem declared_ok {own : USig} {resolve : RM → RVal} {c : CallRec} {s : USig}
    (hd : declared own resolve c = .ok s) :
    ∃ r w n pt, resolve r = .fn w ∧
      (r = c.wrapped ∧ n = c.args.length ∧ pt = false ∨
        resolve c.wrapped = .partialCtor ∧ (∃ t, c.args = r :: t) ∧ n = c.args.length - 1 ∧ pt = true) ∧
      forwards own w n (c.kwargs.map (·.1)) c.hideA c.hideK c.useVa c.useVk pt = .ok s := by
  unfold declared at hd
  split at hd
  · rename_i w hw
    split at hd
    · cases hd
    · split at hd
      · rename_i s' hf
        cases hd
        exact ⟨_, w, _, _, hw, .inl ⟨rfl, rfl, rfl⟩, hf⟩
      · cases hd
  · rename_i hpc
    split at hd
    · cases hd
    · rename_i a0 t hargs
      split at hd
      · rename_i w hw
        split at hd
        · cases hd
        · split at hd
          · rename_i s' hf
            cases hd
            exact ⟨a0, w, _, _, hw, .inr ⟨hpc, ⟨t, hargs⟩, rfl, rfl⟩, hf⟩
          · cases hd
      · cases hd
  · cases hd

theorem declared_fn {own : USig} {resolve : RM → RVal} {c : CallRec} {w s : USig}
    (hw : resolve c.wrapped = .fn w) (hd : declared own resolve c = .ok s) :
    forwards own w c.args.length (c.kwargs.map (·.1)) c.hideA c.hideK c.useVa c.useVk false = .ok s := by
  obtain ⟨r, w', n, pt, hr, hc, hf⟩ := declared_ok hd
  rcases hc with ⟨rfl, rfl, rfl⟩ | ⟨hpc, -⟩
  · rw [hw] at hr
    cases hr
    exact hf
  · rw [hw] at hpc
    cases hpc

theorem declared_of_forwards {own w s : USig} {resolve : RM → RVal} {c : CallRec}
    (hw : resolve c.wrapped = .fn w)
    (hr : calleeRetrievable w c.args.length (c.kwargs.map (·.1)) = true)
    (hf : forwards own w c.args.length (c.kwargs.map (·.1)) c.hideA c.hideK c.useVa c.useVk false = .ok s) :
    declared own resolve c = .ok s := by
  unfold declared
  rw [hw]
  simp only [hr, hf, Bool.not_true, Bool.false_eq_true, if_false]

theorem declaredAll_cons_ok {own : USig} {resolve : RM → RVal} {c : CallRec} {cs : List CallRec}
    {ss : List USig} :
    declaredAll own resolve (c :: cs) = .ok ss ↔
      ∃ s ss', declared own resolve c = .ok s ∧ declaredAll own resolve cs = .ok ss' ∧ ss = s :: ss' := by
  simp only [declaredAll, bind, Except.bind, pure, Except.pure]
  cases declared own resolve c with
  | error e => simp
  | ok s =>
    cases declaredAll own resolve cs with
    | error e => simp
    | ok ss' => simp [eq_comm]

theorem declaredAll_mem (own : USig) (resolve : RM → RVal) (cs : List CallRec) (ss : List USig)
    (h : declaredAll own resolve cs = .ok ss) : ∀ s ∈ ss, ∃ c ∈ cs, declared own resolve c = .ok s := by
  induction cs generalizing ss with
  | nil => cases h; intro s hs; cases hs
  | cons c cs ih =>
    obtain ⟨s0, ss0, hd, ht, rfl⟩ := declaredAll_cons_ok.1 h
    intro s hs
    rcases List.mem_cons.1 hs with rfl | hs
    · exact ⟨c, List.mem_cons_self, hd⟩
    · obtain ⟨c', hc', hd'⟩ := ih ss0 ht s hs
      exact ⟨c', List.mem_cons_of_mem _ hc', hd'⟩

theorem declaredAll_all (own : USig) (resolve : RM → RVal) (cs : List CallRec) (ss : List USig)
    (h : declaredAll own resolve cs = .ok ss) : ∀ c ∈ cs, ∃ s ∈ ss, declared own resolve c = .ok s := by
  induction cs generalizing ss with
  | nil => intro c hc; cases hc
  | cons c0 cs ih =>
    obtain ⟨s0, ss0, hd, ht, rfl⟩ := declaredAll_cons_ok.1 h
    intro c hc
    rcases List.mem_cons.1 hc with rfl | hc
    · exact ⟨s0, List.mem_cons_self, hd⟩
    · obtain ⟨s, hs, hds⟩ := ih ss0 ht c hc
      exact ⟨s, List.mem_cons_of_mem _ hs, hds⟩

theorem discovered_some_ok {own R : USig} {resolve : RM → RVal} {cs : List CallRec}
    (hd : discovered own resolve (some cs) = .ok R) :
    R = own ∨ ∃ s ss, declaredAll own resolve (forwarding cs) = .ok (s :: ss) ∧ merge (s :: ss) = .ok R := by
  rw [discovered_eq_declared] at hd
  split at hd
  · cases hd; exact .inl rfl
  · rename_i s ss hall
    split at hd
    · rename_i hm
      cases hd
      exact .inr ⟨s, ss, hall, hm⟩
    · cases hd; exact .inl rfl
  · cases hd; exact .inl rfl

/-! ### `forwarding` keeps the record that passes `*args, **kwargs` on and drops the one that passes nothing -/

private def ownW : USig := { params := [⟨11, .vp, none, none, .empty⟩, ⟨12, .vk, none, none, .empty⟩],
                             src := [(11, [1]), (12, [1])], depths := [(1, 0)] }
private def calleeG : USig := { params := [⟨1, .pk, none, none, .empty⟩], src := [(1, [2])], depths := [(2, 0)] }
private def resolveG : RM → RVal
  | .nm 21 => .fn calleeG
  | _ => .unresolvable
private def recG : CallRec := { wrapped := .nm 21, args := [], kwargs := [], varargs := some (.arg 11 (some .va)),
                                varkwargs := some (.arg 12 (some .vk)), useVa := true, useVk := true,
                                hideA := false, hideK := false }
private def recDecoy : CallRec := { wrapped := .nm 99, args := [], kwargs := [], varargs := none, varkwargs := none,
                                    useVa := false, useVk := false, hideA := false, hideK := false }

example : forwarding [recDecoy, recG] = [recG] := by decide
example : (recDecoy.useVa || recDecoy.useVk) = false := rfl

end SV
