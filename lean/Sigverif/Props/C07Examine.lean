/-
  Props/C07Examine.lean — property C07 (retrieval is total), the part D88 was about: discovery over
  functions that forward to each other TERMINATES, whatever the shape of the call graph — cycles of
  any length, any mix of plain and `modifiers`-decorated functions —, and never nests deeper than
  the number of functions.

  * `forged_total` / `examine_total`: in a graph of `n` functions closed under `succ`, the
    retrieval of any function returns (the fuel `2·n + 2` is never exhausted), from any reachable
    guard stack.
  * `depth_bounded` / `examine_depth_bounded`: no guard event is recorded deeper than the number of functions.
  * `old_self_loop_diverges`: on the code before D88 a decorated function that forwards to itself
    has no finite examination — for every amount of fuel the model runs out of it (on the real code:
    RecursionError at every level, each level then starting over; stream probe `self_forwarding_hint`).
  * non-vacuity: the new code answers on that very graph, with 12 guard events.
-/
import Sigverif.Model.Examine
namespace SV

theorem stack_len_le (n : Nat) (stack : List Nat) (hnd : stack.Nodup) (hlt : ∀ x ∈ stack, x < n) :
    stack.length ≤ n :=
  List.length_range (n := n) ▸ hnd.length_le_of_subset fun x hx => List.mem_range.2 (hlt x hx)

theorem stack_room (n : Nat) (stack : List Nat) (f : Nat) (hnd : stack.Nodup) (hlt : ∀ x ∈ stack, x < n)
    (hf : f < n) (hnot : f ∉ stack) : stack.length + 1 ≤ n :=
  stack_len_le n (f :: stack) (List.nodup_cons.2 ⟨hnot, hnd⟩) (List.forall_mem_cons.2 ⟨hf, hlt⟩)

structure ClosedGraph (g : FGraph) (n : Nat) : Prop where
  succ_lt : ∀ f c, f < n → g.succ f = some c → c < n

/-! ### one level of the two functions

Each of the two mutually recursive functions makes one call of the other and turns its answer, if
there is one, into its own (`forgedOf`, `guardedOf`).  Whether they return, how deep they nest and
what more fuel changes is then read off these two equations. -/

/-- what the retrieval of `f` makes of the outcome of the guarded examination it starts; a failed
    examination of a decorated function is run a second time, with the same events -/
def forgedOf (g : FGraph) (f : Nat) : List Ev × Option (List Nat) → List Ev × List Nat
  | (t, some names) => (t, names)
  | (t, none) => if g.hinted f then (t ++ t, ownNames g f) else (t, ownNames g f)

/-- what the guarded examination of `f`, entered at depth `d`, makes of the retrieval for its callee -/
def guardedOf (g : FGraph) (f d : Nat) : List Ev × List Nat → List Ev × Option (List Nat)
  | (t, names) =>
    if clash (ownNames g f) names then (.enter (some f) d :: t ++ [.uf (some f)], none)
    else (.enter (some f) d :: t ++ [.ok f], some (ownNames g f ++ names))

theorem forgedF_none (g : FGraph) (b : Nat) (stack : List Nat) :
    forgedF g (b + 1) stack none = some ([.enter none stack.length, .uf none], [0, 1]) := by
  rw [forgedF]

theorem forgedF_some (g : FGraph) (b : Nat) (stack : List Nat) (f : Nat) :
    forgedF g (b + 1) stack (some f) = (guardedF g b stack f).map (forgedOf g f) := by
  rw [forgedF]
  rcases guardedF g b stack f with _ | ⟨t, _ | names⟩
  · rfl
  · simp only [forgedOf, Option.map_some]
    split <;> rfl
  · rfl

theorem guardedF_succ (g : FGraph) (b : Nat) (stack : List Nat) (f : Nat) :
    guardedF g (b + 1) stack f =
      if f ∈ stack then some ([.enter (some f) stack.length, .uf (some f)], none)
      else (forgedF g b (f :: stack) (g.succ f)).map (guardedOf g f stack.length) := by
  rw [guardedF]
  simp only [List.contains_iff_mem]
  split
  · rfl
  · rcases forgedF g b (f :: stack) (g.succ f) with _ | ⟨t, names⟩
    · rfl
    · simp only [guardedOf, Option.map_some]
      split <;> rfl

/-- both functions return whenever the fuel covers twice the room left on the stack (`n` minus its
    length): each function pushed uses up two units, one for its guarded examination and one for
    the retrieval of its callee -/
theorem total_aux (g : FGraph) (n : Nat) (hc : ClosedGraph g n) (b : Nat) :
    (∀ (stack : List Nat) (c : Option Nat), stack.Nodup → (∀ x ∈ stack, x < n) →
      (∀ f, c = some f → f < n) → 2 * n + 2 ≤ b + 2 * stack.length → (forgedF g b stack c).isSome) ∧
    (∀ (stack : List Nat) (f : Nat), stack.Nodup → (∀ x ∈ stack, x < n) → f < n →
      2 * n + 1 ≤ b + 2 * stack.length → (guardedF g b stack f).isSome) := by
  induction b with
  | zero =>
    -- no fuel would mean a stack longer than the graph has functions
    constructor
    · intro stack c hnd hlt _ hb
      have := stack_len_le n stack hnd hlt
      omega
    · intro stack f hnd hlt _ hb
      have := stack_len_le n stack hnd hlt
      omega
  | succ b ih =>
    constructor
    · intro stack c hnd hlt hcn hb
      cases c with
      | none => rw [forgedF_none]; rfl
      | some f =>
        rw [forgedF_some, Option.isSome_map]
        exact ih.2 stack f hnd hlt (hcn f rfl) (by omega)
    · intro stack f hnd hlt hf hb
      rw [guardedF_succ]
      split
      · rfl
      · next hmem =>
        rw [Option.isSome_map]
        exact ih.1 (f :: stack) (g.succ f) (List.nodup_cons.2 ⟨hmem, hnd⟩)
          (List.forall_mem_cons.2 ⟨hf, hlt⟩) (fun c hc' => hc.succ_lt f c hf hc')
          (by rw [List.length_cons]; omega)

/-- **discovery returns** from any reachable guard stack -/
theorem forged_total (g : FGraph) (n : Nat) (hc : ClosedGraph g n) (stack : List Nat) (hnd : stack.Nodup)
    (hlt : ∀ x ∈ stack, x < n) (c : Option Nat) (hcn : ∀ f, c = some f → f < n) :
    ∃ r, forgedF g (2 * n + 2) stack c = some r :=
  Option.isSome_iff_exists.1 ((total_aux g n hc _).1 stack c hnd hlt hcn (by omega))

/-- **the retrieval of any function of any closed call graph returns** -/
theorem examine_total (g : FGraph) (n f : Nat) (hc : ClosedGraph g n) (hf : f < n) :
    ∃ t, examineTrace g n f = some t := by
  obtain ⟨r, hr⟩ := forged_total g n hc [] List.nodup_nil (by simp) (some f) (by intro f' h; cases h; exact hf)
  exact ⟨r.1, by simp [examineTrace, hr]⟩

/-! ### the code before D88 -/

def selfLoop : FGraph := { succ := fun _ => some 0, hinted := fun _ => true }

/-- a decorated function that forwards to itself: no amount of fuel suffices on the old code -/
theorem old_self_loop_diverges : ∀ (b : Nat) (stack : List Nat),
    forgedOldF selfLoop b stack (some 0) = none ∧ hintedOldF selfLoop b stack 0 = none
  | 0, stack => ⟨by rw [forgedOldF], by rw [hintedOldF]⟩
  | b + 1, stack => by
    have ih := old_self_loop_diverges b stack
    have hh : selfLoop.hinted 0 = true := rfl
    have hs : selfLoop.succ 0 = some 0 := rfl
    -- the retrieval goes to the hint route, which retrieves the callee: the function itself
    constructor
    · rw [forgedOldF, if_pos hh, ih.2]
    · rw [hintedOldF, hs, ih.1]

example : ClosedGraph selfLoop 1 := ⟨by intro f c hf h; simp [selfLoop] at h; omega⟩

/-- the repaired code answers on the same graph: six guard entries, each followed by its outcome -/
example : (examineTrace selfLoop 1 0).map List.length = some 12 := by decide

def Ev.depthLe (n : Nat) : Ev → Prop
  | .enter _ d => d ≤ n
  | _ => True

def DepthsLe (n : Nat) (t : List Ev) : Prop := ∀ e ∈ t, e.depthLe n

theorem DepthsLe.append {n : Nat} {a b : List Ev} (ha : DepthsLe n a) (hb : DepthsLe n b) : DepthsLe n (a ++ b) := by
  intro e he
  rcases List.mem_append.1 he with h | h
  · exact ha e h
  · exact hb e h

/-- what a guarded examination records: its entry, at the depth of the stack, the events of the
    retrieval inside it, its outcome -/
theorem DepthsLe.guarded {n d : Nat} {f : Option Nat} {t : List Ev} {last : Ev} (hd : d ≤ n)
    (ht : DepthsLe n t) (hl : last.depthLe n) : DepthsLe n (.enter f d :: t ++ [last]) := by
  intro e he
  simp only [List.mem_cons, List.mem_append, List.mem_nil_iff, or_false] at he
  rcases he with (rfl | he) | rfl
  · exact hd
  · exact ht e he
  · exact hl

theorem DepthsLe.forgedOf {n : Nat} (g : FGraph) (f : Nat) {r : List Ev × Option (List Nat)}
    (h : DepthsLe n r.1) : DepthsLe n (forgedOf g f r).1 := by
  obtain ⟨t, _ | names⟩ := r
  · rw [SV.forgedOf]
    split
    · exact h.append h
    · exact h
  · exact h

theorem DepthsLe.guardedOf {n d : Nat} (g : FGraph) (f : Nat) {r : List Ev × List Nat} (hd : d ≤ n)
    (h : DepthsLe n r.1) : DepthsLe n (guardedOf g f d r).1 := by
  rw [SV.guardedOf]
  split
  · exact .guarded hd h trivial
  · exact .guarded hd h trivial

/-- **no guard event is ever recorded deeper than the number of functions**: the nesting of
    examinations is bounded by the size of the call graph, whatever its shape -/
theorem depth_bounded (g : FGraph) (n : Nat) (hc : ClosedGraph g n) :
    ∀ (b : Nat),
      (∀ (stack : List Nat) (c : Option Nat) (r : List Ev × List Nat), stack.Nodup → (∀ x ∈ stack, x < n) →
        (∀ f, c = some f → f < n) → forgedF g b stack c = some r → DepthsLe n r.1) ∧
      (∀ (stack : List Nat) (f : Nat) (r : List Ev × Option (List Nat)), stack.Nodup → (∀ x ∈ stack, x < n) →
        f < n → guardedF g b stack f = some r → DepthsLe n r.1) := by
  intro b
  induction b with
  | zero =>
    constructor
    · intro stack c r _ _ _ h; rw [forgedF] at h; cases h
    · intro stack f r _ _ _ h; rw [guardedF] at h; cases h
  | succ b ih =>
    constructor
    · intro stack c r hnd hlt hcn h
      cases c with
      | none =>
        cases (forgedF_none g b stack).symm.trans h
        exact .guarded (t := []) (stack_len_le n stack hnd hlt) (fun _ he => nomatch he) trivial
      | some f =>
        rw [forgedF_some] at h
        obtain ⟨r1, hg, rfl⟩ := Option.map_eq_some_iff.1 h
        exact .forgedOf g f (ih.2 stack f r1 hnd hlt (hcn f rfl) hg)
    · intro stack f r hnd hlt hf h
      have hlen := stack_len_le n stack hnd hlt
      rw [guardedF_succ] at h
      split at h
      · cases h
        exact .guarded (t := []) hlen (fun _ he => nomatch he) trivial
      · next hmem =>
        obtain ⟨r1, hfo, rfl⟩ := Option.map_eq_some_iff.1 h
        exact .guardedOf g f hlen (ih.1 (f :: stack) (g.succ f) r1 (List.nodup_cons.2 ⟨hmem, hnd⟩)
          (List.forall_mem_cons.2 ⟨hf, hlt⟩) (fun c hc' => hc.succ_lt f c hf hc') hfo)

/-- in particular for a top-level retrieval -/
theorem examine_depth_bounded (g : FGraph) (n f : Nat) (hc : ClosedGraph g n) (hf : f < n) (t : List Ev)
    (h : examineTrace g n f = some t) : DepthsLe n t := by
  simp only [examineTrace, Option.map_eq_some_iff] at h
  obtain ⟨r, hr, rfl⟩ := h
  exact (depth_bounded g n hc _).1 [] (some f) r List.nodup_nil (by simp) (by intro f' h; cases h; exact hf) hr

/-- more fuel changes nothing once the examination has returned: `examineTrace` is the behaviour of
    the procedure, not an artefact of the bound `2·n + 2` -/
theorem fuel_mono (g : FGraph) : ∀ (b : Nat),
    (∀ (stack : List Nat) (c : Option Nat) (r : List Ev × List Nat),
      forgedF g b stack c = some r → forgedF g (b + 1) stack c = some r) ∧
    (∀ (stack : List Nat) (f : Nat) (r : List Ev × Option (List Nat)),
      guardedF g b stack f = some r → guardedF g (b + 1) stack f = some r) := by
  intro b
  induction b with
  | zero =>
    constructor
    · intro stack c r h; rw [forgedF] at h; cases h
    · intro stack f r h; rw [guardedF] at h; cases h
  | succ b ih =>
    constructor
    · intro stack c r h
      cases c with
      | none =>
        rw [forgedF_none] at h ⊢
        exact h
      | some f =>
        rw [forgedF_some] at h ⊢
        obtain ⟨r1, hg, rfl⟩ := Option.map_eq_some_iff.1 h
        rw [ih.2 stack f r1 hg]
        rfl
    · intro stack f r h
      rw [guardedF_succ] at h ⊢
      by_cases hmem : f ∈ stack
      · rw [if_pos hmem] at h ⊢
        exact h
      · rw [if_neg hmem] at h ⊢
        obtain ⟨r1, hf, rfl⟩ := Option.map_eq_some_iff.1 h
        rw [ih.1 (f :: stack) (g.succ f) r1 hf]
        rfl

theorem forgedF_fuel_le (g : FGraph) (b b' : Nat) (hle : b ≤ b') (stack : List Nat) (c : Option Nat)
    (r : List Ev × List Nat) (h : forgedF g b stack c = some r) : forgedF g b' stack c = some r := by
  induction hle with
  | refl => exact h
  | step _ ih => exact (fuel_mono g _).1 stack c r ih

end SV
