/-
  Props/C12.lean — property C12 (kwoargs / posoargs / autokwoargs: advertised signature equals
  call behaviour) and the modifier half of C18 (order independence of stacking).
  Property theorems + non-vacuity examples; helper lemmas in Sigverif/Lemmas/C12*.lean,
  the specification `pokSpec` / `admissible` in Lemmas/C12Prep.lean.
-/
import Sigverif.Props.Defs
import Sigverif.Model.Modifiers
import Sigverif.Lemmas.C12Spec
import Sigverif.Lemmas.C12Ext
import Sigverif.Lemmas.C12Names
import Sigverif.Lemmas.C12Main
import Sigverif.Lemmas.Eval
namespace SV

/-- a keyword names a positional-only parameter of the advertised signature next to **kwargs
    (version-dependent semantics, excluded by the property) -/
def versionDependent (A : List Param) (kwargs : List (Nat × Nat)) : Prop :=
  hasVk A = true ∧ ∃ kv ∈ kwargs, ∃ p ∈ A, p.kind = .po ∧ p.name = kv.1

theorem prepare_spec (F A : List Param) (P W : List Nat) (kp : List (Nat × Param))
    (hwf : WF F) (h : prepare F P W = .ok (A, kp)) : A = pokSpec F P W :=
  congrArg Prod.fst ((prepare_eq_ok_iff F P W hwf _).1 h).2

theorem prepare_err (F : List Param) (P W : List Nat) (e : Err)
    (hwf : WF F) (h : prepare F P W = .error e) : e = .valueError := by
  rcases prepare_cases F P W hwf with ⟨-, he⟩ | ⟨-, he⟩ <;> rw [he] at h <;> cases h
  rfl

/-- inadmissible selections raise ValueError at decoration time, admissible ones do not -/
theorem prepare_ok_iff (F : List Param) (P W : List Nat) (hwf : WF F) :
    (∃ r, prepare F P W = .ok r) ↔ admissible F P W := by
  rcases prepare_cases F P W hwf with ⟨ha, he⟩ | ⟨ha, he⟩ <;> rw [he]
  · exact ⟨fun _ => ha, fun _ => ⟨_, rfl⟩⟩
  · exact ⟨fun ⟨_, h⟩ => (nomatch h), fun h => absurd h ha⟩

/-- the advertised signature is itself a valid one -/
theorem prepare_wf (F A : List Param) (P W : List Nat) (kp : List (Nat × Param))
    (hwf : WF F) (h : prepare F P W = .ok (A, kp)) : WF A := by
  obtain ⟨hadm, hr⟩ := (prepare_eq_ok_iff F P W hwf _).1 h
  cases hr
  obtain ⟨hs, hn, hdf⟩ := validOk_iff_C12.1 hwf.1
  exact (pokSpec_valid F P W hwf ((admissible_iff F hn hadm.1).2 hadm).1.2.1).2

/-- THE central statement: the decorated callable accepts exactly the calls the advertised
    signature accepts and delivers every argument and default to the same parameter -/
theorem call_exact (F A : List Param) (P W : List Nat) (kp : List (Nat × Param))
    (args : List Nat) (kwargs : List (Nat × Nat))
    (hwf : WF F) (h : prepare F P W = .ok (A, kp))
    (hk : (kwargs.map (·.1)).Nodup) (hvd : ¬ versionDependent A kwargs) :
    match decoratedCall F P kp args kwargs, bindCall A args kwargs with
    | some b1, some b2 => b1.equiv b2
    | none, none => True
    | _, _ => False := by
  obtain ⟨hadm, hr⟩ := (prepare_eq_ok_iff F P W hwf _).1 h
  cases hr
  obtain ⟨hs, hn, hdf⟩ := validOk_iff_C12.1 hwf.1
  have R := callRel_pokSpec F P W hwf hadm
  rw [kwPosFrom_positionals P W F hs]
  by_cases hany : kwargs.any (fun kv => P.contains kv.1) = true
  · -- a keyword names a parameter made positional-only
    rw [decoratedCall_of_kw_in_P hany]
    obtain ⟨kv, hkv, hkvP⟩ := List.any_eq_true.1 hany
    have hkvP : kv.1 ∈ P := by simpa using hkvP
    have hnotok : ¬ callOK (pokSpec F P W) args kwargs := by
      rintro ⟨-, ⟨-, h2⟩, -⟩
      have hnk : kv.1 ∉ kwNames (pokSpec F P W) := fun hc => ((R.hkw kv.1).1 hc).2 hkvP
      have hvk := h2 kv (List.mem_filter.2 ⟨hkv, by simpa using hnk⟩)
      apply hvd
      refine ⟨hvk, kv, hkv, ?_⟩
      obtain ⟨p, hp, hpn, hpk⟩ := hadm.2.1 _ hkvP
      have hw : p.name ∉ W := by rw [hpn]; exact hadm.1 _ hkvP
      refine ⟨markPo P p, (mem_pokSpec F P W _).2 (Or.inl ⟨p, hp, hpk, hw, rfl⟩), ?_, ?_⟩
      · simp [markPo, hpn, hkvP, Param.withKind]
      · rw [markPo_name, hpn]
    rw [bindCall_eq_none _ _ _ R.hnA hk hnotok]
    trivial
  · have hnoP : ∀ kv ∈ kwargs, kv.1 ∉ P := by
      intro kv hkv hP
      exact hany (List.any_eq_true.2 ⟨kv, hkv, by simpa using hP⟩)
    by_cases hval : ∀ f ∈ positionals F, isKwo P W f = true →
        ((dget kwargs f.name).or f.dflt).isSome = true
    · -- every keyword-only parameter gets a value: the translated call against the native one
      rw [decoratedCall_of_values hn hany hval]
      exact R.compare args kwargs hnoP hval hk
    · -- a keyword-only parameter without default is not passed: both sides refuse
      have hex : ∃ f ∈ positionals F, isKwo P W f = true ∧ (dget kwargs f.name).or f.dflt = none := by
        simpa only [Classical.not_forall, Classical.not_imp, Option.not_isSome_iff_eq_none, exists_prop] using hval
      rw [decoratedCall_of_missing hany hex]
      obtain ⟨f, hf, hw, hv⟩ := hex
      rw [bindCall_eq_none _ _ _ R.hnA hk (R.not_callOK_of_missing args kwargs hf hw hv)]
      trivial

/-- C18 (modifier half): the result depends only on the *sets* of names, so any two orders of
    stacking the same modifiers (each stacking step unions the name sets) give the same
    advertised signature and the same translation table -/
theorem prepare_set_ext (F : List Param) (P P' W W' : List Nat)
    (hP : ∀ x, x ∈ P ↔ x ∈ P') (hW : ∀ x, x ∈ W ↔ x ∈ W') :
    prepare F P W = prepare F P' W' := by
  rw [prepare_eq, prepare_eq]
  have h1 : P.any (fun x => W.contains x) = P'.any (fun x => W'.contains x) := by
    rw [Bool.eq_iff_iff]; simp [List.any_eq_true, hP, hW]
  rw [h1, ← prepLoop_congr hP hW]
  have h0 : tuEquiv (st0 P W) (st0 P' W') := by
    refine ⟨rfl, rfl, rfl, rfl, rfl, fun x => ?_⟩
    simp [st0, mem_dedup, hP, hW]
  have := prepLoop_equiv (P := P) (W := W) h0 0 F
  cases ha : prepLoop P W (st0 P W) 0 F <;> cases hb : prepLoop P W (st0 P' W') 0 F <;>
    rw [ha, hb] at this <;> simp only [resEquiv] at this
  · subst this; rfl
  · obtain ⟨e1, e2, e3, e4, e5, e6⟩ := this
    simp only [finalParams, e1, e2, e3, e5, isEmpty_congr e6]

/-- the convenience forms select what the documentation says -/
theorem startNames_spec (F : List Param) (start : Nat) (w : List Nat) (hwf : WF F)
    (h : startNames F start [] = .ok w) :
    ∃ pre post, (F.filter (fun p => p.kind = .pk)).map (·.name) = pre ++ start :: post ∧
      start ∉ pre ∧ w = start :: post := by
  obtain ⟨hs, hn, -⟩ := validOk_iff_C12.1 hwf.1
  unfold startNames at h
  rw [dedup_nil] at h
  rcases startGo_false F start [] hs hn (by simp) with ⟨-, h2⟩ | ⟨pre, post, h1, h2, h3⟩
  · rw [h2] at h; simp at h
  · rw [h3] at h; simp at h
    exact ⟨pre, post, h1, h2, h.symm⟩

theorem endNames_spec (F : List Param) (end_ : Nat) (w : List Nat) (hwf : WF F)
    (h : endNames F end_ [] = .ok w) :
    ∃ pre post, (F.filter (fun p => p.kind = .pk)).map (·.name) = pre ++ end_ :: post ∧
      end_ ∉ pre ∧ w = pre ++ [end_] := by
  obtain ⟨hs, hn, -⟩ := validOk_iff_C12.1 hwf.1
  unfold endNames at h
  rw [dedup_nil] at h
  rcases endGo_false F end_ [] hs hn (by simp) with ⟨-, h2⟩ | ⟨pre, post, h1, h2, h3⟩
  · rw [h2] at h; simp at h
  · rw [h3] at h; simp at h
    exact ⟨pre, post, h1, h2, h.symm⟩

theorem autoNames_spec (F : List Param) (w : List Nat) (h : autoNames F [] = .ok w) :
    w = (F.filter (fun p => p.kind = .pk && p.dflt.isSome)).map (·.name) := by
  rw [autoNames_nil] at h
  cases h; rfl

def exF : List Param := [⟨1, .pk, none, none, .empty⟩, ⟨2, .pk, none, none, .empty⟩, ⟨3, .pk, some 9, none, .empty⟩,
                         ⟨11, .vp, none, none, .empty⟩]
theorem exF_wf : WF exF := by decide +kernel
example : WF exF := exF_wf
/-- the advertised signature of `exF` with parameter 1 positional-only and parameter 3 keyword-only -/
def exA_C12 : List Param := [⟨1, .po, none, none, .empty⟩, ⟨2, .pk, none, none, .empty⟩,
                         ⟨11, .vp, none, none, .empty⟩, ⟨3, .ko, some 9, none, .empty⟩]
theorem exF_prepare : prepare exF [1] [3] = .ok (exA_C12, [(2, ⟨3, .pk, some 9, none, .empty⟩)]) :=
  eq_ok_of (by decide +kernel)
example : prepare exF [1] [3] = .ok (exA_C12, [(2, ⟨3, .pk, some 9, none, .empty⟩)]) := exF_prepare
example : exA_C12 = pokSpec exF [1] [3] := by decide
example : WF exA_C12 := by decide
example : ∃ A kp, prepare exF [1] [3] = .ok (A, kp) ∧
    decoratedCall exF [1] kp [5, 6, 7] [(3, 8)] = bindCall A [5, 6, 7] [(3, 8)] ∧
    (bindCall A [5, 6, 7] [(3, 8)]).isSome :=
  ⟨_, _, exF_prepare, by decide +kernel, by decide +kernel⟩
/- the keyword-only value is re-inserted at its original positional index -/
example : decoratedCall exF [1] [(2, ⟨3, .pk, some 9, none, .empty⟩)] [5, 6, 7] [(3, 8)] =
    some { named := [(1, 5), (2, 6), (3, 8)], va := some [7], vk := none } := by decide
/- errors at decoration time (prepare_err, prepare_ok_iff) -/
example : prepare exF [1] [1] = .error .valueError := by rfl
theorem exF_prepare_err : prepare exF [3] [] = .error .valueError := eq_error_of (by decide +kernel)
example : prepare exF [3] [] = .error .valueError := exF_prepare_err      -- positional-only after a kept pk
example : prepare exF [] [11] = .error .valueError := by rfl     -- *args cannot be keyword-only
example : prepare exF [] [77] = .error .valueError := by rfl     -- unknown name
example : admissible exF [1] [3] := (prepare_ok_iff exF [1] [3] exF_wf).1 ⟨_, exF_prepare⟩
example : ¬ admissible exF [3] [] := fun h => by
  obtain ⟨r, hr⟩ := (prepare_ok_iff exF [3] [] exF_wf).2 h
  rw [exF_prepare_err] at hr; cases hr
/- call_exact with **kwargs: the hypotheses are satisfiable on a call that uses them -/
def exG : List Param := [⟨1, .pk, none, none, .empty⟩, ⟨2, .pk, some 9, none, .empty⟩,
                         ⟨12, .vk, none, none, .empty⟩]
def exGA : List Param := [⟨1, .po, none, none, .empty⟩, ⟨2, .ko, some 9, none, .empty⟩,
                          ⟨12, .vk, none, none, .empty⟩]
example : WF exG := by decide
example : prepare exG [1] [2] = .ok (exGA, [(1, ⟨2, .pk, some 9, none, .empty⟩)]) := by rfl
example : (([(2, 8), (7, 9)] : List (Nat × Nat)).map (·.1)).Nodup := by decide
example : ¬ versionDependent exGA [(2, 8), (7, 9)] := by
  unfold versionDependent; decide
example : versionDependent exGA [(1, 8)] := by
  unfold versionDependent; decide
example : decoratedCall exG [1] [(1, ⟨2, .pk, some 9, none, .empty⟩)] [5] [(2, 8), (7, 9)] =
    some { named := [(1, 5), (2, 8)], va := none, vk := some [(7, 9)] } := by decide
example : bindCall exGA [5] [(2, 8), (7, 9)] =
    some { named := [(1, 5), (2, 8)], va := none, vk := some [(7, 9)] } := by decide
/- a rejected call is rejected on both sides (missing keyword-only argument without default) -/
def exH : List Param := [⟨1, .pk, none, none, .empty⟩, ⟨2, .pk, none, none, .empty⟩]
example : prepare exH [] [2] = .ok ([⟨1, .pk, none, none, .empty⟩, ⟨2, .ko, none, none, .empty⟩],
    [(1, ⟨2, .pk, none, none, .empty⟩)]) := by rfl
example : decoratedCall exH [] [(1, ⟨2, .pk, none, none, .empty⟩)] [5, 6] [] = none := by decide
example : bindCall [⟨1, .pk, none, none, .empty⟩, ⟨2, .ko, none, none, .empty⟩] [5, 6] [] = none := by
  decide
example : startNames exF 2 [] = .ok [2, 3] := by rfl
example : endNames exF 2 [] = .ok [1, 2] := by rfl
example : autoNames exF [] = .ok [3] := by rfl
/- prepare_set_ext: hypotheses satisfiable with genuinely different lists -/
example : prepare exF [1, 2] [3] = prepare exF [2, 1, 1] [3, 3] :=
  prepare_set_ext exF [1, 2] [2, 1, 1] [3] [3, 3] (by simp; omega) (by simp)

end SV
