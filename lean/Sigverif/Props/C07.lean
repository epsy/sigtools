/-
  Props/C07.lean — property C07: retrieval is total and only ever narrows the function's own
  signature.

  * totality of the walker: `visitor_total` (Props/C05Total.lean); of the fallback chain:
    `discovered_total` (Props/C06.lean)
  * narrowing, the part that is logic: whatever automatic discovery returns for a plain function
    is the function's own signature, or a merge of `forwards(own, callee, …)` signatures, each of
    which only accepts calls the function's own parameter list accepts:
      - `forwards_narrows(_pos)`  one declaration, every non-colliding (all-positional) call
      - `discovered_narrows_of`   discovery narrows for every call for which `merge` is sound
      - `discovered_narrows_pos`  any number of forwarding calls, all-positional calls
    (for several forwarding calls and mixed calls the merge is only sound when the forwarded
     signatures are role-consistent — finding D23 is the counterexample on the real code;
     that case is `discovered_narrows` in Props/C07kw.lean)
  * every result is a well-formed signature: `discovered_wf`
-/
import Sigverif.Props.C06
import Sigverif.Props.C01
import Sigverif.Props.C02
import Sigverif.Lemmas.ResultWF
namespace SV

/-- `embed(o, M)` only accepts calls that `o` accepts -/
theorem embed_narrows (o M R : USig) (uva uvk : Bool) (n : Nat) (K : List Nat)
    (ho : WF o.params) (hM : WF M.params) (hK : K.Nodup)
    (hR : embed uva uvk [o, M] = .ok R)
    (hnc : nonColl R.params [o.params, M.params] K)
    (hacc : accepts R.params n K = true) : accepts o.params n K = true := by
  have := embed_sound o M R uva uvk n K ho hM hK hR hnc hacc
  unfold composite at this
  simp only [Bool.and_eq_true] at this
  exact this.1

/-- a declaration `forwards(own, callee, …)` — whatever the flags — only accepts all-positional
    calls that the function's own parameter list accepts -/
theorem forwards_narrows_pos (o i R : USig) (n m : Nat) (nms : List Nat) (ha hk uva uvk pt : Bool)
    (ho : WF o.params) (hi : WF i.params)
    (hR : forwards o i n nms ha hk uva uvk pt = .ok R)
    (hacc : accepts R.params m [] = true) : accepts o.params m [] = true := by
  obtain ⟨M, hM, hE⟩ := forwards_ok_embed o i R n nms ha hk uva uvk pt hi hR
  exact embed_narrows o M R uva uvk m [] ho hM (by simp) hE (by intro k hk; cases hk) hacc

/-- … and (without `partial=True`) every non-colliding call -/
theorem forwards_narrows (o i R : USig) (n m : Nat) (nms K : List Nat) (ha hk uva uvk : Bool)
    (ho : WF o.params) (hi : WF i.params) (hK : K.Nodup)
    (hR : forwards o i n nms ha hk uva uvk false = .ok R)
    (hnc : nonColl R.params [o.params, i.params] K)
    (hacc : accepts R.params m K = true) : accepts o.params m K = true := by
  obtain ⟨M, hM, hE⟩ := forwards_false_ok hR
  have hMwf := mask_wf i M n nms _ hi hM
  exact embed_narrows o M R uva uvk m K ho hMwf hK hE (nonColl_outer_masked hi hM hnc) hacc

theorem forwards_false_of {o i M R : USig} {n : Nat} {nms : List Nat} {ha hk uva uvk : Bool}
    (hM : mask i n nms { args := ha, kwargs := hk } = .ok M) (hE : embed uva uvk [o, M] = .ok R) :
    forwards o i n nms ha hk uva uvk false = .ok R := by
  rw [forwards_false_eq, hM]
  exact hE

/-- what a forwarding call record declares narrows the own signature (positional calls) -/
theorem declared_narrows_pos (own : USig) (resolve : RM → RVal) (c : CallRec) (s : USig) (m : Nat)
    (ho : WF own.params) (hres : ∀ r w, resolve r = .fn w → WF w.params)
    (hd : declared own resolve c = .ok s) (hacc : accepts s.params m [] = true) :
    accepts own.params m [] = true := by
  obtain ⟨r, w, n, pt, hr, -, hf⟩ := declared_ok hd
  exact forwards_narrows_pos own w s n m _ _ _ _ _ pt ho (hres r w hr) hf hacc

theorem declared_wf (own : USig) (resolve : RM → RVal) (c : CallRec) (s : USig)
    (hres : ∀ r w, resolve r = .fn w → WF w.params)
    (hd : declared own resolve c = .ok s) : WF s.params := by
  obtain ⟨r, w, n, pt, hr, -, hf⟩ := declared_ok hd
  exact forwards_result_wf own w s n _ _ _ _ _ pt (hres r w hr) hf

theorem declaredAll_wf {own : USig} {resolve : RM → RVal} {cs : List CallRec} {ss : List USig}
    (hres : ∀ r w, resolve r = .fn w → WF w.params) (h : declaredAll own resolve cs = .ok ss) :
    ∀ s ∈ ss, WF s.params := by
  intro s hs
  obtain ⟨c, -, hc⟩ := declaredAll_mem own resolve cs ss h s hs
  exact declared_wf own resolve c s hres hc

/-- discovery narrows for a call `(m, K)` as soon as `merge` is sound for it (a call the merged
    signature accepts is accepted by the per-call signatures) and each per-call signature narrows -/
theorem discovered_narrows_of {own R : USig} {resolve : RM → RVal} {cs : List CallRec} {m : Nat} {K : List Nat}
    (hd : discovered own resolve (some cs) = .ok R) (hacc : accepts R.params m K = true)
    (hmerge : ∀ ss, declaredAll own resolve (forwarding cs) = .ok ss → merge ss = .ok R →
      ∀ s ∈ ss, accepts s.params m K = true)
    (hnar : ∀ c ∈ forwarding cs, ∀ s, declared own resolve c = .ok s → accepts s.params m K = true →
      accepts own.params m K = true) :
    accepts own.params m K = true := by
  rcases discovered_some_ok hd with rfl | ⟨s, ss, hall, hm⟩
  · exact hacc
  · obtain ⟨c, hc, hdc⟩ := declaredAll_mem own resolve _ _ hall s List.mem_cons_self
    exact hnar c hc s hdc (hmerge _ hall hm s List.mem_cons_self)

/-- **discovery only narrows** (all-positional calls, any number of forwarding calls, any flags):
    a call accepted by the discovered signature is accepted by the function's own `def` -/
theorem discovered_narrows_pos (own R : USig) (resolve : RM → RVal) (cs : Option (List CallRec)) (m : Nat)
    (ho : WF own.params) (hres : ∀ r w, resolve r = .fn w → WF w.params)
    (hd : discovered own resolve cs = .ok R) (hacc : accepts R.params m [] = true) :
    accepts own.params m [] = true := by
  cases cs with
  | none =>
    simp only [discovered, Except.ok.injEq] at hd
    subst hd; exact hacc
  | some cs =>
    exact discovered_narrows_of hd hacc
      (fun ss hall hm => merge_sound_pos ss R m (declaredAll_wf hres hall) hm hacc)
      (fun c _ s hdc hs => declared_narrows_pos own resolve c s m ho hres hdc hs)

/-- whatever discovery returns is a well-formed signature -/
theorem discovered_wf (own R : USig) (resolve : RM → RVal) (cs : Option (List CallRec))
    (ho : WF own.params) (hd : discovered own resolve cs = .ok R) : WF R.params := by
  cases cs with
  | none => simp only [discovered, Except.ok.injEq] at hd; subst hd; exact ho
  | some cs =>
    rcases discovered_some_ok hd with rfl | ⟨s, ss, -, hm⟩
    · exact ho
    · exact merge_result_wf _ _ hm

end SV
