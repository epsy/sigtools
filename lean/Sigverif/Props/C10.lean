/-
  Props/C10.lean — property C10 (defaults, annotations, kinds of combined parameters).

  One-step rules of `_concile_meta` (theorems), their n-ary lift for defaults (theorem),
  the n-ary annotation rule REFUTED on the code as it stands (finding D14) with the two
  `_partial` theorems that state what remains true.
-/
import Sigverif.Props.Defs
namespace SV

/-- a combined parameter is optional only if (in fact: iff) both contributors are -/
theorem concile_optional (l r : Param) :
    (concile l r).dflt.isSome = (l.dflt.isSome && r.dflt.isSome) := by
  unfold concile
  cases l.dflt <;> cases r.dflt <;> simp
  split <;> simp

/-- its default is the common default, or None (token 0) when they differ -/
theorem concile_default (l r : Param) (a b : Nat) (hl : l.dflt = some a) (hr : r.dflt = some b) :
    (concile l r).dflt = some (if a = b then a else 0) := by
  unfold concile
  simp [hl, hr]
  split <;> simp_all

/-- annotation: the one both annotated contributors agree on; the only one; otherwise none -/
theorem concile_annotation (l r : Param) :
    (concile l r).ann =
      match l.ann, r.ann with
      | some a, some b => if a = b then some a else none
      | some a, none => some a
      | none, some b => some b
      | none, none => none := by
  unfold concile
  cases l.ann <;> cases r.ann <;> simp
  split <;> simp

/-- the upgraded annotation travels with the raw one (the left one when both agree) -/
theorem concile_uann (l r : Param) :
    (concile l r).uann =
      match l.ann, r.ann with
      | some a, some b => if a = b then l.uann else .empty
      | some _, none => l.uann
      | none, some _ => r.uann
      | none, none => .empty := by
  unfold concile
  cases l.ann <;> cases r.ann <;> simp
  split <;> simp

/-- name and kind are the left contributor's -/
theorem concile_name_kind (l r : Param) : (concile l r).name = l.name ∧ (concile l r).kind = l.kind := by
  unfold concile; simp

/-! ### n-ary lift for defaults: folding `concile` over any number of contributors -/

def concileAll (p : Param) (qs : List Param) : Param := qs.foldl concile p

theorem concileAll_cons (p q : Param) (qs : List Param) :
    concileAll p (q :: qs) = concileAll (concile p q) qs := rfl

/-- optional iff every contributor is optional — for any number of contributors -/
theorem merged_optional_iff_all (p : Param) (qs : List Param) :
    (concileAll p qs).dflt.isSome = (p.dflt.isSome && qs.all (fun q => q.dflt.isSome)) := by
  induction qs generalizing p with
  | nil => simp [concileAll]
  | cons q qs ih => rw [concileAll_cons, ih, concile_optional, List.all_cons, Bool.and_assoc]

/-- the default is the common value when all contributors agree on `v` -/
theorem merged_default_common (p : Param) (qs : List Param) (v : Nat)
    (hp : p.dflt = some v) (hq : ∀ q ∈ qs, q.dflt = some v) :
    (concileAll p qs).dflt = some v := by
  induction qs generalizing p with
  | nil => exact hp
  | cons q qs ih =>
    rw [concileAll_cons]
    apply ih
    · rw [concile_default p q v v hp (hq q List.mem_cons_self), if_pos rfl]
    · exact fun q' hq' => hq q' (List.mem_cons_of_mem _ hq')

/-- once the default is None (token 0) it stays None, all further contributors being optional -/
theorem concileAll_default_none (c : Param) (qs : List Param) (hc : c.dflt = some 0)
    (hall : ∀ x ∈ qs, x.dflt.isSome) : (concileAll c qs).dflt = some 0 := by
  induction qs generalizing c with
  | nil => exact hc
  | cons x xs ih =>
    rw [concileAll_cons]
    apply ih
    · obtain ⟨d, hd⟩ := Option.isSome_iff_exists.mp (hall x List.mem_cons_self)
      rw [concile_default c x 0 d hc hd, ite_self]
    · exact fun y hy => hall y (List.mem_cons_of_mem _ hy)

/-- … and None (token 0) as soon as two of them differ, whatever comes later
    (all contributors being optional) -/
theorem merged_default_none_of_differ (p q : Param) (qs : List Param) (a b : Nat)
    (hp : p.dflt = some a) (hq : q.dflt = some b) (hab : a ≠ b)
    (hall : ∀ x ∈ qs, x.dflt.isSome) :
    (concileAll p (q :: qs)).dflt = some 0 := by
  apply concileAll_default_none _ _ _ hall
  rw [concile_default p q a b hp hq, if_neg hab]

/-! ### annotations, n-ary: REFUTED as stated (known finding D14) -/

/-- the property's rule for annotations, n-ary -/
def annRule (anns : List (Option Nat)) : Option Nat :=
  match anns.filterMap id with
  | [] => none
  | a :: rest => if rest.all (· = a) then some a else none

/-- D14 witness: contributors annotated 2, 4, 4 — the rule says "none", the fold says 4 -/
theorem concile_annotation_nary_refuted :
    ∃ p q r : Param, (concileAll p [q, r]).ann ≠ annRule [p.ann, q.ann, r.ann] :=
  ⟨{ name := 1, kind := .pk, ann := some 2, uann := .pre 2 },
   { name := 1, kind := .pk, ann := some 4, uann := .pre 4 },
   { name := 1, kind := .pk, ann := some 4, uann := .pre 4 }, by decide⟩

/-- one conciliation of two contributors that are annotated `a` or not at all: so is the result, and
    it is annotated as soon as one of the two is -/
theorem concile_annotation_agree (l r : Param) (a : Nat)
    (hl : l.ann = none ∨ l.ann = some a) (hr : r.ann = none ∨ r.ann = some a) :
    ((concile l r).ann = none ∨ (concile l r).ann = some a) ∧
    (l.ann = some a ∨ r.ann = some a → (concile l r).ann = some a) := by
  rw [concile_annotation]
  rcases hl with hl | hl <;> rcases hr with hr | hr <;> simp [hl, hr]

/-- what remains true for any number of contributors: when the annotated ones all agree on `a`
    (or none is annotated), the result carries exactly that -/
theorem merged_annotation_partial (p : Param) (qs : List Param) (a : Nat)
    (hp : p.ann = none ∨ p.ann = some a) (hq : ∀ q ∈ qs, q.ann = none ∨ q.ann = some a) :
    (concileAll p qs).ann = none ∨ (concileAll p qs).ann = some a := by
  induction qs generalizing p with
  | nil => exact hp
  | cons q qs ih =>
    rw [concileAll_cons]
    exact ih _ (concile_annotation_agree p q a hp (hq q List.mem_cons_self)).1
      (fun q' hq' => hq q' (List.mem_cons_of_mem _ hq'))

/-- … and it is annotated as soon as one contributor is (under the same agreement) -/
theorem merged_annotation_partial_some (p : Param) (qs : List Param) (a : Nat)
    (hp : p.ann = none ∨ p.ann = some a) (hq : ∀ q ∈ qs, q.ann = none ∨ q.ann = some a)
    (hex : p.ann = some a ∨ ∃ q ∈ qs, q.ann = some a) :
    (concileAll p qs).ann = some a := by
  induction qs generalizing p with
  | nil =>
    rcases hex with h | ⟨q, hq', _⟩
    · exact h
    · cases hq'
  | cons q qs ih =>
    have step := concile_annotation_agree p q a hp (hq q List.mem_cons_self)
    rw [concileAll_cons]
    refine ih _ step.1 (fun q' hq' => hq q' (List.mem_cons_of_mem _ hq')) ?_
    rcases hex with h | ⟨x, hx, hxa⟩
    · exact .inl (step.2 (.inl h))
    · rcases List.mem_cons.mp hx with rfl | hx'
      · exact .inl (step.2 (.inr hxa))
      · exact .inr ⟨x, hx', hxa⟩

/-! non-vacuity -/
example : (concileAll { name := 1, kind := .pk, dflt := some 1 }
    [{ name := 1, kind := .pk, dflt := some 2 }, { name := 1, kind := .pk, dflt := some 1 }]).dflt = some 0 := by decide

end SV
