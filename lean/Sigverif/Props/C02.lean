/-
  Props/C02.lean — property C02 (embed): ONLY property theorems + non-vacuity examples.

  C02: For embed(outer, inner, use_varargs, use_varkwargs), every non-colliding call the result
  accepts is accepted by outer, and the surplus positional and keyword arguments outer would collect
  in the star parameters it forwards are accepted by inner; unless outer has defaulted positional
  parameters that end up followed by inner positional parameters, the result accepts exactly those
  calls.  It raises IncompatibleSignatures only when both declare a same-named parameter or when no
  call at all could succeed; embed(a, b, c) has the same parameters as embed(embed(a, b), c), and
  embedding into a bare (*args, **kwargs) returns the inner parameters unchanged.
-/
import Sigverif.Lemmas.C02Raise
import Sigverif.Lemmas.Eval
namespace SV

theorem embed_sound (o i R : USig) (uva uvk : Bool) (n : Nat) (K : List Nat)
    (ho : WF o.params) (hi : WF i.params) (hK : K.Nodup)
    (hR : embed uva uvk [o, i] = .ok R)
    (hnc : nonColl R.params [o.params, i.params] K)
    (hacc : accepts R.params n K = true) :
    composite o.params i.params uva uvk n K = true := by
  obtain ⟨r, hRr, hkr, F⟩ := embed_merge_tail_facts ho hi hR
  rw [composite_iff ho hi n K hK]
  rw [hRr, accepts_all_iff _ hkr _ _ hK] at hacc
  exact abstract_sound F rfl rfl n K (nonColl_view ho hi hRr hkr hnc) hacc

theorem embed_exact (o i R : USig) (uva uvk : Bool) (n : Nat) (K : List Nat)
    (ho : WF o.params) (hi : WF i.params) (hK : K.Nodup)
    (hR : embed uva uvk [o, i] = .ok R)
    (hnc : nonColl R.params [o.params, i.params] K)
    (hex : ¬ defaultedOuterBeforeInner o.params i.params R.params) :
    accepts R.params n K = composite o.params i.params uva uvk n K := by
  obtain ⟨r, hRr, hkr, F⟩ := embed_merge_tail_facts ho hi hR
  rw [Bool.eq_iff_iff, composite_iff ho hi n K hK, hRr, accepts_all_iff _ hkr _ _ hK]
  exact ⟨abstract_sound F rfl rfl n K (nonColl_view ho hi hRr hkr hnc),
    abstract_complete F rfl rfl (fun h => hex (defaultedOuterBeforeInner_of ho hi hRr hkr F h)) n K (nonColl_view ho hi hRr hkr hnc)⟩

theorem embed_raises_only_if (o i : USig) (uva uvk : Bool)
    (ho : WF o.params) (hi : WF i.params)
    (hR : embed uva uvk [o, i] = .error .incompatible) :
    sharedNamed o.params i.params ∨
      ∀ n K, K.Nodup → composite o.params i.params uva uvk n K = false := by
  rcases embed_two_error hR with ⟨e, hm⟩ | ⟨i', e, hm, ht⟩
  · exact .inr (composite_false_of_mergeStars_error ho hi hm)
  · exact .inl (sharedNamed_of_tail_error ho hi hm ht)

-- `ha` and `hb` are not needed: a successful `embed` of the first two is all the proof uses
set_option linter.unusedVariables false in
/-- embed(a, b, c, …) has the same parameters as embed(embed(a, b), c, …) -/
theorem embed_fold_params (a b M : USig) (rest : List USig) (uva uvk : Bool)
    (ha : WF a.params) (hb : WF b.params) (hM : embed uva uvk [a, b] = .ok M) :
    (embed uva uvk (a :: b :: rest)).map (·.params) = (embed uva uvk (M :: rest)).map (·.params) :=
  embed_cons_cons_params rest hM

/- ORIGINAL STATEMENT (false in the model, see the counterexamples below):
theorem embed_bare (o i R : USig) (a k : Param) (hi : WF i.params)
    (ha : a.kind = .vp) (hk : k.kind = .vk) (hb : o.params = [a, k])
    (hann : a.ann = none ∧ k.ann = none)
    (hR : embed true true [o, i] = .ok R) : R.params = i.params
-/
/-- embedding into a bare (*args, **kwargs) returns the inner parameters unchanged.
    ADDED HYPOTHESIS `hstar`: the star parameters of the inner signature carry no default and no
    upgraded annotation without a raw annotation (always true of real `inspect.Parameter`s, but not
    implied by `WF`); `_concile_meta` otherwise normalises them. -/
theorem embed_bare (o i R : USig) (a k : Param) (hi : WF i.params)
    (ha : a.kind = .vp) (hk : k.kind = .vk) (hb : o.params = [a, k])
    (hann : a.ann = none ∧ k.ann = none)
    (hstar : ∀ p ∈ i.params, (p.kind = .vp ∨ p.kind = .vk) →
               p.dflt = none ∧ (p.ann = none → p.uann = .empty))
    (hR : embed true true [o, i] = .ok R) : R.params = i.params := by
  obtain ⟨i', c, h1, -, -, h3⟩ := embed_two_stars hR
  have hall := sortParams_all hi
  have hs := sortParams_swf hi
  rw [sortParams_bare o a k ha hk hb] at h1 h3
  -- the merge keeps every bucket of the inner signature, the two stars by `hstar` …
  simp only [if_true, mergeStars_bare hs.bk hs.parts.2.2.1 hann.1 hann.2 (hall ▸ hstar), Except.ok.injEq] at h1
  -- … and the outer signature has nothing to put in front of them
  rw [h3, ← hall, ← h1]
  simp only [Sorted.all, embedRes, ePosC, ePokC, cdIf_nil, List.map_nil, List.append_nil, List.nil_append,
    if_true, pupdate_nil, pupdate_of_nodup [] _ hs.parts.2.2.1]
  cases hp : (sortParams i).pos <;> simp

/-! counterexamples to the original `embed_bare` (model-level: a `*args` with a default, or with an
    upgraded annotation but no raw annotation — neither can be built with `inspect.Parameter`) -/
def cxO : USig := { params := [⟨11, .vp, none, none, .empty⟩, ⟨12, .vk, none, none, .empty⟩] }
def cxI1 : USig := { params := [⟨1, .vp, some 5, none, .empty⟩] }
def cxI2 : USig := { params := [⟨1, .vp, none, none, .pre 3⟩] }
example : WF cxI1.params ∧ WF cxI2.params := by decide +kernel
example : cxO.params = [⟨11, .vp, none, none, .empty⟩, ⟨12, .vk, none, none, .empty⟩] := rfl
/-- `(*a, **k)` around `(*x = 5)` gives `(*x)`: the default is dropped -/
example : ∃ R, embed true true [cxO, cxI1] = .ok R ∧ R.params ≠ cxI1.params := by
  obtain ⟨R, h, hp⟩ := embed_two_ok_of (o := cxO) (i := cxI1) (uva := true) (uvk := true)
    (ps := [⟨1, .vp, none, none, .empty⟩]) (eq_ok_of (by decide +kernel))
  exact ⟨R, h, by rw [hp]; decide +kernel⟩
/-- `(*a, **k)` around `(*x)` with an upgraded but no raw annotation: the upgraded one is dropped -/
example : ∃ R, embed true true [cxO, cxI2] = .ok R ∧ R.params ≠ cxI2.params := by
  obtain ⟨R, h, hp⟩ := embed_two_ok_of (o := cxO) (i := cxI2) (uva := true) (uvk := true)
    (ps := [⟨1, .vp, none, none, .empty⟩]) (eq_ok_of (by decide +kernel))
  exact ⟨R, h, by rw [hp]; decide +kernel⟩

def exO : USig := { params := [⟨1, .pk, none, none, .empty⟩, ⟨11, .vp, none, none, .empty⟩, ⟨12, .vk, none, none, .empty⟩],
                    src := [(1, [7]), (11, [7]), (12, [7])], depths := [(7, 0)] }
def exI : USig := { params := [⟨2, .pk, none, none, .empty⟩, ⟨3, .ko, some 1, none, .empty⟩],
                    src := [(2, [8]), (3, [8])], depths := [(8, 0)] }
example : WF exO.params ∧ WF exI.params := by decide +kernel
/-- `(a, *args, **kwargs)` around `(b, *, c=1)` gives `(a, b, *, c=1)` -/
theorem embed_exO_exI : ∃ R, embed true true [exO, exI] = .ok R ∧
    R.params = [⟨1, .pk, none, none, .empty⟩, ⟨2, .pk, none, none, .empty⟩,
                ⟨3, .ko, some 1, none, .empty⟩] :=
  embed_two_ok_of (eq_ok_of (by decide +kernel))
example : ∃ R, embed true true [exO, exI] = .ok R ∧ accepts R.params 2 [3] = true ∧
    composite exO.params exI.params true true 2 [3] = true := by
  obtain ⟨R, h, hp⟩ := embed_exO_exI
  exact ⟨R, h, by rw [hp]; decide +kernel, by decide +kernel⟩

/-- all hypotheses of `embed_sound` / `embed_exact` hold together on a non-trivial input -/
example : ∃ R, embed true true [exO, exI] = .ok R ∧ [3].Nodup ∧
    nonColl R.params [exO.params, exI.params] [3] ∧ accepts R.params 2 [3] = true ∧
    ¬ defaultedOuterBeforeInner exO.params exI.params R.params := by
  obtain ⟨R, h, hp⟩ := embed_exO_exI
  refine ⟨R, h, by decide +kernel, ?_, ?_, ?_⟩
  · rw [hp]; decide +kernel
  · rw [hp]; decide +kernel
  · rw [hp]; unfold defaultedOuterBeforeInner; decide +kernel

/- the exception of `embed_exact` is real: outer `(a=1, *args, **kwargs)` around inner `(b)` gives
    `(a, b)` (the default of `a` is cleared); the call `f(b=…)` is accepted by outer-then-inner but
    not by the result, which requires `a`. -/
def dfO : USig := { params := [⟨1, .pk, some 1, none, .empty⟩, ⟨11, .vp, none, none, .empty⟩, ⟨12, .vk, none, none, .empty⟩] }
def dfI : USig := { params := [⟨2, .pk, none, none, .empty⟩] }
example : ∃ R, embed true true [dfO, dfI] = .ok R ∧
    defaultedOuterBeforeInner dfO.params dfI.params R.params ∧
    accepts R.params 0 [2] = false ∧ composite dfO.params dfI.params true true 0 [2] = true := by
  obtain ⟨R, h, hp⟩ := embed_two_ok_of (o := dfO) (i := dfI) (uva := true) (uvk := true)
    (ps := [⟨1, .pk, none, none, .empty⟩, ⟨2, .pk, none, none, .empty⟩]) (eq_ok_of (by decide +kernel))
  refine ⟨R, h, ?_, ?_, by decide +kernel⟩
  · rw [hp]; unfold defaultedOuterBeforeInner; decide +kernel
  · rw [hp]; decide +kernel

/- `embed_raises_only_if`: both disjuncts occur -/
def rsO1 : USig := { params := [⟨1, .pk, none, none, .empty⟩, ⟨11, .vp, none, none, .empty⟩] }
def rsI1 : USig := { params := [⟨1, .pk, none, none, .empty⟩] }
def rsO2 : USig := { params := [⟨1, .pk, none, none, .empty⟩] }
def rsI2 : USig := { params := [⟨2, .pk, none, none, .empty⟩] }
example : WF rsO1.params ∧ WF rsI1.params ∧ embed true true [rsO1, rsI1] = .error .incompatible ∧
    sharedNamed rsO1.params rsI1.params :=
  ⟨by decide +kernel, by decide +kernel, embed_two_incompatible_of (eq_error_of (by decide +kernel)),
    ⟨⟨1, .pk, none, none, .empty⟩, by decide +kernel, ⟨1, .pk, none, none, .empty⟩, by decide +kernel, rfl, by decide +kernel⟩⟩
example : WF rsO2.params ∧ WF rsI2.params ∧ embed true true [rsO2, rsI2] = .error .incompatible ∧
    ¬ sharedNamed rsO2.params rsI2.params :=
  ⟨by decide +kernel, by decide +kernel, embed_two_incompatible_of (eq_error_of (by decide +kernel)), by unfold sharedNamed; decide +kernel⟩

/-- an outer named parameter called like the inner `*args` (D29) -/
def rsO3 : USig := { params := [⟨11, .pk, none, none, .empty⟩, ⟨21, .vp, none, none, .empty⟩, ⟨22, .vk, none, none, .empty⟩] }
def rsI3 : USig := { params := [⟨11, .vp, none, none, .empty⟩, ⟨23, .vk, none, none, .empty⟩] }
example : WF rsO3.params ∧ WF rsI3.params ∧ embed true true [rsO3, rsI3] = .error .incompatible ∧
    sharedNamed rsO3.params rsI3.params :=
  ⟨by decide +kernel, by decide +kernel, embed_two_incompatible_of (eq_error_of (by decide +kernel)),
    ⟨⟨11, .pk, none, none, .empty⟩, by decide +kernel, ⟨11, .vp, none, none, .empty⟩, by decide +kernel, rfl, by decide +kernel⟩⟩

/-- `embed_fold_params`: the hypothesis is satisfiable -/
example : ∃ M, embed true true [exO, exI] = .ok M :=
  let ⟨R, h, _⟩ := embed_exO_exI
  ⟨R, h⟩

/- `embed_bare`: the hypotheses (including the added one) hold on an inner signature with stars -/
def brI : USig := { params := [⟨2, .pk, none, none, .empty⟩, ⟨21, .vp, none, some 4, .pre 4⟩,
                               ⟨3, .ko, some 1, none, .empty⟩, ⟨22, .vk, none, none, .empty⟩] }
example : WF brI.params ∧
    (∀ p ∈ brI.params, (p.kind = .vp ∨ p.kind = .vk) →
       p.dflt = none ∧ (p.ann = none → p.uann = .empty)) ∧
    ∃ R, embed true true [cxO, brI] = .ok R := by
  refine ⟨by decide +kernel, by decide +kernel, ?_⟩
  obtain ⟨R, h, _⟩ := embed_two_ok_of (o := cxO) (i := brI) (uva := true) (uvk := true)
    (ps := brI.params) (eq_ok_of (by decide +kernel))
  exact ⟨R, h⟩

end SV
