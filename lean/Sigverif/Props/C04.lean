/-
  Props/C04.lean — property C04 (declared forwarding): forwards = embed ∘ mask, and the reported
  signature is safe to call for a wrapper whose body is
      inner(<n positionals>, *args, <names>=…, **kwargs)
  ONLY property theorems + non-vacuity examples.
-/
import Sigverif.Props.C02
import Sigverif.Props.C03
import Sigverif.Lemmas.C04
import Sigverif.Lemmas.C04Partial
import Sigverif.Lemmas.C02Embed
namespace SV

/-- forwards(outer, inner, n, *names, flags) equals embed(outer, mask(inner, n, *names, …)) —
    parameters and provenance, errors included (partial=False) -/
theorem forwards_def (o i : USig) (n : Nat) (nms : List Nat) (ha hk uva uvk : Bool) :
    forwards o i n nms ha hk uva uvk false =
      (mask i n nms { args := ha, kwargs := hk } >>= fun m => embed uva uvk [o, m]) :=
  forwards_false_eq o i n nms ha hk uva uvk

/-- execution model of the wrapper: the wrapper binds the call (m, K); inner is then called with
    the n written positionals followed by the surplus positionals the wrapper collected in *args
    (when forwarded), and with the written names plus the surplus keywords collected in **kwargs -/
def wrapperRuns (o i : List Param) (n : Nat) (nms : List Nat) (uva uvk : Bool) (m : Nat) (K : List Nat) : Bool :=
  accepts o m K &&
  accepts i (n + (if uva then m - (positionals o).length else 0))
            (nms ++ (if uvk then K.filter (fun k => !(kwNames o).contains k) else []))

/-- every non-colliding call the reported signature accepts runs without an argument-binding
    TypeError in wrapper or inner (no hide flag, no partial) -/
theorem forwards_sound (o i R : USig) (n m : Nat) (nms K : List Nat) (uva uvk : Bool)
    (ho : WF o.params) (hi : WF i.params) (hn : nms.Nodup) (hK : K.Nodup)
    (hpo : ∀ p ∈ i.params, p.kind = .po → p.name ∉ nms)
    (hdisj : ∀ k ∈ K, k ∉ nms)
    (hR : forwards o i n nms false false uva uvk false = .ok R)
    (hnc : nonColl R.params [o.params, i.params] K)
    (hacc : accepts R.params m K = true) :
    wrapperRuns o.params i.params n nms uva uvk m K = true := by
  have _ := hpo
  obtain ⟨M, hM, hE⟩ := forwards_false_ok hR
  have hMwf := mask_wf i M n nms _ hi hM
  have hs := embed_sound o M R uva uvk m K ho hMwf hK hE (nonColl_outer_masked hi hM hnc) hacc
  rw [composite_masked m ho hi hn hK hdisj hM hE hnc] at hs
  exact hs

/-- when the wrapper has no defaulted positional parameter, every non-colliding call it rejects
    does raise one -/
theorem forwards_exact (o i R : USig) (n m : Nat) (nms K : List Nat) (uva uvk : Bool)
    (ho : WF o.params) (hi : WF i.params) (hn : nms.Nodup) (hK : K.Nodup)
    (hpo : ∀ p ∈ i.params, p.kind = .po → p.name ∉ nms)
    (hdisj : ∀ k ∈ K, k ∉ nms)
    (hnd : ∀ p ∈ positionals o.params, p.dflt = none)
    (hR : forwards o i n nms false false uva uvk false = .ok R)
    (hnc : nonColl R.params [o.params, i.params] K) :
    accepts R.params m K = wrapperRuns o.params i.params n nms uva uvk m K := by
  have _ := hpo
  obtain ⟨M, hM, hE⟩ := forwards_false_ok hR
  have hMwf := mask_wf i M n nms _ hi hM
  have hex : ¬ defaultedOuterBeforeInner o.params M.params R.params := by
    rintro ⟨⟨p, hp, hpd⟩, -⟩
    rw [hnd p hp] at hpd
    cases hpd
  have he := embed_exact o M R uva uvk m K ho hMwf hK hE (nonColl_outer_masked hi hM hnc) hex
  rw [composite_masked m ho hi hn hK hdisj hM hE hnc] at he
  exact he

/-- with partial=True every parameter of the result that comes from inner is optional -/
theorem forwards_partial_optional (o i R : USig) (n : Nat) (nms : List Nat) (ha hk uva uvk : Bool)
    (ho : WF o.params) (hi : WF i.params)
    (hdisj : ∀ x ∈ names o.params, x ∉ names i.params)
    (hR : forwards o i n nms ha hk uva uvk true = .ok R) :
    ∀ p ∈ R.params, p.name ∈ names i.params → (p.kind = .po ∨ p.kind = .pk ∨ p.kind = .ko) →
      p.dflt.isSome := by
  obtain ⟨hv, M, hM, hE⟩ := forwards_true_ok hR
  have hi' : WF (partialParams i.params) := partialParams_WF hi hv
  have hMwf := mask_wf _ M n nms _ hi' hM
  intro p hp hname hkind
  have hno : p.name ∉ names o.params := fun h => hdisj _ h hname
  obtain ⟨q, hq, hqn, -, hqd⟩ := embed_named_from_inner ho hMwf hE p hp (isNamed_iff.2 hkind) hno
  obtain ⟨q', hq', -, hq'd, -, hq'k⟩ := (mask_hide_removes _ M n nms _ hi' hM).1 q hq
  have hq'n : isNamed q' = true :=
    hq'k.elim (fun h => isNamed_iff.2 (h ▸ isNamed_iff.1 hqn)) fun h => isNamed_iff.2 (.inr (.inl h.1))
  rw [← hqd, ← hq'd]
  exact partialParams_named_dflt hq' hq'n

/-- the signature of a bound method is mask(sig, 1): it accepts (m, K) exactly when the function
    accepts one more leading positional (corollary of mask_exact, stated for reference) -/
theorem bound_is_mask1 (sig R : USig) (m : Nat) (K : List Nat)
    (hwf : WF sig.params) (hK : K.Nodup) (hR : mask sig 1 [] {} = .ok R)
    (hnc : nonColl R.params [sig.params] K) :
    accepts R.params m K = accepts sig.params (1 + m) K := by
  have := mask_exact sig R 1 m [] K hwf List.nodup_nil hK (fun _ _ _ h => by cases h)
    (fun _ _ h => by cases h) hR hnc
  simpa using this

/-- wrapper `(a, *args, **kwargs)` -/
def fwO : USig :=
  { params := [⟨1, .pk, none, none, .empty⟩, ⟨11, .vp, none, none, .empty⟩, ⟨12, .vk, none, none, .empty⟩],
    src := [(1, [7]), (11, [7]), (12, [7])], depths := [(7, 0)] }
/-- inner `(x, y, *, z, w=1)` -/
def fwI : USig :=
  { params := [⟨2, .pk, none, none, .empty⟩, ⟨3, .pk, none, none, .empty⟩,
               ⟨4, .ko, none, none, .empty⟩, ⟨5, .ko, some 1, none, .empty⟩],
    src := [(2, [8]), (3, [8]), (4, [8]), (5, [8])], depths := [(8, 0)] }
/-- `forwards(fwO, fwI, 1, 'z')` is `(a, y, *, w=1)` -/
def fwRps : List Param :=
  [⟨1, .pk, none, none, .empty⟩, ⟨3, .pk, none, none, .empty⟩, ⟨5, .ko, some 1, none, .empty⟩]

theorem fw_run : ∃ R, forwards fwO fwI 1 [4] false false true true false = .ok R ∧ R.params = fwRps := by
  simp only [forwards, embed, embedFold, embedStep_evalEq]; exact exists_ok_and (by decide +kernel)

/-- what `forwards_sound` and `forwards_exact` ask of the inputs and of the call `f(_, _, w=…)` -/
theorem fw_hyps : WF fwO.params ∧ WF fwI.params ∧ [4].Nodup ∧ [5].Nodup ∧
    (∀ p ∈ fwI.params, p.kind = .po → p.name ∉ [4]) ∧ (∀ k ∈ [5], k ∉ [4]) ∧
    (∀ p ∈ positionals fwO.params, p.dflt = none) ∧ nonColl fwRps [fwO.params, fwI.params] [5] := by
  decide +kernel

example : WF fwO.params ∧ WF fwI.params := ⟨fw_hyps.1, fw_hyps.2.1⟩

/-- `forwards_def`: both sides are the same successful computation on a non-trivial input -/
example : ∃ R, (mask fwI 1 [4] {} >>= fun m => embed true true [fwO, m]) = .ok R ∧ R.params = fwRps := by
  simpa only [forwards_false_eq] using fw_run

/-- all hypotheses of `forwards_sound` / `forwards_exact` hold together on a non-trivial input:
    the call `f(_, _, w=…)` is accepted by the reported signature, the wrapper binds it and calls
    `inner(_, _, z=…, w=…)` -/
example : ∃ R, forwards fwO fwI 1 [4] false false true true false = .ok R ∧
    [4].Nodup ∧ [5].Nodup ∧ (∀ p ∈ fwI.params, p.kind = .po → p.name ∉ [4]) ∧ (∀ k ∈ [5], k ∉ [4]) ∧
    (∀ p ∈ positionals fwO.params, p.dflt = none) ∧
    nonColl R.params [fwO.params, fwI.params] [5] ∧ accepts R.params 2 [5] = true ∧
    wrapperRuns fwO.params fwI.params 1 [4] true true 2 [5] = true := by
  obtain ⟨R, h, hp⟩ := fw_run
  obtain ⟨-, -, h1, h2, h3, h4, h5, h6⟩ := fw_hyps
  exact ⟨R, h, h1, h2, h3, h4, h5, hp ▸ h6, by rw [hp]; decide +kernel, by decide +kernel⟩

/-- `forwards_exact` also on a rejected call: `f(_)` lacks `y` -/
example : ∃ R, forwards fwO fwI 1 [4] false false true true false = .ok R ∧
    accepts R.params 1 [] = false ∧ wrapperRuns fwO.params fwI.params 1 [4] true true 1 [] = false := by
  obtain ⟨R, h, hp⟩ := fw_run
  exact ⟨R, h, by rw [hp]; decide +kernel, by decide +kernel⟩

/- the non-collision hypothesis is needed: wrapper `(a, *args, **kwargs)` around inner
    `(x, y, **kw)` with one written positional reports `(a, y, **kw)`; the call `f(_, y=…, x=…)` is
    accepted by it (x goes to `**kw`) but inner then receives `x` twice.  Keyword `x` is a parameter
    name of inner and not a keyword-passable parameter of the result. -/
def ncI : USig :=
  { params := [⟨2, .pk, none, none, .empty⟩, ⟨3, .pk, none, none, .empty⟩, ⟨22, .vk, none, none, .empty⟩] }
example : ∃ R, forwards fwO ncI 1 [] false false true true false = .ok R ∧
    accepts R.params 1 [3, 2] = true ∧ wrapperRuns fwO.params ncI.params 1 [] true true 1 [3, 2] = false ∧
    ¬ nonColl R.params [fwO.params, ncI.params] [3, 2] := by
  simp only [forwards, embed, embedFold, embedStep_evalEq]; exact exists_ok_and (by decide +kernel)

/- the hypothesis of `forwards_exact` on the wrapper's defaults is needed: wrapper
    `(a=1, *args, **kwargs)` around inner `(x, y)` with one written positional reports `(a, y)` (the
    default of `a` is cleared); `f(y=…)` runs fine but the reported signature rejects it. -/
def dfI2 : USig :=
  { params := [⟨2, .pk, none, none, .empty⟩, ⟨3, .pk, none, none, .empty⟩] }
example : ∃ R, forwards dfO dfI2 1 [] false false true true false = .ok R ∧
    nonColl R.params [dfO.params, dfI2.params] [3] ∧
    accepts R.params 0 [3] = false ∧ wrapperRuns dfO.params dfI2.params 1 [] true true 0 [3] = true := by
  simp only [forwards, embed, embedFold, embedStep_evalEq]; exact exists_ok_and (by decide +kernel)

/-- `forwards_partial_optional`: `forwards(fwO, fwI, 1, partial=True)` is
    `(a, y=None, *, z=None, w=None)`; the hypotheses hold and `a` (from the wrapper) stays required -/
example : ∃ R, forwards fwO fwI 1 [] false false true true true = .ok R ∧
    (∀ x ∈ names fwO.params, x ∉ names fwI.params) ∧
    R.params = [⟨1, .pk, none, none, .empty⟩, ⟨3, .pk, some 0, none, .empty⟩,
                ⟨4, .ko, some 0, none, .empty⟩, ⟨5, .ko, some 0, none, .empty⟩] := by
  simp only [forwards, embed, embedFold, embedStep_evalEq]; exact exists_ok_and (by decide +kernel)

/- the name-disjointness hypothesis of `forwards_partial_optional` is needed: wrapper
    `(x, *args, **kwargs)` around inner `(x, y)` with one written positional and partial=True
    reports `(x, y=None)`; `x` is a parameter name of inner and stays required. -/
def pdO : USig :=
  { params := [⟨2, .pk, none, none, .empty⟩, ⟨11, .vp, none, none, .empty⟩, ⟨12, .vk, none, none, .empty⟩] }
example : ∃ R, forwards pdO dfI2 1 [] false false true true true = .ok R ∧
    R.params = [⟨2, .pk, none, none, .empty⟩, ⟨3, .pk, some 0, none, .empty⟩] := by
  simp only [forwards, embed, embedFold, embedStep_evalEq]; exact exists_ok_and (by decide +kernel)

/-- `bound_is_mask1`: method `(self, b=1, *args, c, **kwargs)` bound: `(b=1, *args, c, **kwargs)` -/
example : ∃ R, mask exSig 1 [] {} = .ok R ∧ [3, 9].Nodup ∧ nonColl R.params [exSig.params] [3, 9] ∧
    accepts R.params 1 [3, 9] = true ∧ accepts exSig.params (1 + 1) [3, 9] = true := by
  exact exists_ok_and (by decide +kernel)

/-- the theorems applied to the concrete instances above -/
example : wrapperRuns fwO.params fwI.params 1 [4] true true 2 [5] = true := by
  obtain ⟨R, h, hp⟩ := fw_run
  obtain ⟨ho, hi, h1, h2, h3, h4, -, h6⟩ := fw_hyps
  exact forwards_sound fwO fwI R 1 2 [4] [5] true true ho hi h1 h2 h3 h4 h (hp ▸ h6) (by rw [hp]; decide +kernel)
example : ∃ R, forwards fwO fwI 1 [4] false false true true false = .ok R ∧
    accepts R.params 3 [5] = wrapperRuns fwO.params fwI.params 1 [4] true true 3 [5] := by
  obtain ⟨R, h, hp⟩ := fw_run
  obtain ⟨ho, hi, h1, h2, h3, h4, h5, h6⟩ := fw_hyps
  exact ⟨R, h, forwards_exact fwO fwI R 1 3 [4] [5] true true ho hi h1 h2 h3 h4 h5 h (hp ▸ h6)⟩

end SV
