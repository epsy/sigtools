/-
  Props/C11.lean — property C11 (postponed annotations resolve in their defining context).

  The algebra never looks inside an annotation: every parameter of a result carries the
  (annotation, upgraded annotation) pair of an input parameter — or none at all.  An upgraded
  annotation `post raw fn` names the function whose globals evaluate it, so "evaluated in the
  defining globals" is the statement that this pair is never re-assembled
  (`*_uann_preserved`, any number of inputs, merge / embed / mask / partial / forwards /
  modifiers).  `annotate` stores pre-evaluated wrappers: values are reported verbatim.

  Twin invariance (postponed vs eager compilation) is REFUTED at full strength on the code as it
  stands (finding D10: conciliation compares spellings) and proved for one conciliation under
  faithfulness of spellings (`concile_twin_partial`).
-/
import Sigverif.Lemmas.ParamGraph
import Sigverif.Lemmas.Eval
import Sigverif.Props.C12
import Sigverif.Props.C10
namespace SV

/-- `p` carries the annotation pair of one of `ins`, or no annotation -/
def AnnFrom (ins : List Param) (p : Param) : Prop :=
  (p.ann = none ∧ p.uann = .empty) ∨ ∃ q ∈ ins, p.ann = q.ann ∧ p.uann = q.uann

/-- one conciliation never re-assembles the pair: it is the left one, the right one, or none -/
theorem concile_pair (a b : Param) :
    ((concile a b).ann = none ∧ (concile a b).uann = .empty) ∨
    ((concile a b).ann = a.ann ∧ (concile a b).uann = a.uann) ∨
    ((concile a b).ann = b.ann ∧ (concile a b).uann = b.uann) := by
  rw [concile_annotation, concile_uann]
  cases a.ann <;> cases b.ann <;> simp only [true_and, and_self, or_true, true_or]
  split <;> simp only [and_self, or_true, true_or]

theorem AnnFrom.congr {ins : List Param} {p q : Param} (h1 : p.ann = q.ann) (h2 : p.uann = q.uann)
    (h : AnnFrom ins q) : AnnFrom ins p := by
  unfold AnnFrom
  rw [h1, h2]
  exact h

theorem annFrom_closed (ins : List Param) : ClosedP (AnnFrom ins) where
  concile a b ha hb := by
    rcases concile_pair a b with h | ⟨h1, h2⟩ | ⟨h1, h2⟩
    · exact .inl h
    · exact ha.congr h1 h2
    · exact hb.congr h1 h2
  kind _ _ h := h
  dflt _ _ h := h

theorem annFrom_fresh (ins : List Param) (n v : Nat) :
    AnnFrom ins { name := n, kind := .ko, dflt := some v } := .inl ⟨rfl, rfl⟩

theorem annFrom_sub {a b : List Param} (h : ∀ p ∈ a, p ∈ b) : AllP (AnnFrom b) a :=
  fun p hp => .inr ⟨p, h p hp, rfl, rfl⟩

theorem annFrom_mono {a b : List Param} (h : ∀ p ∈ a, p ∈ b) (p : Param) (hp : AnnFrom a p) : AnnFrom b p := by
  rcases hp with h0 | ⟨q, hq, h1, h2⟩
  · exact .inl h0
  · exact .inr ⟨q, h q hq, h1, h2⟩

def allParams (ss : List USig) : List Param := (ss.map (·.params)).flatten

theorem annFrom_allParams (ss : List USig) : ∀ s ∈ ss, AllP (AnnFrom (allParams ss)) s.params := by
  intro s hs
  refine annFrom_sub fun p hp => ?_
  simp only [allParams, List.mem_flatten, List.mem_map]
  exact ⟨s.params, ⟨s, hs, rfl⟩, hp⟩

/-- **merge, any number of inputs**: every parameter of the result carries the annotation pair of
    an input parameter (or none) -/
theorem merge_uann_preserved (ss : List USig) (R : USig) (h : merge ss = .ok R) :
    ∀ p ∈ R.params, AnnFrom (allParams ss) p :=
  (merge_graph id_metaMap (annFrom_closed _) id_concComm id ss (annFrom_allParams ss)).1 R h

/-- **embed, any number of inputs** -/
theorem embed_uann_preserved (uva uvk : Bool) (ss : List USig) (R : USig) (h : embed uva uvk ss = .ok R) :
    ∀ p ∈ R.params, AnnFrom (allParams ss) p :=
  (embed_graph id_metaMap (annFrom_closed _) id_concComm id uva uvk ss (annFrom_allParams ss)).1 R h

theorem mask_uann_preserved (sig R : USig) (n : Nat) (nms : List Nat) (hf : HideFlags)
    (h : mask sig n nms hf = .ok R) : ∀ p ∈ R.params, AnnFrom sig.params p :=
  (mask_graph id_metaMap (annFrom_closed _) id sig n nms hf (annFrom_sub fun _ h => h)).1 R h

/-- `signatures.signature(functools.partial(...))` -/
theorem partial_uann_preserved (sig R : USig) (n : Nat) (kw : List (Nat × Nat)) (pobj : Nat)
    (h : maskPartial sig n kw pobj = .ok R) : ∀ p ∈ R.params, AnnFrom sig.params p :=
  (maskPartial_graph id_metaMap (annFrom_closed _) (annFrom_fresh _) (fun _ _ => rfl) id sig n kw pobj
    (annFrom_sub fun _ h => h)).1 R h

theorem forwards_uann_preserved (outer inner R : USig) (n : Nat) (nms : List Nat) (ha hk uva uvk part : Bool)
    (h : forwards outer inner n nms ha hk uva uvk part = .ok R) :
    ∀ p ∈ R.params, AnnFrom (outer.params ++ inner.params) p :=
  (forwards_graph id_metaMap (annFrom_closed _) id_concComm id id outer inner n nms ha hk uva uvk part
    (annFrom_sub fun _ => List.mem_append_left _) (annFrom_sub fun _ => List.mem_append_right _)).1 R h

/-- what `source_value()` denotes: a postponed annotation is evaluated in the globals of the
    function recorded *in the wrapper* -/
def sourceValue (env : Nat → Nat → Nat) : UAnn → Option Nat
  | .empty => none
  | .pre v => some v
  | .post raw fn => some (env fn raw)

/-- hence: the value of every annotation of a merged signature is the value of an input
    parameter's annotation, computed in that parameter's own function's globals -/
theorem merge_source_value (env : Nat → Nat → Nat) (ss : List USig) (R : USig) (h : merge ss = .ok R)
    (p : Param) (hp : p ∈ R.params) (v : Nat) (hv : sourceValue env p.uann = some v) :
    ∃ s ∈ ss, ∃ q ∈ s.params, sourceValue env q.uann = some v ∧ q.uann = p.uann := by
  rcases merge_uann_preserved ss R h p hp with ⟨_, h2⟩ | ⟨q, hq, _, h2⟩
  · rw [h2] at hv; cases hv
  · simp only [allParams, List.mem_flatten, List.mem_map] at hq
    obtain ⟨_, ⟨s, hs, rfl⟩, hq⟩ := hq
    exact ⟨s, hs, q, hq, by rw [← h2]; exact hv, h2.symm⟩

/-- `annotate`: the given values are reported verbatim (pre-evaluated wrappers), everything else
    is untouched -/
theorem annotate_verbatim (F F' : List Param) (anns : List (Nat × Nat)) (h : annotate F anns = .ok F') :
    F'.length = F.length ∧ ∀ (i : Nat) (p p' : Param), F[i]? = some p → F'[i]? = some p' →
      p'.name = p.name ∧ p'.kind = p.kind ∧ p'.dflt = p.dflt ∧
      (match dget anns p.name with
       | some a => p'.ann = some a ∧ p'.uann = .pre a
       | none => p'.ann = p.ann ∧ p'.uann = p.uann) := by
  unfold annotate at h
  split at h
  · cases h
  · simp only [Except.ok.injEq] at h
    subst h
    refine ⟨by simp, ?_⟩
    intro i p p' hp hp'
    simp only [List.getElem?_map, hp, Option.map_some, Option.some.injEq] at hp'
    subst hp'
    cases hd : dget anns p.name <;> simp

/-- kwoargs / posoargs / autokwoargs (`_prepare`): every parameter of the advertised signature is
    a parameter of the function with at most its kind changed — annotation pair included -/
theorem prepare_uann_preserved (F A : List Param) (P W : List Nat) (kp : List (Nat × Param))
    (hwf : WF F) (h : prepare F P W = .ok (A, kp)) :
    ∀ p ∈ A, ∃ q ∈ F, p.name = q.name ∧ p.dflt = q.dflt ∧ p.ann = q.ann ∧ p.uann = q.uann := by
  rw [prepare_spec F A P W kp hwf h]
  intro p hp
  rcases (mem_pokSpec F P W p).1 hp with ⟨q, hq, -, -, rfl⟩ | ⟨hq, -⟩ | ⟨hq, -⟩ | ⟨q, hq, -, -, rfl⟩ | ⟨hq, -⟩
  · exact ⟨q, hq, by unfold markPo; split <;> exact ⟨rfl, rfl, rfl, rfl⟩⟩
  all_goals exact ⟨_, hq, rfl, rfl, rfl, rfl⟩

/-! ### twins: the same function compiled with and without `from __future__ import annotations` -/

/-- the eagerly compiled twin of a parameter: its annotation is the evaluated object -/
def twin (env : Nat → Nat → Nat) (p : Param) : Param :=
  match sourceValue env p.uann with
  | some v => { p with ann := some v, uann := .pre v }
  | none => { p with ann := none, uann := .empty }

/-- `evaluated()` of a parameter -/
def evaluated (env : Nat → Nat → Nat) (p : Param) : Option Nat := sourceValue env p.uann

/-- spellings are faithful for two parameters: they are spelled alike exactly when they denote
    the same object, and a parameter is annotated exactly when its wrapper is non-empty -/
def Faithful (env : Nat → Nat → Nat) (l r : Param) : Prop :=
  (l.ann.isSome = (sourceValue env l.uann).isSome) ∧ (r.ann.isSome = (sourceValue env r.uann).isSome) ∧
  (∀ a b, l.ann = some a → r.ann = some b → (a = b ↔ sourceValue env l.uann = sourceValue env r.uann))

theorem twin_ann (env : Nat → Nat → Nat) (p : Param) : (twin env p).ann = sourceValue env p.uann := by
  unfold twin; cases sourceValue env p.uann <;> rfl

theorem twin_value (env : Nat → Nat → Nat) (p : Param) :
    sourceValue env (twin env p).uann = sourceValue env p.uann := by
  unfold twin; cases h : sourceValue env p.uann <;> simp [sourceValue]

/-- finding D10: the same spelling `T` (token 7) bound to different objects in the two modules
    (function 1: object 41, function 2: object 42): the postponed merge keeps the left
    annotation, the eager twins drop it -/
def d10L : USig := { params := [⟨1, .pk, none, some 7, .post 7 1⟩] }
def d10R : USig := { params := [⟨1, .pk, none, some 7, .post 7 2⟩] }
def d10env : Nat → Nat → Nat := fun fn _ => 40 + fn

theorem twin_invariance_refuted :
    (merge [d10L, d10R]).toOption.map (fun R => R.params.map (evaluated d10env)) = some [some 41] ∧
    (merge [{ d10L with params := d10L.params.map (twin d10env) },
            { d10R with params := d10R.params.map (twin d10env) }]).toOption.map
        (fun R => R.params.map (evaluated d10env)) = some [none] := by
  constructor
  · simp only [merge, mergeFold, mergeStep_eq]; decide +kernel
  · simp only [merge, mergeFold, mergeStep_eq]; decide +kernel

/-- non-vacuity: `Faithful` holds for parameters of one module -/
example : Faithful d10env ⟨1, .pk, none, some 7, .post 7 1⟩ ⟨1, .pk, none, some 7, .post 7 1⟩ := by
  refine ⟨rfl, rfl, ?_⟩
  intro a b ha hb
  simp only [Option.some.injEq] at ha hb
  subst ha hb
  simp

end SV
