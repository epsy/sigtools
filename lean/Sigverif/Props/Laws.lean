/-
  Props/Laws.lean — C09 (identity / fold laws, round trip) and C15 (error discipline,
  well-formed output): the property theorems and their non-vacuity examples.
-/
import Sigverif.Props.Defs
import Sigverif.Lemmas.LawsErr
import Sigverif.Lemmas.LawsNeutral
import Sigverif.Lemmas.LawsRoles
import Sigverif.Lemmas.C02Embed
import Sigverif.Lemmas.LawsCounterexamples
namespace SV

/-! ## C09: apply_params(s, *sort_params(s)) equals s -/
theorem apply_sort (sig : USig) (hwf : WF sig.params) :
    applyParams sig (sortParams sig) = .ok sig := by
  have hall := sortParams_all hwf
  obtain ⟨hs, hd⟩ := sortParams_src sig
  have hv : validate sig.params = .ok () := validOk_iff_validate.1 hwf.1
  simp only [applyParams, hall, hv, hs, hd, bind, Except.bind, pure, Except.pure]

/-- for a valid signature the buckets hold what their names say, in order -/
theorem sort_buckets (sig : USig) (hwf : WF sig.params) :
    BucketKinds (sortParams sig) ∧ (sortParams sig).all = sig.params := by
  exact ⟨sortParams_bk sig, sortParams_all hwf⟩

/-! ## C09: merge(s) = s ; merge(s, s) = s in parameters -/
theorem merge_single (sig : USig) (hwf : WF sig.params) : merge [sig] = .ok sig := by
  simp only [merge, mergeFold, bind, Except.bind]
  exact apply_sort sig hwf

/-- merge(s, s) has the parameters of s (provenance lists double: finding D15 under C08).

    ADDED HYPOTHESIS `hU` (a parameter without annotation has the empty upgraded annotation).
    `_concile_meta` returns `EmptyAnnotation` when both annotations are empty, so the original
    statement fails on a parameter with `ann = none`, `uann ≠ .empty`
    (counterexample `cxIdem` in Lemmas/LawsCounterexamples.lean; not a state sigtools produces).
    ORIGINAL STATEMENT:
    theorem merge_idem (sig : USig) (hwf : WF sig.params) :
        ∃ R, merge [sig, sig] = .ok R ∧ R.params = sig.params ∧ R.ret = sig.ret ∧ R.uret = sig.uret -/
theorem merge_idem (sig : USig) (hwf : WF sig.params)
    (hU : ∀ p ∈ sig.params, p.ann = none → p.uann = .empty) :
    ∃ R, merge [sig, sig] = .ok R ∧ R.params = sig.params ∧ R.ret = sig.ret ∧ R.uret = sig.uret := by
  have hall := sortParams_all hwf
  obtain ⟨s, hs, hsa⟩ := mergeStep_self (sortParams sig) (sortParams_swf hwf).parts.2.2.1
    (by rw [hall]; exact fun p hp => concile_self p (hU p hp))
  rw [hall] at hsa
  exact ⟨_, merge_two_of_step sig sig s hs (hsa ▸ validOk_iff_validate.1 hwf.1), hsa, rfl, rfl⟩

/-- a bare (*args, **kwargs) is neutral on the right: same parameters.

    ADDED HYPOTHESIS `hS`: the star parameters of `sig` have no default and, when they have no
    annotation, the empty upgraded annotation.  When `sig` has no positional-only (resp. no
    keyword-only) parameter its `*args` (resp. `**kwargs`) is conciled with the one of `bare`,
    and `_concile_meta` drops a one-sided default and normalises the upgraded annotation
    (counterexamples `cxNr1`, `cxNr2` in Lemmas/LawsCounterexamples.lean; neither is a state that
    `inspect` / sigtools can produce).
    ORIGINAL STATEMENT:
    theorem merge_neutral_r (sig bare : USig) (a k : Param) (hwf : WF sig.params)
        (ha : a.kind = .vp) (hk : k.kind = .vk) (hb : bare.params = [a, k])
        (hann : a.ann = none ∧ k.ann = none) :
        ∃ R, merge [sig, bare] = .ok R ∧ R.params = sig.params -/
theorem merge_neutral_r (sig bare : USig) (a k : Param) (hwf : WF sig.params)
    (ha : a.kind = .vp) (hk : k.kind = .vk) (hb : bare.params = [a, k])
    (hann : a.ann = none ∧ k.ann = none)
    (hS : ∀ p ∈ sig.params, (p.kind = .vp ∨ p.kind = .vk) →
            p.dflt = none ∧ (p.ann = none → p.uann = .empty)) :
    ∃ R, merge [sig, bare] = .ok R ∧ R.params = sig.params := by
  have hall := sortParams_all hwf
  have hs := sortParams_swf hwf
  -- the step is the closed form `mergeStars`, which under `hS` gives back the buckets of `sig`
  obtain ⟨src, h⟩ := mergeStep_stars (sortParams sig)
    { va := some a, vk := some k, src := bare.src, depths := bare.depths } rfl rfl rfl
  rw [mergeStars_bare hs.bk hs.parts.2.2.1 hann.1 hann.2 (hall ▸ hS), ← sortParams_bare bare a k ha hk hb] at h
  exact ⟨_, merge_two_of_step sig bare _ h hs.validate, hall⟩

set_option linter.unusedVariables false in
/-- … and on the left, up to the names (and identity) of the star parameters.

    ADDED HYPOTHESES `hne`, `hna`, `hnk`: the two star parameters of `bare` have different names,
    and a parameter of `sig` that carries the name of the `*args` (resp. `**kwargs`) of `bare`
    is itself the `*args` (resp. `**kwargs`) of `sig`.  The result takes the names of its star
    parameters from the LEFT operand, so `merge((*a, **k), (a, *args))` builds `(a, *a)` and the
    final `Signature(...)` validation raises ValueError (counterexample `cxNl`, reachable from
    real code; `cxBare2`/`cxNl2` for `hne`).  `hann` is not needed.
    ORIGINAL STATEMENT:
    theorem merge_neutral_l (sig bare : USig) (a k : Param) (hwf : WF sig.params)
        (ha : a.kind = .vp) (hk : k.kind = .vk) (hb : bare.params = [a, k])
        (hann : a.ann = none ∧ k.ann = none) :
        ∃ R, merge [bare, sig] = .ok R ∧
          R.params.filter (fun p => p.kind ≠ .vp ∧ p.kind ≠ .vk) =
            sig.params.filter (fun p => p.kind ≠ .vp ∧ p.kind ≠ .vk) ∧
          (hasVa R.params = hasVa sig.params) ∧ (hasVk R.params = hasVk sig.params) -/
theorem merge_neutral_l (sig bare : USig) (a k : Param) (hwf : WF sig.params)
    (ha : a.kind = .vp) (hk : k.kind = .vk) (hb : bare.params = [a, k])
    (hann : a.ann = none ∧ k.ann = none)
    (hne : a.name ≠ k.name)
    (hna : ∀ p ∈ sig.params, p.name = a.name → p.kind = .vp)
    (hnk : ∀ p ∈ sig.params, p.name = k.name → p.kind = .vk) :
    ∃ R, merge [bare, sig] = .ok R ∧
      R.params.filter (fun p => p.kind ≠ .vp ∧ p.kind ≠ .vk) =
        sig.params.filter (fun p => p.kind ≠ .vp ∧ p.kind ≠ .vk) ∧
      (hasVa R.params = hasVa sig.params) ∧ (hasVk R.params = hasVk sig.params) := by
  obtain ⟨R, hR, hp⟩ := merge_bare_l sig bare a k hwf ha hk hb hne hna hnk
  -- the map only touches star parameters and keeps kinds
  have hgk := starMap_kind (fa := concile a) (fk := concile k) (fun _ _ => ha) (fun _ _ => hk)
    (sortParams sig).pos.isEmpty (sortParams sig).kwo.isEmpty
  refine ⟨R, hR, ?_, ?_, ?_⟩
  · rw [hp, List.filter_map]
    simp only [Function.comp_def, hgk]
    apply map_eq_self_of
    intro p hm
    have := (List.mem_filter.1 hm).2
    simp only [ne_eq, decide_eq_true_eq] at this
    exact starMap_nonstar _ _ _ _ _ this.1 this.2
  · simp only [hp, hasVa, List.any_map, Function.comp_def, hgk]
  · simp only [hp, hasVk, List.any_map, Function.comp_def, hgk]

/-! ## bucket invariants of one merge step (this is what D1 broke) -/
theorem mergeStep_bucketKinds (l r s : Sorted) (hl : BucketKinds l) (hr : BucketKinds r)
    (h : mergeStep l r = .ok s) : BucketKinds s := by
  exact mergeStep_bk l r s hl hr h

set_option linter.unusedVariables false in
/-- merge(a, b, c, …) = merge(merge(a, b), c, …) whenever merge(a, b) returns -/
theorem merge_fold (a b M : USig) (rest : List USig)
    (ha : WF a.params) (hb : WF b.params) (hM : merge [a, b] = .ok M) :
    merge (a :: b :: rest) = merge (M :: rest) := by
  obtain ⟨S, hS, hv, rfl⟩ := merge_two_ok a b M hM
  have hs := SWF.of_validate (mergeStep_bk _ _ _ (sortParams_bk a) (sortParams_bk b) hS) hv
  simp only [merge, mergeFold, hS, sortParams_of_all hs]
  rfl

/-! ## C15: error discipline -/
/-- the statement of `validate_err` (Lemmas/Core/Validate) -/
theorem validate_err_Laws (ps : List Param) (e : Err) (h : validate ps = .error e) : e = .valueError := by
  exact validateGo_err _ _ _ _ _ h

theorem mergeStep_err (l r : Sorted) (e : Err) (h : mergeStep l r = .error e) : e = .valueError := by
  rcases mergeStep_err_cases h with h | ⟨_, _, _, -, h | ⟨_, -, h | ⟨_, -, h⟩⟩⟩
  · exact phaseP_err _ _ _ _ _ _ _ _ h
  · exact phaseQ_err _ _ _ _ _ _ h
  · exact mergeUnmatched_err h
  · exact mergeUnmatched_err h

/-- merge of ≥ 1 signatures fails only with IncompatibleSignatures or ValueError -/
theorem merge_err (ss : List USig) (e : Err) (hne : ss ≠ []) (h : merge ss = .error e) :
    e = .incompatible ∨ e = .valueError := by
  cases ss with
  | nil => exact absurd rfl hne
  | cons s ss => exact bind_applyParams_err (mergeFold_err _ _) h

theorem embed_err (ss : List USig) (uva uvk : Bool) (e : Err) (hne : ss ≠ [])
    (h : embed uva uvk ss = .error e) : e = .incompatible ∨ e = .valueError := by
  cases ss with
  | nil => exact absurd rfl hne
  | cons s ss => exact bind_applyParams_err (embedFold_err _ _ _ _ _) h

theorem forwards_err (o i : USig) (n : Nat) (nms : List Nat) (ha hk uva uvk pt : Bool) (e : Err)
    (h : forwards o i n nms ha hk uva uvk pt = .error e) : e = .incompatible ∨ e = .valueError := by
  unfold forwards at h
  rcases bind_eq_error h with h | ⟨i', -, h⟩
  · -- the re-validation of the partial's parameters
    right
    split at h
    · rcases bind_eq_error h with h | ⟨_, -, h⟩
      · exact validateGo_err _ _ _ _ _ h
      · cases h
    · cases h
  rcases bind_eq_error h with h | ⟨m, -, h⟩
  · exact .inr (maskCore_err _ _ _ _ _ _ h)
  · exact embed_err _ _ _ _ (List.cons_ne_nil _ _) h

/-- every result is a valid signature (kind order, unique names, no required positional after an
    optional one) -/
theorem merge_valid (ss : List USig) (R : USig) (h : merge ss = .ok R) : validOk R.params = true := by
  obtain ⟨_, _, _, -, -, h⟩ := merge_inv h
  exact applyParams_valid _ _ _ h
theorem embed_valid (ss : List USig) (uva uvk : Bool) (R : USig) (h : embed uva uvk ss = .ok R) :
    validOk R.params = true := by
  obtain ⟨_, _, _, -, -, h⟩ := embed_inv h
  exact applyParams_valid _ _ _ h
theorem mask_valid (sig R : USig) (n : Nat) (nms : List Nat) (hf : HideFlags)
    (h : mask sig n nms hf = .ok R) : validOk R.params = true := by
  exact maskCore_valid _ _ _ _ _ R h
theorem forwards_valid (o i R : USig) (n : Nat) (nms : List Nat) (ha hk uva uvk pt : Bool)
    (h : forwards o i n nms ha hk uva uvk pt = .ok R) : validOk R.params = true := by
  unfold forwards at h
  obtain ⟨i', -, h⟩ := bind_eq_ok h
  obtain ⟨m, -, h⟩ := bind_eq_ok h
  exact embed_valid _ _ _ _ h

/-- for role-consistent (here: well-formed, pairwise name-disjoint-or-same-role) inputs the only
    error of merge is IncompatibleSignatures: the final validation cannot fail.  Stated for two
    inputs whose parameter names are kept apart except where they play the same role. -/
theorem merge_err_roles (a b : USig) (e : Err) (ha : WF a.params) (hb : WF b.params)
    (hrc : roleCons [a.params, b.params]) (h : merge [a, b] = .error e) : e = .incompatible := by
  refine merge_err_of_roles [a, b] e (List.cons_ne_nil _ _) (fun t ht => ?_) hrc h
  simp only [List.mem_cons, List.not_mem_nil, or_false] at ht
  rcases ht with rfl | rfl
  · exact ha.validate
  · exact hb.validate

/-! non-vacuity -/
def exA : USig := { params := [⟨1, .pk, none, none, .empty⟩, ⟨11, .vp, none, none, .empty⟩, ⟨12, .vk, none, none, .empty⟩],
                    src := [(1, [7]), (11, [7]), (12, [7])], depths := [(7, 0)] }
def exLawsB : USig := { params := [⟨1, .pk, some 1, none, .empty⟩, ⟨2, .ko, none, none, .empty⟩],
                            src := [(1, [8]), (2, [8])], depths := [(8, 0)] }
theorem exAB_wf : WF exA.params ∧ WF exLawsB.params := by decide +kernel
example : WF exA.params ∧ WF exLawsB.params := exAB_wf

/-- the merge of the two examples, computed -/
def exM : USig := { params := [⟨1, .pk, none, none, .empty⟩, ⟨2, .ko, none, none, .empty⟩],
                    src := [(1, [7, 8]), (2, [8])], depths := [(7, 0), (8, 0)] }
theorem exM_eq : merge [exA, exLawsB] = .ok exM := by
  simp only [merge, mergeFold, mergeStep_eq]; exact eq_ok_of (by decide +kernel)
example : ∃ M, merge [exA, exLawsB] = .ok M := ⟨_, exM_eq⟩

-- apply_sort / sort_buckets / merge_single on a signature with all five buckets
def exC : USig := { params := [⟨1, .po, none, none, .empty⟩, ⟨2, .pk, some 3, some 4, .pre 4⟩,
                               ⟨11, .vp, none, none, .empty⟩, ⟨5, .ko, none, none, .empty⟩,
                               ⟨12, .vk, none, none, .empty⟩],
                    src := [(1, [7]), (2, [7]), (11, [7]), (5, [7]), (12, [7])], depths := [(7, 0)],
                    ret := some 9, uret := .pre 9 }
theorem exC_wf : WF exC.params := by decide +kernel
example : WF exC.params := exC_wf
example : applyParams exC (sortParams exC) = .ok exC := apply_sort exC exC_wf
example : (sortParams exC).all = exC.params ∧ (sortParams exC).kwo = [⟨5, .ko, none, none, .empty⟩] :=
  ⟨(sort_buckets exC exC_wf).2, by decide +kernel⟩
example : merge [exC] = .ok exC := merge_single exC exC_wf

-- merge_idem: its hypotheses hold for exC, and the provenance lists do double (D15)
example : WF exC.params ∧ ∀ p ∈ exC.params, p.ann = none → p.uann = .empty := ⟨exC_wf, by decide +kernel⟩
example : ∃ R, merge [exC, exC] = .ok R ∧ R.params = exC.params ∧ R.ret = exC.ret ∧ R.uret = exC.uret :=
  merge_idem exC exC_wf (by decide +kernel)
example : ∃ R, merge [exA, exA] = .ok R ∧ R.params = exA.params ∧ R.src = [(1, [7, 7]), (11, [7, 7]), (12, [7, 7])] := by
  simp only [merge, mergeFold, mergeStep_eq]; exact exists_ok_and (by decide +kernel)

-- merge_neutral_r / merge_neutral_l
def exBare : USig := { params := [⟨21, .vp, none, none, .empty⟩, ⟨22, .vk, none, none, .empty⟩],
                       src := [(21, [9]), (22, [9])], depths := [(9, 0)] }
example : ∃ R, merge [exC, exBare] = .ok R ∧ R.params = exC.params :=
  merge_neutral_r exC exBare ⟨21, .vp, none, none, .empty⟩ ⟨22, .vk, none, none, .empty⟩
    exC_wf rfl rfl rfl ⟨rfl, rfl⟩ (by decide +kernel)
example : ∃ R, merge [exBare, exC] = .ok R ∧
      R.params.filter (fun p => p.kind ≠ .vp ∧ p.kind ≠ .vk) =
        exC.params.filter (fun p => p.kind ≠ .vp ∧ p.kind ≠ .vk) ∧
      (hasVa R.params = hasVa exC.params) ∧ (hasVk R.params = hasVk exC.params) :=
  merge_neutral_l exC exBare ⟨21, .vp, none, none, .empty⟩ ⟨22, .vk, none, none, .empty⟩
    exC_wf rfl rfl rfl ⟨rfl, rfl⟩ (by decide +kernel) (by decide +kernel) (by decide +kernel)
-- the usual case: the bare signature uses the very names of the star parameters of `sig`
def exBare' : USig := { params := [⟨11, .vp, none, none, .empty⟩, ⟨12, .vk, none, none, .empty⟩] }
example : ∃ R, merge [exBare', exA] = .ok R ∧
      R.params.filter (fun p => p.kind ≠ .vp ∧ p.kind ≠ .vk) =
        exA.params.filter (fun p => p.kind ≠ .vp ∧ p.kind ≠ .vk) ∧
      (hasVa R.params = hasVa exA.params) ∧ (hasVk R.params = hasVk exA.params) :=
  merge_neutral_l exA exBare' ⟨11, .vp, none, none, .empty⟩ ⟨12, .vk, none, none, .empty⟩
    exAB_wf.1 rfl rfl rfl ⟨rfl, rfl⟩ (by decide +kernel) (by decide +kernel) (by decide +kernel)

-- mergeStep_bucketKinds / merge_fold / merge_valid
example : ∃ s, mergeStep (sortParams exA) (sortParams exLawsB) = .ok s ∧ BucketKinds s := by
  rw [mergeStep_eq]
  exact exists_ok_of (by decide +kernel) fun s hs => mergeStep_bucketKinds _ _ s (sort_buckets exA exAB_wf.1).1
    (sort_buckets exLawsB exAB_wf.2).1 (mergeStep_eq _ _ ▸ hs)
example : merge [exA, exLawsB, exC] = merge [exM, exC] :=
  merge_fold exA exLawsB exM [exC] exAB_wf.1 exAB_wf.2 exM_eq
example : validOk exM.params = true := merge_valid [exA, exLawsB] exM exM_eq

-- error discipline: each error hypothesis is attained
def exReq : USig := { params := [⟨1, .pk, none, none, .empty⟩] }
def exNone : USig := { params := [] }
example : validate [⟨1, .pk, none, none, .empty⟩, ⟨1, .ko, none, none, .empty⟩] = .error .valueError := by
  rfl
example : mergeStep (sortParams exReq) (sortParams exNone) = .error .valueError := by
  rw [mergeStep_eq]; exact eq_error_of (by decide +kernel)
theorem exInc_eq : merge [exReq, exNone] = .error .incompatible := by
  simp only [merge, mergeFold, mergeStep_eq]; exact eq_error_of (by decide +kernel)
example : merge [cxBare, cxNl] = .error .valueError := cxNl_eval
example : embed true true [exReq, exReq] = .error .incompatible := by
  simp only [embed, embedFold, embedStep_evalEq]; exact eq_error_of (by decide +kernel)
def exD : USig := { params := [⟨3, .pk, none, none, .empty⟩, ⟨2, .ko, some 1, none, .empty⟩],
                    src := [(3, [8]), (2, [8])], depths := [(8, 0)] }
example : ∃ R, embed true true [exA, exD] = .ok R ∧ validOk R.params = true := by
  refine exists_ok_of ?_ fun R => embed_valid _ _ _ R
  simp only [embed, embedFold, embedStep_evalEq]; decide +kernel
example : ∃ R, mask exC 1 [5] {} = .ok R ∧ validOk R.params = true :=
  exists_ok_of (by decide +kernel) fun R => mask_valid exC R 1 [5] {}
example : ∃ R, forwards exA exD 1 [2] false false true true false = .ok R ∧ validOk R.params = true := by
  refine exists_ok_of ?_ fun R => forwards_valid exA exD R 1 [2] false false true true false
  simp only [forwards, embed, embedFold, embedStep_evalEq]; decide +kernel
example : forwards exA exD 3 [] false false true true false = .error .valueError := by
  simp only [forwards, embed, embedFold, embedStep_evalEq]; exact eq_error_of (by decide +kernel)
example : forwards exA exLawsB 0 [] false false true true false = .error .incompatible := by
  simp only [forwards, embed, embedFold, embedStep_evalEq]; exact eq_error_of (by decide +kernel)

-- merge_err_roles: role-consistent well-formed inputs; the error is attained (exReq / exNone)
-- and the successful case is covered too (exA / exLawsB share the name 1 in the same role)
theorem roleCons_exAB : roleCons [exA.params, exLawsB.params] := by
  -- the quantifier over names is bounded by `x ∈ allNames s`
  decide +kernel
example : WF exReq.params ∧ WF exNone.params ∧ roleCons [exReq.params, exNone.params] ∧
    merge [exReq, exNone] = .error .incompatible := by
  refine ⟨by decide +kernel, by decide +kernel, ?_, exInc_eq⟩
  decide +kernel
example : WF exA.params ∧ WF exLawsB.params ∧ roleCons [exA.params, exLawsB.params] :=
  ⟨exAB_wf.1, exAB_wf.2, roleCons_exAB⟩

end SV
