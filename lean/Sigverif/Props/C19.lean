/-
  Props/C19.lean — property C19 (functools.partial objects get the signature Python enforces):
  `signatures.signature(partial(f, *a, **k))` is `_mask` in partial mode (`maskPartial`).
-/
import Sigverif.Lemmas.C19Loop
import Sigverif.Lemmas.Eval
namespace SV

/-- Exactness needs no hypothesis on the bound names: a name bound twice makes the loop raise
    (`KRun.bound_names`), a binding that names a positional-only parameter makes retrieval fail
    (`partial_ok_pos`). -/
theorem partial_accepts (sig R : USig) (n m : Nat) (kw : List (Nat × Nat)) (pobj : Nat) (K : List Nat)
    (hwf : WF sig.params) (hK : K.Nodup)
    (hR : maskPartial sig n kw pobj = .ok R)
    (hnc : nonColl R.params [sig.params] K) :
    accepts R.params m K =
      accepts sig.params (n + m) (K ++ (kw.map (·.1)).filter (fun k => !K.contains k)) := by
  obtain ⟨s, st, hs, hall, hcount, inv0, hrun, hb, hs1, rfl⟩ := partial_ok hwf hR
  obtain ⟨-, hfresh, hkwnd⟩ := hrun.bound_names
  simp only at hnc ⊢
  have hmem : ∀ y, y ∈ K ++ (kw.map (·.1)).filter (fun k => !K.contains k) ↔ y ∈ K ∨ y ∈ kw.map (·.1) := by
    intro y
    simp only [List.mem_append, List.mem_filter, Bool.not_eq_true', List.contains_eq_mem,
      decide_eq_false_iff_not]
    by_cases hy : y ∈ K <;> simp [hy]
  have hKnd : (K ++ (kw.map (·.1)).filter (fun k => !K.contains k)).Nodup :=
    nodup_append_of_disj hK (hkwnd.sublist List.filter_sublist) fun k hk hkK => by
      rw [List.mem_filter, List.contains_eq_mem, decide_eq_true hkK] at hk
      cases hk.2
  rw [← hall]
  apply accepts_eq_of_iff hs1.bk hs.bk hK hKnd
  obtain ⟨ls1, ls2⟩ := loopNames_some_mem (kw := kw) (o := pobj)
  rw [hrun.acc m K inv0
    (fun a ha _ => partial_ok_pos hs hb hs1 _ (ls2 ▸ List.mem_map_of_mem ha))
    (fun a ha hn => by have := ls1 a ha; rw [hn] at this; cases this) _ (by rw [ls2]; exact hmem)]
  have pop := step_pop hs n m (K ++ (kw.map (·.1)).filter (fun k => !K.contains k)) hcount
  refine ⟨pop.1 fun k hk => ?_, pop.2⟩
  -- no keyword of the final call names a bound positional: a bound keyword would have made the
  -- loop raise, a keyword of the call would collide
  rcases (hmem k).1 hk with hk | hk
  · exact nonColl_not_consumed hall n hs1.bk (fun y hy hc => partial_ok_taken hs hb hfresh y hc hy) hnc k hk
  · exact hfresh k hk

/-- exactness: the reported signature accepts a non-colliding call (m, K) exactly when f accepts
    the bound positionals followed by the call's, and the bound keywords plus the call's (call
    keywords override bound ones) -/
theorem partial_exact (sig R : USig) (n m : Nat) (kw : List (Nat × Nat)) (pobj : Nat) (K : List Nat)
    (hwf : WF sig.params) (hkw : (kw.map (·.1)).Nodup) (hK : K.Nodup)
    (hpo : ∀ p ∈ sig.params, p.kind = .po → p.name ∉ kw.map (·.1))
    (hR : maskPartial sig n kw pobj = .ok R)
    (hnc : nonColl R.params [sig.params] K) :
    accepts R.params m K =
      accepts sig.params (n + m) (K ++ (kw.map (·.1)).filter (fun k => !K.contains k)) := by
  have _ := hkw
  have _ := hpo
  exact partial_accepts sig R n m kw pobj K hwf hK hR hnc

/-- every bound keyword shows up as a keyword-only parameter whose default is the bound value —
    unless it is named like `*args` or `**kwargs` themselves, in which case no parameter list can
    show it (it is absorbed silently, as after `fix:` D51; before, `_mask` raised) -/
theorem partial_bound_keywords (sig R : USig) (n : Nat) (kw : List (Nat × Nat)) (pobj : Nat)
    (hwf : WF sig.params) (hkw : (kw.map (·.1)).Nodup)
    (hR : maskPartial sig n kw pobj = .ok R) :
    ∀ kv ∈ kw, (∀ p ∈ sig.params, (p.kind = .vp ∨ p.kind = .vk) → p.name ≠ kv.1) →
      ∃ p ∈ R.params, p.name = kv.1 ∧ p.kind = .ko ∧ p.dflt = some kv.2 := by
  have _ := hkw
  obtain ⟨s, st, hs, hall, -, -, -, hb, -, rfl⟩ := partial_ok hwf hR
  intro kv hkv hstar
  have hns : starNamed (initP s n).va s.vk kv.1 = false :=
    starNamed_false_iff.2
      ⟨fun a ha => hstar a (hall ▸ mem_all_iff.2 (Or.inr (Or.inr (Or.inl ha)))) (Or.inl (hs.bk.va a ha)),
        fun k hk => hstar k (hall ▸ mem_all_iff.2 (Or.inr (Or.inr (Or.inr (Or.inr hk)))))
          (Or.inr (hs.bk.vk k hk))⟩
  obtain ⟨p, hp, h1⟩ := hb.bound kv hkv hns
  exact ⟨p, mem_sOf_all.2 (Or.inr (Or.inr (Or.inr (Or.inl hp)))), h1⟩

/-- a keyword bound to a positional-or-keyword parameter makes it and all following positional
    parameters keyword-only and removes *args -/
theorem partial_pok_keyword (sig R : USig) (n : Nat) (kw : List (Nat × Nat)) (pobj : Nat)
    (hwf : WF sig.params) (hkw : (kw.map (·.1)).Nodup)
    (hR : maskPartial sig n kw pobj = .ok R)
    (kv : Nat × Nat) (hkv : kv ∈ kw) (q : Param) (hq : q ∈ sig.params) (hqk : q.kind = .pk)
    (hqn : q.name = kv.1) :
    hasVa R.params = false ∧
    ∀ p ∈ sig.params, isPositional p = true →
      (names (positionals sig.params)).idxOf q.name ≤ (names (positionals sig.params)).idxOf p.name →
      ∀ r ∈ R.params, r.name = p.name → r.kind = .ko := by
  have _ := hkw
  obtain ⟨s, st, hs, hall, -, -, hrun, hb, hs1, rfl⟩ := partial_ok hwf hR
  have hc := hrun.bound_names.2.1
  have hpre := hb.pok
  have hpv := hb.pokva
  simp only [initP_consumed, initP_pok] at hc hpre hpv
  have hxkw : q.name ∈ kw.map (·.1) := by rw [hqn]; exact List.mem_map.2 ⟨kv, hkv, rfl⟩
  -- q is a positional-or-keyword parameter that was not consumed
  have hqpok : q ∈ s.pok := (mem_all_of_kind hs.bk (hall ▸ hq)).2.1 hqk
  have hqt : q.name ∉ names (s.pok.take (n - s.pos.length)) := fun h =>
    hc _ hxkw (by rw [List.take_append, names_append]; exact List.mem_append_right _ h)
  have hq0 : q ∈ s.pok.drop (n - s.pos.length) :=
    ((mem_take_or_drop s.pok (n - s.pos.length) q).1 hqpok).resolve_left
      (fun h => hqt (mem_names_of_mem h))
  have hxst : q.name ∉ names st.pok := hb.gone _ hxkw
  have hvanone : st.va = none :=
    hpv.resolve_left (fun h => hxst (h ▸ mem_names_of_mem hq0))
  refine ⟨?_, ?_⟩
  · rw [hasVa_all hs1.bk]; simp [sOf, hvanone]
  · intro p hp hpp hidx r hr hrn
    rw [← hall, positionals_all hs.bk] at hidx
    -- the positional names split into those that are still positional in the result (with the
    -- consumed ones) and the rest, which begins at or before q
    obtain ⟨t, ht⟩ := hpre
    have hN : s.pos ++ s.pok = (s.pos ++ s.pok.take (n - s.pos.length) ++ st.pok) ++ t := by
      rw [List.append_assoc, List.append_assoc, ht, List.take_append_drop]
    have hxL : q.name ∉ names (s.pos ++ s.pok.take (n - s.pos.length) ++ st.pok) := by
      simp only [names_append, List.mem_append, not_or]
      exact ⟨⟨fun h => hs.parts.2.2.2.1 _ h (mem_names_of_mem hqpok), hqt⟩, hxst⟩
    have key : ∀ a ∈ s.pos ++ s.pok.take (n - s.pos.length) ++ st.pok, a.name ≠ p.name := by
      intro a ha e
      have := idxOf_lt_of_mem_append (M := names t) (mem_names_of_mem ha) hxL
      rw [← names_append, ← hN, e] at this
      omega
    have hppos : p ∈ s.pos ++ s.pok := by
      rw [← positionals_all hs.bk]
      exact List.mem_filter.2 ⟨hall ▸ hp, hpp⟩
    rcases mem_sOf_all.1 hr with h | h | h | h | h
    · exact absurd hrn (key r (by simp [List.mem_of_mem_drop h]))
    · exact absurd hrn (key r (by simp [h]))
    · rw [hvanone] at h; cases h
    · exact hs1.bk.kwo r h
    · exact absurd hrn ((hs.star_names _ (mem_names_of_mem (List.mem_append_left _ hppos))).2 r h)

/-- bound positionals disappear -/
theorem partial_bound_positionals (sig R : USig) (n : Nat) (kw : List (Nat × Nat)) (pobj : Nat)
    (hwf : WF sig.params) (hR : maskPartial sig n kw pobj = .ok R) :
    ∀ x ∈ (names (positionals sig.params)).take n, x ∉ names R.params := by
  obtain ⟨s, st, hs, hall, -, -, hrun, hb, -, rfl⟩ := partial_ok hwf hR
  intro x hx hmem
  rw [← hall, positionals_all hs.bk, ← names_take] at hx
  obtain ⟨p, hp, rfl⟩ := mem_names.1 hmem
  have hnot := partial_ok_taken hs hb hrun.bound_names.2.1 _ hx
  have hxP : p.name ∈ names (s.pos ++ s.pok) := by
    rw [names_take] at hx; exact List.mem_of_mem_take hx
  obtain ⟨s1, s2⟩ := hs.star_names _ (by rw [names_append]; exact List.mem_append_left _ hxP)
  rcases mem_sOf_all.1 hp with h | h | h | h | h
  · exact (take_drop_disj hs n _ hx).1 (mem_names_of_mem h)
  · exact hnot (Or.inl (mem_names_of_mem h))
  · rcases hb.va with e | e
    · rw [e] at h; cases h
    · exact s1 p (e.symm.trans h) rfl
  · exact hnot (Or.inr (mem_names_of_mem h))
  · exact s2 p h rfl

/-- keywords absorbed by **kwargs are sourced to the partial object, which has depth 0; every other
    callable is one level deeper -/
theorem partial_absorbed_sources (sig R : USig) (n : Nat) (kw : List (Nat × Nat)) (pobj : Nat)
    (hwf : WF sig.params) (hkw : (kw.map (·.1)).Nodup)
    (hR : maskPartial sig n kw pobj = .ok R) :
    (∀ kv ∈ kw, kv.1 ∉ names sig.params → dget R.src kv.1 = some [pobj]) ∧
    dget R.depths pobj = some 0 := by
  have _ := hkw
  obtain ⟨s, st, -, hall, -, -, hrun, -, -, rfl⟩ := partial_ok hwf hR
  refine ⟨?_, by rw [dget_dset, if_pos rfl]⟩
  intro kv hkv hfor
  rw [← hall] at hfor
  simp only [Sorted.all, names_append, List.mem_append, not_or] at hfor
  obtain ⟨⟨⟨⟨f1, f2⟩, f3⟩, f4⟩, f5⟩ := hfor
  refine hrun.src kv hkv ?_ f4
    (starNamed_false_iff.2 ⟨not_mem_names_toList.1 f3, not_mem_names_toList.1 f5⟩)
  rw [initP_pok, names_drop]
  exact fun h => f2 (List.mem_of_mem_drop h)

/-- (finding D51, repaired) a keyword named like the signature's own `*args` or `**kwargs` — which only
    `**kwargs` can take and which no parameter list can show — is absorbed silently: retrieval succeeds
    and the parameters are those of f, for every well-formed f that has `**kwargs` -/
theorem partial_star_keyword (sig : USig) (v pobj : Nat) (k : Param) (hwf : WF sig.params)
    (hk : (sortParams sig).va = some k ∨ (sortParams sig).vk = some k)
    (hvk : (sortParams sig).vk.isSome = true) :
    ∃ R, maskPartial sig 0 [(k.name, v)] pobj = .ok R ∧ R.params = sig.params := by
  have hs := sortParams_swf hwf
  have hall := sortParams_all hwf
  unfold maskPartial
  rw [maskCore_phases]
  generalize sortParams sig = s at *
  have hfree : k.name ∉ names (s.pos ++ s.pok ++ s.kwo) := fun hm =>
    hk.elim (fun h => (hs.star_names _ hm).1 k h rfl) (fun h => (hs.star_names _ hm).2 k h rfl)
  simp only [names_append, List.mem_append, not_or] at hfree
  have hstar : starNamed s.va s.vk k.name = true := by
    rw [← Bool.not_eq_false, starNamed_false_iff]
    exact fun h => hk.elim (fun e => h.1 k e rfl) (fun e => h.2 k e rfl)
  rw [show prelude s 0 {} = .ok ([], s.pos, s.pok) from rfl]
  simp only [bind, Except.bind, Bool.false_eq_true, if_false]
  rw [show loopNames [(k.name, v)] (some pobj) = [(k.name, some (v, pobj))] from rfl, maskNames,
    maskName_star v pobj List.not_mem_nil hfree.1.2 hfree.2 hvk hstar]
  simp only [bind, Except.bind, maskNames]
  exact ⟨_, applyParams_of_valid sig hs.validate, hall⟩

def exP : USig :=
  { params := [⟨1, .pk, none, none, .empty⟩, ⟨2, .pk, some 1, none, .empty⟩, ⟨11, .vp, none, none, .empty⟩,
               ⟨3, .ko, none, none, .empty⟩, ⟨12, .vk, none, none, .empty⟩],
    src := [(1, [7]), (2, [7]), (11, [7]), (3, [7]), (12, [7])], depths := [(7, 0)] }
theorem exP_wf : WF exP.params := by decide +kernel
example : WF exP.params := exP_wf

/-- `partial(f, x, c=5, z=6)` for `f(a, b=1, *args, c, **kw)`: `(b=1, *args, c=5, z=6, **kw)` -/
def exPR : USig :=
  { params := [⟨2, .pk, some 1, none, .empty⟩, ⟨11, .vp, none, none, .empty⟩, ⟨3, .ko, some 5, none, .empty⟩,
               ⟨9, .ko, some 6, none, .empty⟩, ⟨12, .vk, none, none, .empty⟩],
    src := [(2, [7]), (11, [7]), (3, [7]), (12, [7]), (9, [8])], depths := [(7, 1), (8, 0)] }

theorem exP_partial : maskPartial exP 1 [(3, 5), (9, 6)] 8 = .ok exPR := eq_ok_of (by decide +kernel)
example : maskPartial exP 1 [(3, 5), (9, 6)] 8 = .ok exPR := exP_partial

-- `partial_exact`: the call overrides the bound keyword 3 and adds a foreign keyword 10
example : accepts exPR.params 1 [3, 10] =
    accepts exP.params (1 + 1) ([3, 10] ++ ([(3, 5), (9, 6)].map (·.1)).filter (fun k => ![3, 10].contains k)) :=
  partial_exact exP exPR 1 1 [(3, 5), (9, 6)] 8 [3, 10] exP_wf (by decide +kernel) (by decide +kernel)
    (by decide +kernel) exP_partial (by decide +kernel)
example : accepts exPR.params 1 [3, 10] = true ∧ accepts exP.params 2 [3, 10, 9] = true := by decide +kernel
-- a bound keyword naming a parameter consumed positionally makes `_mask` raise (so `hR` excludes it)
example : maskPartial exP 1 [(1, 5)] 8 = .error .valueError := rfl

-- `partial_bound_keywords`, `partial_absorbed_sources`, `partial_bound_positionals` on the same instance
example : ∀ kv ∈ [(3, 5), (9, 6)], ∃ p ∈ exPR.params, p.name = kv.1 ∧ p.kind = .ko ∧ p.dflt = some kv.2 :=
  fun kv hkv => partial_bound_keywords exP exPR 1 [(3, 5), (9, 6)] 8 exP_wf (by decide +kernel) exP_partial kv hkv
    (by revert kv; decide +kernel)
example : (∀ kv ∈ [(3, 5), (9, 6)], kv.1 ∉ names exP.params → dget exPR.src kv.1 = some [8]) ∧
    dget exPR.depths 8 = some 0 :=
  partial_absorbed_sources exP exPR 1 [(3, 5), (9, 6)] 8 exP_wf (by decide +kernel) exP_partial
example : (9 : Nat) ∉ names exP.params ∧ dget exPR.src 9 = some [8] := by decide +kernel
example : ∀ x ∈ (names (positionals exP.params)).take 1, x ∉ names exPR.params :=
  partial_bound_positionals exP exPR 1 [(3, 5), (9, 6)] 8 exP_wf exP_partial
example : (names (positionals exP.params)).take 1 = [1] := by decide +kernel

/-- `partial(f, a=5)`: `(*, c, b=1, a=5, **kw)` — a, b became keyword-only and `*args` is gone -/
def exPR2 : USig :=
  { params := [⟨3, .ko, none, none, .empty⟩, ⟨2, .ko, some 1, none, .empty⟩, ⟨1, .ko, some 5, none, .empty⟩,
               ⟨12, .vk, none, none, .empty⟩],
    src := [(1, [7]), (2, [7]), (3, [7]), (12, [7])], depths := [(7, 1), (8, 0)] }

theorem exP_partial2 : maskPartial exP 0 [(1, 5)] 8 = .ok exPR2 := eq_ok_of (by decide +kernel)
example : maskPartial exP 0 [(1, 5)] 8 = .ok exPR2 := exP_partial2
example : hasVa exPR2.params = false ∧
    ∀ p ∈ exP.params, isPositional p = true →
      (names (positionals exP.params)).idxOf 1 ≤ (names (positionals exP.params)).idxOf p.name →
      ∀ r ∈ exPR2.params, r.name = p.name → r.kind = .ko :=
  partial_pok_keyword exP exPR2 0 [(1, 5)] 8 exP_wf (by decide +kernel) exP_partial2 (1, 5) (by decide +kernel)
    ⟨1, .pk, none, none, .empty⟩ (by decide +kernel) rfl rfl

-- a keyword named like `*args` (11) or `**kw` (12) while that parameter is still there is absorbed
-- silently: no parameter list can show it (finding D51: `_mask` raised for these before the `fix:`);
-- once a binding of a positional-or-keyword parameter has removed `*args`, the name is free again
example : ∃ R, maskPartial exP 0 [(11, 5), (1, 4)] 8 = .ok R ∧ names R.params = [3, 2, 1, 12] :=
  exists_ok_and (by decide +kernel)
example : ∃ R, maskPartial exP 0 [(1, 4), (11, 5)] 8 = .ok R ∧ names R.params = [3, 2, 1, 11, 12] :=
  exists_ok_and (by decide +kernel)
example : ∃ R, maskPartial exP 0 [(11, 5)] 8 = .ok R ∧ R.params = exP.params :=
  exists_ok_and (by decide +kernel)
example : ∃ R, maskPartial exP 0 [(12, 5)] 8 = .ok R ∧ R.params = exP.params :=
  exists_ok_and (by decide +kernel)
-- `partial_star_keyword` on the same instance (its hypotheses are met: 12 is `**kw` of exP, 11 its `*args`)
example : ∃ R, maskPartial exP 0 [(12, 5)] 8 = .ok R ∧ R.params = exP.params :=
  partial_star_keyword exP 5 8 ⟨12, .vk, none, none, .empty⟩ exP_wf (Or.inr rfl) rfl
example : ∃ R, maskPartial exP 0 [(11, 5)] 8 = .ok R ∧ R.params = exP.params :=
  partial_star_keyword exP 5 8 ⟨11, .vp, none, none, .empty⟩ exP_wf (Or.inl rfl) rfl

end SV
