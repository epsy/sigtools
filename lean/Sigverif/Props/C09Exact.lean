/-
  Props/C09Exact.lean — property C09, first sentence, the "accepts exactly" half:
  the property theorems + non-vacuity examples.

  C09: "When the inputs give the same name to their positional parameters position by position and
  shared names keep their role, merge accepts exactly the non-colliding calls that all inputs
  accept, and raises IncompatibleSignatures exactly when no such call exists."

  `aligned` (Props/Defs.lean) is the hypothesis on the inputs, `nonColl` the restriction on the
  calls.  Soundness (result accepts → every input accepts) is `merge_sound_roles` (Props/C01.lean);
  this file proves COMPLETENESS (every input accepts → result accepts) and combines the two.
  All statements are at full strength (no added hypothesis), for any number of inputs.

  THE INVARIANT OF THE FOLD is `accW9 ρ IsIn M n K` (Lemmas/C09XFold.lean), for the call shape
    `(n, K)`, an intermediate record `M`, the global role assignment `ρ` (kind `ρ.κ x` and
    positional index `ρ.ι x` of every name `x`, which exists by `roleCons`) and `IsIn x` = "x is a
    parameter name of some input",
    together with the role invariant `RI ρ IsIn M` of the soundness proof (Lemmas/C01Roles.lean).
    It relates the accumulator (whose kinds have changed, pk → po / ko) to the remaining inputs
    through `ρ` only: `RI` pins every positional parameter of the accumulator to the index `ρ.ι` of
    its name, which by `aligned` is the index of the same name in every input (`AL9_of_RI`).
    `accW9` deliberately does NOT say how a required positional parameter named by a keyword is
    bound and says nothing about non-foreign keywords: `nonColl` speaks about the FINAL result
    only, and is used exactly once, on the final record (`accB_of_accW9`).
    It is carried through the fold by `mergeFold_accW` below.
-/
import Sigverif.Props.Defs
import Sigverif.Props.C01
import Sigverif.Lemmas.C09XFold
namespace SV

/-- THE INVARIANT OF THE FOLD (see the header): `accW9` — together with the role invariant `RI` —
    holds of the accumulator after every step of the fold, given that it holds of the first
    accumulator and of every remaining input, and that every record satisfying `RI` is name-aligned
    (`AL9`: same positional index, same name) with every remaining input.  No `nonColl` here. -/
theorem mergeFold_accW {ρ : Roles} {IsIn : Nat → Prop} (ss : List USig) (acc res : Sorted)
    (hacc : RI ρ IsIn acc) (hss : ∀ s ∈ ss, RI ρ IsIn (sortParams s))
    (hAL : ∀ acc', RI ρ IsIn acc' → ∀ s ∈ ss, AL9 acc' (sortParams s))
    (h : mergeFold acc ss = .ok res) {n : Nat} {K : List Nat}
    (w0 : accW9 ρ IsIn acc n K) (ws : ∀ s ∈ ss, accW9 ρ IsIn (sortParams s) n K) :
    RI ρ IsIn res ∧ accW9 ρ IsIn res n K :=
  mergeFold_inv (Inv := fun a => RI ρ IsIn a ∧ accW9 ρ IsIn a n K)
    (fun l _ s hm ⟨hl, wl⟩ hstep => step_completeW hl (hss s hm) (.inl (hAL l hl s hm)) hstep wl (ws s hm))
    ⟨hacc, w0⟩ h

/-- completeness for any number of inputs: a non-colliding call that every input accepts is
    accepted by the result -/
theorem merge_complete_aligned (ss : List USig) (R : USig) (n : Nat) (K : List Nat)
    (hwf : ∀ s ∈ ss, WF s.params) (hK : K.Nodup) (hal : aligned (ss.map (·.params)))
    (hR : merge ss = .ok R) (hnc : nonColl R.params (ss.map (·.params)) K)
    (hacc : ∀ s ∈ ss, accepts s.params n K = true) : accepts R.params n K = true := by
  have hv : ∀ s ∈ ss, validate s.params = .ok () := fun s hs => (hwf s hs).validate
  obtain ⟨ρ, hρ, hri⟩ := exists_roles_RI ss hv hal.1
  let IsIn : Nat → Prop := fun x => ∃ ps ∈ ss.map (·.params), x ∈ allNames ps
  have hw : ∀ s ∈ ss, accW9 ρ IsIn (sortParams s) n K := by
    intro s hs
    obtain ⟨a1, a2⟩ := input_accB_of_accepts s (hv s hs) (hri s hs) (hacc s hs)
    exact accW9_of_accB (hri s hs) a1 a2
  obtain ⟨s0, ss', res, rfl, hf, ha⟩ := merge_inv hR
  have hp := (applyParams_fields ha).1
  obtain ⟨hres, wres⟩ := mergeFold_accW ss' _ res (hri s0 List.mem_cons_self)
    (fun t ht => hri t (List.mem_cons_of_mem _ ht))
    (fun acc' ha t ht => AL9_of_RI hal hρ ha t
      (List.mem_map.2 ⟨t, List.mem_cons_of_mem _ ht, rfl⟩) (hv t (List.mem_cons_of_mem _ ht)))
    hf (hw s0 List.mem_cons_self) (fun t ht => hw t (List.mem_cons_of_mem _ ht))
  obtain ⟨m1, m2⟩ := accB_of_accW9 hres wres (by
    intro k hk
    rcases hnc k hk with h' | h'
    · rw [hp, kwNames_all hres.bk, List.mem_append] at h'
      rcases h' with h' | h'
      · exact Or.inl h'
      · exact Or.inr (Or.inl h')
    · right; right
      rintro ⟨ps, hps, hx⟩
      exact h' ps hps hx)
  rw [hp]
  exact accepts_of_accB hres (applyParams_ok _ _ _ ha).1 hK m1 m2

/-- exactness for any number of inputs: on name-aligned inputs the result accepts exactly the
    non-colliding calls that all inputs accept -/
theorem merge_exact_aligned (ss : List USig) (R : USig) (n : Nat) (K : List Nat)
    (hwf : ∀ s ∈ ss, WF s.params) (hK : K.Nodup) (hal : aligned (ss.map (·.params)))
    (hR : merge ss = .ok R) (hnc : nonColl R.params (ss.map (·.params)) K) :
    accepts R.params n K = true ↔ ∀ s ∈ ss, accepts s.params n K = true :=
  ⟨merge_sound_roles ss R n K hwf hK hal.1 hR hnc,
   merge_complete_aligned ss R n K hwf hK hal hR hnc⟩

/-- exactness for two inputs -/
theorem merge_exact_aligned_pair (a b R : USig) (n : Nat) (K : List Nat)
    (ha : WF a.params) (hb : WF b.params) (hK : K.Nodup)
    (hal : aligned [a.params, b.params])
    (hR : merge [a, b] = .ok R)
    (hnc : nonColl R.params [a.params, b.params] K) :
    accepts R.params n K = true ↔ (accepts a.params n K = true ∧ accepts b.params n K = true) := by
  simpa using merge_exact_aligned [a, b] R n K (by simp [ha, hb]) hK hal hR hnc

/-- completeness for two inputs -/
theorem merge_complete_aligned_pair (a b R : USig) (n : Nat) (K : List Nat)
    (ha : WF a.params) (hb : WF b.params) (hK : K.Nodup)
    (hal : aligned [a.params, b.params])
    (hR : merge [a, b] = .ok R)
    (hnc : nonColl R.params [a.params, b.params] K)
    (hacc : accepts a.params n K = true ∧ accepts b.params n K = true) :
    accepts R.params n K = true :=
  (merge_exact_aligned_pair a b R n K ha hb hK hal hR hnc).2 hacc

/-! non-vacuity -/

/-- `(p, /, q, *args, k=7, **kw)` -/
def x9a : USig := { params := [⟨1, .po, none, none, .empty⟩, ⟨2, .pk, none, none, .empty⟩,
  ⟨11, .vp, none, none, .empty⟩, ⟨5, .ko, some 7, none, .empty⟩, ⟨12, .vk, none, none, .empty⟩] }
/-- `(p, /, q=4, r=4, *, k)` -/
def x9b : USig := { params := [⟨1, .po, none, none, .empty⟩, ⟨2, .pk, some 4, none, .empty⟩,
  ⟨3, .pk, some 4, none, .empty⟩, ⟨5, .ko, none, none, .empty⟩] }
/-- `(p, /, q, *args, **kw)` -/
def x9c : USig := { params := [⟨1, .po, none, none, .empty⟩, ⟨2, .pk, none, none, .empty⟩,
  ⟨11, .vp, none, none, .empty⟩, ⟨12, .vk, none, none, .empty⟩] }

example : ∀ s ∈ [x9a, x9b, x9c], WF s.params := by decide

/-- the three signatures (hence also the first two) are name-aligned -/
theorem x9_aligned3 : aligned ([x9a, x9b, x9c].map (·.params)) := by decide +kernel

theorem x9_aligned2 : aligned [x9a.params, x9b.params] := by
  obtain ⟨h1, h2⟩ := x9_aligned3
  have sub : ∀ s ∈ [x9a.params, x9b.params], s ∈ [x9a, x9b, x9c].map (·.params) := by
    intro s hs; simp only [List.mem_cons, List.not_mem_nil, or_false] at hs
    rcases hs with rfl | rfl <;> simp
  exact ⟨fun s hs t ht => h1 s (sub s hs) t (sub t ht), fun s hs t ht => h2 s (sub s hs) t (sub t ht)⟩

/-- `(p, /, q, r=4, *, k)`: the parameters of the merge of the pair, and of all three -/
def x9r : List Param := [⟨1, .po, none, none, .empty⟩, ⟨2, .pk, none, none, .empty⟩,
  ⟨3, .pk, some 4, none, .empty⟩, ⟨5, .ko, none, none, .empty⟩]

theorem x9_merge2 : ∃ R, merge [x9a, x9b] = .ok R ∧ R.params = x9r := by
  simp only [merge, mergeFold, mergeStep_eq]; exact exists_ok_and (by decide +kernel)

theorem x9_merge3 : ∃ R, merge [x9a, x9b, x9c] = .ok R ∧ R.params = x9r := by
  simp only [merge, mergeFold, mergeStep_eq]; exact exists_ok_and (by decide +kernel)

/-- the merge of the pair is `(p, /, q, r=4, *, k)`; the mixed call `(2, [r, k])` is non-colliding,
    accepted by both inputs (`r` goes to `**kw` of the first) and by the result -/
example : ∃ R, merge [x9a, x9b] = .ok R ∧ [3, 5].Nodup ∧
    nonColl R.params [x9a.params, x9b.params] [3, 5] ∧
    accepts x9a.params 2 [3, 5] = true ∧ accepts x9b.params 2 [3, 5] = true ∧
    accepts R.params 2 [3, 5] = true := by
  obtain ⟨R, hR, hp⟩ := x9_merge2
  refine ⟨R, hR, ?_⟩
  rw [hp]; decide +kernel

/-- … `(1, [q, k])` too (a positional and keywords naming a pk and a kwo parameter) -/
example : ∃ R, merge [x9a, x9b] = .ok R ∧
    nonColl R.params [x9a.params, x9b.params] [2, 5] ∧
    accepts x9a.params 1 [2, 5] = true ∧ accepts x9b.params 1 [2, 5] = true ∧
    accepts R.params 1 [2, 5] = true := by
  obtain ⟨R, hR, hp⟩ := x9_merge2
  refine ⟨R, hR, ?_⟩
  rw [hp]; decide +kernel

/-- calls rejected by one input and by the result: four positionals (the second input has three
    positional parameters and no `*args`), and `(1, [k])` (the first input requires `q`) -/
example : ∃ R, merge [x9a, x9b] = .ok R ∧
    nonColl R.params [x9a.params, x9b.params] [5] ∧
    accepts x9a.params 4 [5] = true ∧ accepts x9b.params 4 [5] = false ∧
    accepts R.params 4 [5] = false ∧
    accepts x9a.params 1 [5] = false ∧ accepts x9b.params 1 [5] = true ∧
    accepts R.params 1 [5] = false := by
  obtain ⟨R, hR, hp⟩ := x9_merge2
  refine ⟨R, hR, ?_⟩
  rw [hp]; decide +kernel

/-- three inputs: same result, the call `(2, [r, k, z])` with the foreign keyword `z` is
    non-colliding and rejected (the second input has no `**kwargs`), `(2, [r, k])` is accepted -/
example : ∃ R, merge [x9a, x9b, x9c] = .ok R ∧
    nonColl R.params ([x9a, x9b, x9c].map (·.params)) [3, 5, 9] ∧
    nonColl R.params ([x9a, x9b, x9c].map (·.params)) [3, 5] ∧
    (∀ s ∈ [x9a, x9b, x9c], accepts s.params 2 [3, 5] = true) ∧
    accepts R.params 2 [3, 5] = true ∧
    accepts x9b.params 2 [3, 5, 9] = false ∧ accepts R.params 2 [3, 5, 9] = false := by
  obtain ⟨R, hR, hp⟩ := x9_merge3
  refine ⟨R, hR, ?_⟩
  rw [hp]; decide +kernel

end SV
