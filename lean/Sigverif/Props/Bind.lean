/-
  Props/Bind.lean — the bridge between the two models of CPython's argument binding:
  the value-level `bindCall` (Model/Call.lean) accepts a call exactly when the shape-level
  `accepts` (Model/Bind.lean) accepts its shape `(number of positionals, keyword names)`.
  ONLY the property theorem + counterexample + non-vacuity examples; helper lemmas in
  Sigverif/Lemmas/BindCall.lean.
-/
import Sigverif.Props.Defs
import Sigverif.Model.Call
import Sigverif.Lemmas.BindCall
import Sigverif.Lemmas.C20
namespace SV

/- ORIGINAL STATEMENT (false without `WF s`, see the counterexample below):
theorem bindCall_isSome_iff_accepts (s : List Param) (args : List Nat) (kwargs : List (Nat × Nat))
    (hk : (kwargs.map (·.1)).Nodup) :
    (bindCall s args kwargs).isSome = accepts s args.length (kwargs.map (·.1))
-/

/-- counterexample to the statement without `WF s`: two keyword-only parameters with the SAME name,
    the first defaulted, the second required (not a valid signature: duplicate name).  `fillDefaults`
    binds the name once through the first parameter's default and is then satisfied for the second,
    whereas `accepts` checks every required parameter against the names bound by the call. -/
example :
    let s : List Param := [⟨1, .ko, some 4, none, .empty⟩, ⟨1, .ko, none, none, .empty⟩]
    (([] : List (Nat × Nat)).map (·.1)).Nodup ∧
    (bindCall s [] []).isSome = true ∧ accepts s ([] : List Nat).length (([] : List (Nat × Nat)).map (·.1)) = false ∧
    ¬ WF s := by decide

set_option linter.unusedVariables false in
/-- `bindCall` accepts a call iff `accepts` accepts its shape.
    ADDED HYPOTHESIS: `WF s` (only the uniqueness of the names of the named parameters is used, see
    `bindCall_isSome_eq_accepts_of_nodup`; `hk` is not needed). -/
theorem bindCall_isSome_iff_accepts (s : List Param) (args : List Nat) (kwargs : List (Nat × Nat))
    (hwf : WF s) (hk : (kwargs.map (·.1)).Nodup) :
    (bindCall s args kwargs).isSome = accepts s args.length (kwargs.map (·.1)) := by
  apply bindCall_isSome_eq_accepts_of_nodup
  exact (List.filter_sublist.map _).nodup hwf.nodup

def exB : List Param := [⟨1, .po, none, none, .empty⟩, ⟨2, .pk, some 4, none, .empty⟩, ⟨11, .vp, none, none, .empty⟩,
                         ⟨3, .ko, none, none, .empty⟩, ⟨12, .vk, none, none, .empty⟩]
example : WF exB := by decide
example : (bindCall exB [5, 6, 7] [(3, 8), (9, 10)]).isSome = true ∧
    accepts exB 3 [3, 9] = true := by decide
example : (bindCall exB [5] [(2, 8)]).isSome = false ∧ accepts exB 1 [2] = false := by decide

end SV
