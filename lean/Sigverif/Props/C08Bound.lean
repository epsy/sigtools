/-
  Props/C08Bound.lean — property C08, "exactly one entry per parameter … nothing refers to a parameter that is not in
  the signature", for what `signatures.signature` returns for a BOUND METHOD (or a class) whose function carries a stored
  signature with provenance (`modifiers.annotate`, `f.__signature__ = sigtools.signature(g)`): inspect removes the receiver
  from the parameters and carries the maps over untouched; `signatures.signature` then drops the entries of the parameters
  that are gone (finding D56, repaired; `Model/Mask.lean`: `dropReceiver`, `pruneSrc`, `retrieveBound`).
-/
import Sigverif.Model.Mask
import Sigverif.Props.C08
namespace SV

private theorem mem_tail_names {ps : List Param} {k : Nat} (h : k ∈ names ps.tail) : k ∈ names ps := by
  cases ps with
  | nil => exact h
  | cons p t => exact List.mem_cons_of_mem _ h

/-- the remaining parameters keep exactly their entries, the entries of the others are gone, `+depths` is untouched -/
theorem retrieveBound_entries (sig : USig) :
    (retrieveBound sig).params = sig.params.tail ∧ (retrieveBound sig).depths = sig.depths ∧
    ∀ k, dget (retrieveBound sig).src k = if k ∈ names sig.params.tail then dget sig.src k else none := by
  refine ⟨rfl, rfl, ?_⟩
  intro k
  unfold retrieveBound pruneSrc dropReceiver
  simp only
  rw [dget_filter_key sig.src (fun n => (names sig.params.tail).contains n) k]
  simp

/-- provenance that is well-formed for the function is well-formed for its bound method -/
theorem retrieveBound_provWF (sig : USig) (h : ProvWF sig) : ProvWF (retrieveBound sig) := by
  obtain ⟨hp, -, hg⟩ := retrieveBound_entries sig
  exact provWF_iff.2 ((provWF_iff.1 h).restrict (fun k hk => mem_tail_names (hp ▸ hk)) fun k => by rw [hg k, hp])

/-- the code before D56 stopped at `dropReceiver`: the entry of the receiver stays although the parameter is gone -/
theorem dropReceiver_refuted :
    ∃ sig : USig, ProvWF sig ∧ ¬ ProvWF (dropReceiver sig) := by
  -- the witness is the default provenance of `def m(self, a)`
  refine ⟨{ params := [⟨1, .pk, none, none, .empty⟩, ⟨2, .pk, none, none, .empty⟩],
            src := [(1, [7]), (2, [7])], depths := [(7, 0)] },
    (default_provWF [⟨1, .pk, none, none, .empty⟩, ⟨2, .pk, none, none, .empty⟩] 7).1.toProvWF, fun h => ?_⟩
  have := (h.keys 1).1 (by simp [dropReceiver, dhas, dget])
  simp [dropReceiver, names] at this

/-! non-vacuity: `@annotate(a=int) def m(self, a)` — receiver 1, parameter 2, function 7 -/
example : retrieveBound { params := [⟨1, .pk, none, none, .empty⟩, ⟨2, .pk, none, none, .empty⟩],
                           src := [(1, [7]), (2, [7])], depths := [(7, 0)] } =
    { params := [⟨2, .pk, none, none, .empty⟩], src := [(2, [7])], depths := [(7, 0)] } := rfl

end SV
