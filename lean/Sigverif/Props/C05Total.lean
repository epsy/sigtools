/-
  Props/C05Total.lean — property C07: the AST walker is total (`visitor_total`).
-/
import Sigverif.Lemmas.C05TotalExt
namespace SV

/-- the walker never fails on a function definition, whatever the body contains -/
theorem visitor_total (po args kwo : List Nat) (va vk : Option Nat) (body : TreeList) :
    ∃ cs, runVisitor (.fdef po args kwo va vk body) = .ok cs := by
  rw [runVisitor]
  obtain ⟨new, hnew, hsz⟩ := C05T.visitList_ext body
    (processParams { nss := [{ parent := none }] } po args kwo va vk true)
  obtain ⟨st', hst'⟩ := C05T.revisitLoop_some (body.size + 1) 0
    (visitList body (processParams { nss := [{ parent := none }] } po args kwo va vk true))
    (by
      rw [hnew, C05T.processParams_revisit]
      simp only [List.nil_append, List.drop_zero]
      omega)
  simp only [hst']
  exact ⟨_, rfl⟩

/-! ### non-vacuity

`def g(a, *args, **kwargs): (lambda x: f(h(*args), k=o.m(**kwargs)))` — the outer call `f(…)` is
queued by the main pass (1 entry); processing it queues the two calls nested in its arguments, so
the queue GROWS to 3 entries while the loop runs: 2 iterations do not suffice, 3 do, and the fuel
`body.size + 1 = 11` given by `runVisitor` is enough.  All three calls are reported. -/
def exNested : TreeList :=
  .cons (.fdef [] [5] [] none none
    (.cons (.call (.name 21 .load)
        (.plain (.call (.name 22 .load) (.starred (.name 11 .load) .nil) .nil) .nil)
        (.kw 7 (.call (.attr (.name 23 .load) 3) .nil (.dstar (.name 12 .load) .nil)) .nil))
      .nil)) .nil

def exNestedSt0 : VState :=
  visitList exNested (processParams { nss := [{ parent := none }] } [] [1] [] (some 11) (some 12) true)

example : exNested.size = 10 := by decide
example : exNestedSt0.revisit.length = 1 := by decide
example : (revisitLoop 2 0 exNestedSt0).isSome = false := by decide
example : (revisitLoop 3 0 exNestedSt0).map (·.revisit.length) = some 3 := by decide
example : (runVisitor (.fdef [] [1] [] (some 11) (some 12) exNested)).toOption.map List.length
    = some 3 := by decide
example : (runVisitor (.fdef [] [1] [] (some 11) (some 12) exNested)).toOption.map
    (·.map (fun c => (c.wrapped, c.useVa, c.useVk)))
    = some [(.nm 21, false, false), (.nm 22, true, false), (.attr (.nm 23) 3, false, true)] := by
  decide
/-- a root that is not a function definition is the only way to fail -/
example : runVisitor (.other exNested) = .error .attributeError := rfl

end SV
