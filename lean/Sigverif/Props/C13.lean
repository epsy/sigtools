/-
  Props/C13.lean — property C13 (wrappers): the introspection side.
  Call transparency itself is definitional in the model and is validated on the real objects.
-/
import Sigverif.Model.Wrappers
import Sigverif.Props.C01
import Sigverif.Props.C04
namespace SV

/-- wrappers.wrappers(obj) lists the wrapping functions outermost first — any stack depth -/
theorem wrappers_order (ws : List Nat) (f : Nat) : wrappersOf (decorate ws f) = ws := by
  induction ws with
  | nil => rfl
  | cons w ws ih => exact congrArg (w :: ·) ih

/-- the reported signature of one level is a `forwards`, hence (C04) every non-colliding call it
    accepts is accepted by the wrapper function with `func` bound and, forwarded, by the inner one -/
theorem stack_level_sound (sigOfWrapper : Nat → USig) (sigOfFunc : Nat → USig) (w : Nat) (inner : WObj)
    (o i R : USig) (m : Nat) (K : List Nat)
    (hi : stackSig sigOfWrapper sigOfFunc inner = .ok i)
    (ho : mask (sigOfWrapper w) 1 [] {} = .ok o)
    (hR : stackSig sigOfWrapper sigOfFunc (.wrapped w inner) = .ok R)
    (hwo : WF o.params) (hwi : WF i.params) (hK : K.Nodup)
    (hnc : nonColl R.params [o.params, i.params] K)
    (hacc : accepts R.params m K = true) :
    wrapperRuns o.params i.params 0 [] true true m K = true := by
  have hR' : forwards o i 0 [] false false true true false = .ok R := by
    simp only [stackSig, hi, ho, bind, Except.bind] at hR
    exact hR
  exact forwards_sound o i R 0 m [] K true true hwo hwi (by simp) hK (by simp) (by simp) hR' hnc hacc

/-- Combination: its signature is the merge of (arg, *args, **kwargs) with the combined functions'
    signatures; for functions using names in consistent roles every non-colliding call it accepts
    is accepted by each of them (instance of merge_sound_roles) -/
theorem combination_sig_sound (self_sig : USig) (fs : List USig) (R : USig) (n : Nat) (K : List Nat)
    (hwf : ∀ s ∈ self_sig :: fs, WF s.params) (hK : K.Nodup)
    (hrc : roleCons ((self_sig :: fs).map (·.params)))
    (hR : merge (self_sig :: fs) = .ok R)
    (hnc : nonColl R.params ((self_sig :: fs).map (·.params)) K)
    (hacc : accepts R.params n K = true) :
    ∀ f ∈ fs, accepts f.params n K = true :=
  fun f hf => merge_sound_roles (self_sig :: fs) R n K hwf hK hrc hR hnc hacc f (List.mem_cons_of_mem _ hf)

example : wrappersOf (decorate [3, 4, 5] 9) = [3, 4, 5] := by decide

end SV
