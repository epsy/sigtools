/-
  Props/SM.lean — the small state machines: C14 (comparison/hash laws), C16 (attribute
  save/restore with a crash at every outside call; the as_forged guard), C17 (the same machine under
  arbitrary interleavings of any number of threads), C18 (the descriptor cache: no retention).
  ONLY property theorems + non-vacuity examples; helper lemmas in Sigverif/Lemmas/SM.lean.
-/
import Sigverif.Lemmas.SM
namespace SV

/-! ## C14 -/

/-- comparing with == against any object returns a bool without raising -/
theorem eq_total (a b : Obj) : ∃ r, pyEq a b = .ok r := ⟨_, pyEq_spec a b⟩
theorem ne_total (a b : Obj) : ∃ r, pyNe a b = .ok r ∧ pyEq a b = .ok (!r) := by
  refine ⟨!eqSpec a b, ?_, ?_⟩ <;> simp [pyNe, pyEq_spec, Except.map]
theorem eq_refl (a : Obj) : pyEq a a = .ok true := by
  rw [pyEq_spec]; cases a <;> simp [eqSpec, cmp, Obj.id]
/-- symmetric, also against plain inspect objects -/
theorem eq_symm (a b : Obj) : pyEq a b = pyEq b a := by
  simp only [pyEq_spec, eqSpec, cmp_symm b a, eq_comm]
/-- an upgraded object equals the plain object carrying the same data, both ways round -/
theorem eq_plain_same_data (i j d u : Nat) :
    pyEq (.usig i d u) (.psig j d) = .ok true ∧ pyEq (.psig j d) (.usig i d u) = .ok true ∧
    pyEq (.uparam i d u) (.pparam j d) = .ok true ∧ pyEq (.pparam j d) (.uparam i d u) = .ok true := by
  simp [pyEq_spec, eqSpec, cmp]
/-- consistent with hash (objects are identified by their id: same id ⇒ same object) -/
theorem eq_hash (a b : Obj) (hid : a.id = b.id → a = b) (h : pyEq a b = .ok true) :
    pyHash a = pyHash b := by
  rw [pyEq_spec, eqSpec] at h
  have hsame : a.id = b.id → pyHash a = pyHash b := fun hi => by rw [hid hi]
  cases hc : cmp a b with
  | t => exact (hash_of_cmp a b hc).elim hsame id
  | f => simp [hc] at h
  | notImpl => exact hsame (by simpa [hc] using h)
/-- hashable whenever the plain counterpart is, with the same hash -/
theorem hash_like_plain (i j d u : Nat) :
    pyHash (.usig i d u) = pyHash (.psig j d) ∧ pyHash (.uparam i d u) = pyHash (.pparam j d) ∧
    (pyHash (.usig i d u)).isSome := by
  simp [pyHash]
/-- replace() returns the upgraded type and keeps the upgraded annotation unless overridden -/
theorem replace_keeps (i j d u : Nat) (nd nu : Option Nat) :
    replaceSig (.usig i d u) j nd nu = .usig j (nd.getD d) (nu.getD u) ∧
    replaceSig (.uparam i d u) j nd nu = .uparam j (nd.getD d) (nu.getD u) := by
  simp [replaceSig]

/-! ## C16 -/

/-- whatever outside call raises (or none), the object has exactly the attributes it had before -/
theorem cleanup_restores (fault : Option Nat) (s : Store) : (cleanupRun fault s).store = s := by
  rw [cleanupRun_eq]
/-- an exception escapes exactly when the injected fault hit one of the calls that were made -/
theorem cleanup_raises_iff (fault : Option Nat) (s : Store) :
    (cleanupRun fault s).raised = true ↔ ∃ k, fault = some k ∧ k < (cleanupRun fault s).calls := by
  rw [cleanupRun_eq]
  cases fault with
  | none => simp
  | some k =>
    simp only [decide_eq_true_eq, Option.some.injEq, exists_eq_left']
    omega
/-- there are at most three crash points (two getattr, one body) and the fault-free run makes all three -/
theorem cleanup_calls (fault : Option Nat) (s : Store) :
    (cleanupRun fault s).calls ≤ 3 ∧ (cleanupRun none s).calls = 3 := by
  simp only [cleanupRun_eq, and_true]
  cases fault with
  | none => exact Nat.le_refl 3
  | some k => exact Nat.min_le_right _ _
/-- the recursion guard is left as it was found, crash or no crash; in particular empty stays empty -/
theorem asForged_guard_restored (fault : Option Nat) (guard : List Nat) (obj : Nat) :
    (asForgedGet fault guard obj).1 = guard ∧ (asForgedGet fault [] obj).1 = [] := by
  refine ⟨?_, by simp [asForgedGet]⟩
  by_cases h : obj ∈ guard
  · simp [asForgedGet, h]
  · -- `discard` gives `guard` back because `obj` was not in it before `add`
    simpa [asForgedGet, h, List.filter_eq_self] using fun a ha (hne : a = obj) => h (hne ▸ ha)

/-! ## C17 -/

/-- No interleaving leaves the function permanently without its attributes: for ANY number of
    threads and ANY schedule, once every thread has finished, the store is the initial one.

    ORIGINAL STATEMENT (FALSE, see `restored_at_quiescence_original_refuted` below):
    `restored_at_quiescence_full`.
    ADDED HYPOTHESIS `hcoh`: there is at most one thread, or no attribute is present BOTH on the
    instance and on the class with two different values.  The hypothesis is exactly what is needed:
    `restored_at_quiescence_hyp_necessary` shows that whenever it fails for two threads there is a
    schedule after which the store differs from the initial one. -/
theorem restored_at_quiescence_partial (s : Store) (n : Nat) (schedule : List Nat)
    (hcoh : n ≤ 1 ∨ ∀ a v c, s.inst a = some v → s.cls a = some c → c = v)
    (hq : ((World.init s n).run schedule).quiescent) :
    ((World.init s n).run schedule).store = s :=
  have inv (a : Attr) := WInv_reachable a s n schedule (hcoh.imp id (· a))
  Store.ext_attr (fun a => WInv_quiescent (inv a) hq) (fun a => (inv a).cls)

/-- the property's clause at full strength (any store, any number of threads, any schedule) -/
def restored_at_quiescence_full : Prop :=
  ∀ (s : Store) (n : Nat) (schedule : List Nat),
    ((World.init s n).run schedule).quiescent → ((World.init s n).run schedule).store = s

/-- FINDING: the original statement is false.  `__wrapped__` is present on the instance
    (value 1) and on the class (value 2).  Thread 0 reads 1 and deletes the instance attribute;
    thread 1 now reads the CLASS value 2; thread 0 finishes and restores 1; thread 1's `delattr`
    succeeds (the instance attribute is back), it records the stale value 2 as "saved" and finally
    "restores" 2: the instance attribute is permanently overwritten with the class value. -/
theorem restored_at_quiescence_original_refuted :
    ∃ (s : Store) (schedule : List Nat),
      ((World.init s 2).run schedule).quiescent ∧ ((World.init s 2).run schedule).store ≠ s ∧
      ((World.init s 2).run schedule).store.instW = some 2 := by
  refine ⟨{ instW := some 1, clsW := some 2 }, [0,0,1,0,0,0,0,0,0,1,1,1,1,1,1,1], ?_⟩
  unfold World.quiescent
  decide

/-- the full-strength clause is false -/
theorem restored_at_quiescence_full_refuted : ¬ restored_at_quiescence_full := by
  intro h
  obtain ⟨s, schedule, hq, hne, _⟩ := restored_at_quiescence_original_refuted
  exact hne (h s 2 schedule hq)

/-- the added hypothesis of `restored_at_quiescence_partial` cannot be weakened: if some attribute
    is present on the instance and on the class with different values, two threads suffice to lose
    it -/
theorem restored_at_quiescence_hyp_necessary (s : Store)
    (h : ¬ ∀ a v c, s.inst a = some v → s.cls a = some c → c = v) :
    ∃ schedule : List Nat,
      ((World.init s 2).run schedule).quiescent ∧ ((World.init s 2).run schedule).store ≠ s := by
  simp only [Classical.not_forall] at h
  obtain ⟨a, v, c, h1, h2, hne⟩ := h
  rcases s with ⟨iw, is, cw, cs⟩
  cases a
  · obtain rfl : iw = some v := h1
    obtain rfl : cw = some c := h2
    refine ⟨[0,0, 1, 0,0,0,0,0,0, 1,1,1,1,1,1,1], ?_⟩
    cases is <;> cases cs <;>
      simp only [World.quiescent, World.init, World.run, List.replicate, List.foldl_cons,
        List.foldl_nil, World.step_zero, World.step_one, stepThread, Store.get, Store.inst, Store.cls,
        Store.setInst, Option.orElse] <;>
      simp [hne]
  · obtain rfl : is = some v := h1
    obtain rfl : cs = some c := h2
    -- thread 1 must stop just before its `delattr __signature__`: after two steps if it cannot read
    -- `__wrapped__` (thread 0 has deleted it from the instance), after three if the class provides it
    cases cw
    · refine ⟨[0,0,0,0, 1,1, 0,0,0,0, 1,1,1,1,1], ?_⟩
      cases iw <;>
        simp only [World.quiescent, World.init, World.run, List.replicate, List.foldl_cons,
          List.foldl_nil, World.step_zero, World.step_one, stepThread, Store.get, Store.inst, Store.cls,
          Store.setInst, Option.orElse] <;>
        simp [hne]
    · refine ⟨[0,0,0,0, 1,1,1, 0,0,0,0, 1,1,1,1,1], ?_⟩
      cases iw <;>
        simp only [World.quiescent, World.init, World.run, List.replicate, List.foldl_cons,
          List.foldl_nil, World.step_zero, World.step_one, stepThread, Store.get, Store.inst, Store.cls,
          Store.setInst, Option.orElse] <;>
        simp [hne]

/-- a thread running alone computes the function's own signature (it does not see `__wrapped__`) -/
theorem alone_answer (v : Nat) (cls : Option Nat) :
    let w := (World.init { instW := some v, clsS := cls } 1).run [0, 0, 0, 0, 0, 0, 0, 0]
    w.quiescent ∧ (w.threads.map (·.sawWrapped)) = [some false] := by
  cases cls <;>
    simp only [World.quiescent, World.init, World.run, List.replicate, List.foldl_cons,
      List.foldl_nil, World.step_zero, stepThread, Store.get, Store.inst, Store.cls, Store.setInst,
      Option.orElse] <;>
    simp

/-- D6 (known finding): "every call returns what it returns when run alone" is FALSE — there is a
    schedule of two threads in which one thread's body sees `__wrapped__` -/
theorem sequential_answers_refuted :
    ∃ (s : Store) (schedule : List Nat),
      let w := (World.init s 2).run schedule
      w.quiescent ∧ w.store = s ∧ (∃ t ∈ w.threads, t.sawWrapped = some true) := by
  refine ⟨{ instW := some 1 }, [0,0,1,0,0,0,0,1,1,1,1], ?_⟩
  unfold World.quiescent
  decide

/-! ## C18 -/

/-- once the caller has dropped every reference to instance i and to what it obtained from it, and
    the collector has run, i is unreachable — for every history -/
theorem no_retention (ops : List COp) (i : Nat)
    (h1 : i ∉ (crun .weakValue ops).heldInst) (h2 : i ∉ (crun .weakValue ops).heldWrap) :
    i ∉ ((crun .weakValue ops).collect .weakValue).alive .weakValue := by
  simp [mem_alive_collect, h1, h2]

/-- D7 (repaired): with the weak-key dictionary of the code before it the instance is retained -/
theorem retention_weakKey_refuted :
    ∃ (ops : List COp) (i : Nat),
      i ∉ (crun .weakKey ops).heldInst ∧ i ∉ (crun .weakKey ops).heldWrap ∧
      i ∈ ((crun .weakKey ops).collect .weakKey).alive .weakKey := by
  refine ⟨[.newInst 0, .call 0, .dropInst 0, .gc], 0, ?_⟩
  decide

/-- D91 (repaired): a getter that hands the bound method back as it is, stored under itself in the
    weak-value dictionary (`insts[bm] = bm`), is retained for good — and the instance with it -/
theorem retention_selfEntry_refuted :
    ∃ (ops : List COp) (i : Nat),
      i ∉ (crun .selfEntry ops).heldInst ∧ i ∉ (crun .selfEntry ops).heldWrap ∧
      i ∈ ((crun .selfEntry ops).collect .selfEntry).alive .selfEntry := by
  refine ⟨[.newInst 0, .get 0, .dropWrapper 0, .dropInst 0, .gc], 0, ?_⟩
  decide

/-- as after D91 (such a result is not stored): nothing is retained, for every history -/
theorem no_retention_noStore (ops : List COp) (i : Nat)
    (h1 : i ∉ (crun .noStore ops).heldInst) (h2 : i ∉ (crun .noStore ops).heldWrap) :
    i ∉ ((crun .noStore ops).collect .noStore).alive .noStore := by
  simp [mem_alive_collect, h1, h2]

/-- … because the dictionary stays empty throughout -/
theorem noStore_entries_empty (ops : List COp) : (crun .noStore ops).entries = [] := by
  refine List.foldlRecOn (motive := fun s => s.entries = []) ops (cstep .noStore) (b := {}) rfl
    fun s h op _ => ?_
  cases op <;> simp [cstep, CState.collect, h] <;> split <;> simp [h]

/-- while the caller still holds the instance or its wrapper, the instance is alive (no premature reclaim) -/
theorem no_premature_reclaim (k : DictKind) (ops : List COp) (i : Nat)
    (h : i ∈ (crun k ops).heldInst ∨ i ∈ (crun k ops).heldWrap) :
    i ∈ ((crun k ops).collect k).alive k :=
  (mem_alive_collect k _ i).2 (h.imp_right .inl)

-- eq_hash: hypotheses satisfiable on distinct objects (upgraded vs plain, same data)
example : ((Obj.usig 1 5 7).id = (Obj.psig 2 5).id → Obj.usig 1 5 7 = Obj.psig 2 5) ∧
    pyEq (.usig 1 5 7) (.psig 2 5) = .ok true ∧ pyHash (.usig 1 5 7) = some 10 :=
  ⟨by decide, rfl, rfl⟩
-- two upgraded signatures with the same base data but different upgraded annotations differ
example : pyEq (.usig 1 5 7) (.usig 2 5 8) = .ok false ∧ pyNe (.usig 1 5 7) (.usig 2 5 8) = .ok true :=
  ⟨rfl, rfl⟩
-- cleanup: both attributes really get deleted and restored, also when the body raises
example : cleanupRun (some 2) { instW := some 1, instS := some 2, clsW := some 3 } =
    { store := { instW := some 1, instS := some 2, clsW := some 3 }, raised := true, calls := 3 } := by
  decide
example : asForgedGet (some 0) [4, 5] 6 = ([4, 5], true) ∧ asForgedGet none [4, 5] 5 = ([4, 5], true) := by
  decide
-- restored_at_quiescence_partial: hypotheses satisfiable with two really interleaved threads, both
-- attributes on the instance, `__wrapped__` also on the class (same value)
example :
    let s : Store := { instW := some 1, instS := some 2, clsW := some 1 }
    let sched := [0, 1, 0, 1, 1, 0, 0, 1, 1, 0, 0, 1, 1, 0, 0, 1]
    (2 ≤ 1 ∨ ∀ a v c, s.inst a = some v → s.cls a = some c → c = v) ∧
    ((World.init s 2).run sched).quiescent ∧ ((World.init s 2).run sched).store = s := by
  refine ⟨Or.inr ?_, ?_, ?_⟩
  · intro a v c h1 h2
    cases a <;> simp_all [Store.inst, Store.cls]
  · unfold World.quiescent; decide
  · decide
-- no_retention: the instance had an entry before the collection
example : (0 : Nat) ∉ (crun .weakValue [.newInst 0, .get 0, .dropWrapper 0, .dropInst 0]).heldInst ∧
    0 ∉ (crun .weakValue [.newInst 0, .get 0, .dropWrapper 0, .dropInst 0]).heldWrap ∧
    0 ∈ (crun .weakValue [.newInst 0, .get 0, .dropWrapper 0, .dropInst 0]).alive .weakValue := by
  decide
-- no_premature_reclaim: the wrapper is still held although the instance was dropped and gc ran
example : (0 : Nat) ∈ (crun .weakValue [.newInst 0, .get 0, .dropInst 0, .gc]).heldWrap ∧
    0 ∉ (crun .weakValue [.newInst 0, .get 0, .dropInst 0, .gc]).heldInst := by
  decide

end SV
