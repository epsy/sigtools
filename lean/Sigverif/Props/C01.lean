/-
  Props/C01.lean — property C01 (merge soundness): ONLY property theorems + non-vacuity examples.

  C01: For any signatures s1..sn, every call that merge(s1..sn) accepts and that passes its
  arguments all positionally or all by keyword is accepted by each si.  If in addition every name
  shared between inputs denotes the same kind of parameter at the same positional index in each of
  them, the same holds for every non-colliding call.  This holds for any number of inputs.
-/
import Sigverif.Props.Defs
import Sigverif.Lemmas.C01Sound
import Sigverif.Lemmas.Eval
import Sigverif.Lemmas.C01RFinal
namespace SV

/-- all-positional calls -/
theorem merge_sound_pos (ss : List USig) (R : USig) (n : Nat)
    (hwf : ∀ s ∈ ss, WF s.params) (hR : merge ss = .ok R)
    (hacc : accepts R.params n [] = true) :
    ∀ s ∈ ss, accepts s.params n [] = true :=
  merge_sound_pos_core ss R n (fun s hs => (hwf s hs).validate) hR hacc

/-- all-keyword calls -/
theorem merge_sound_kw (ss : List USig) (R : USig) (K : List Nat)
    (hwf : ∀ s ∈ ss, WF s.params) (hK : K.Nodup) (hR : merge ss = .ok R)
    (hacc : accepts R.params 0 K = true) :
    ∀ s ∈ ss, accepts s.params 0 K = true :=
  merge_sound_kw_core ss R K (fun s hs => (hwf s hs).validate) hK hR hacc

/-- the headline statement for pure calls -/
theorem merge_sound_pure (ss : List USig) (R : USig) (n : Nat) (K : List Nat)
    (hwf : ∀ s ∈ ss, WF s.params) (hK : K.Nodup) (hp : pureCall n K) (hR : merge ss = .ok R)
    (hacc : accepts R.params n K = true) :
    ∀ s ∈ ss, accepts s.params n K = true := by
  rcases hp with rfl | rfl
  · exact merge_sound_kw ss R K hwf hK hR hacc
  · exact merge_sound_pos ss R n hwf hR hacc

/-- role-consistent inputs: every non-colliding call -/
theorem merge_sound_roles (ss : List USig) (R : USig) (n : Nat) (K : List Nat)
    (hwf : ∀ s ∈ ss, WF s.params) (hK : K.Nodup)
    (hrc : roleCons (ss.map (·.params)))
    (hR : merge ss = .ok R)
    (hnc : nonColl R.params (ss.map (·.params)) K)
    (hacc : accepts R.params n K = true) :
    ∀ s ∈ ss, accepts s.params n K = true :=
  merge_sound_roles_core ss R n K (fun s hs => (hwf s hs).validate) hK hrc hR hnc hacc

/-! non-vacuity -/
def d1a : USig := { params := [⟨2, .pk, some 1, none, .empty⟩, ⟨3, .pk, some 1, none, .empty⟩], src := [(2,[1]),(3,[1])], depths := [(1,0)] }
def d1b : USig := { params := [⟨1, .pk, none, none, .empty⟩, ⟨3, .pk, none, none, .empty⟩, ⟨11, .vp, none, none, .empty⟩], src := [(1,[2]),(3,[2]),(11,[2])], depths := [(2,0)] }
def d1c : USig := { params := [⟨12, .vk, none, none, .empty⟩], src := [(12,[3])], depths := [(3,0)] }
def d1d : USig := { params := [⟨11, .vp, none, none, .empty⟩, ⟨12, .vk, none, none, .empty⟩], src := [(11,[3]),(12,[3])], depths := [(3,0)] }
example : ∀ s ∈ [d1a, d1b, d1c, d1d], WF s.params := by decide +kernel
/- `merge [d1a, d1b, d1c]` does not return: `merge [d1a, d1b]` is `(b, /, c)` with both parameters
   required, and a required positional-only parameter cannot be merged with `(**kwargs)`. -/
example : merge [d1a, d1b, d1c] = .error .incompatible := by
  simp only [merge, mergeFold, mergeStep_eq]; exact eq_error_of (by decide +kernel)
/-- the D1 witness with `(*args, **kwargs)` as third signature merges (to `(b, /, c)`), the
    hypotheses of the theorems above are satisfiable and the conclusion is not trivial -/
example : ∃ R, merge [d1a, d1b, d1d] = .ok R ∧ accepts R.params 2 [] = true ∧
    accepts R.params 0 [3] = false ∧ accepts R.params 3 [] = false := by
  simp only [merge, mergeFold, mergeStep_eq]; exact exists_ok_and (by decide +kernel)
/-- an accepted all-keyword call of a three-way merge -/
def kwa : USig := { params := [⟨1, .pk, none, none, .empty⟩, ⟨5, .ko, some 7, none, .empty⟩, ⟨12, .vk, none, none, .empty⟩] }
def kwb : USig := { params := [⟨1, .pk, some 4, none, .empty⟩, ⟨6, .ko, none, none, .empty⟩, ⟨12, .vk, none, none, .empty⟩] }
def kwc : USig := { params := [⟨1, .pk, none, none, .empty⟩, ⟨11, .vp, none, none, .empty⟩, ⟨12, .vk, none, none, .empty⟩] }
example : ∀ s ∈ [kwa, kwb, kwc], WF s.params := by decide +kernel
example : [1, 6, 9].Nodup ∧ pureCall 0 [1, 6, 9] := ⟨by decide, Or.inl rfl⟩
example : ∃ R, merge [kwa, kwb, kwc] = .ok R ∧ accepts R.params 0 [1, 6, 9] = true ∧
    accepts R.params 0 [1] = false ∧ accepts R.params 1 [] = false := by
  simp only [merge, mergeFold, mergeStep_eq]; exact exists_ok_and (by decide +kernel)

/-- `merge_sound_roles`: the three signatures above are role-consistent, and the merged signature
    accepts the mixed, non-colliding call `(1, [6, 9])` (9 is foreign, 6 is keyword-only) -/
example : roleCons ([kwa, kwb, kwc].map (·.params)) := by decide +kernel
example : ∃ R, merge [kwa, kwb, kwc] = .ok R ∧
    nonColl R.params ([kwa, kwb, kwc].map (·.params)) [6, 9] ∧
    accepts R.params 1 [6, 9] = true ∧ accepts R.params 1 [9] = false ∧
    accepts R.params 1 [1, 6] = false := by
  simp only [merge, mergeFold, mergeStep_eq]; exact exists_ok_and (by decide +kernel)

end SV
