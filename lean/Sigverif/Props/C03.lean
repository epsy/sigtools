/-
  Props/C03.lean — property C03 (mask): ONLY the property theorems and their non-vacuity
  examples.  Helper lemmas live in Sigverif/Lemmas/*.lean.

  C03: mask(sig, n, *names) accepts a non-colliding call exactly when sig accepts that call with n
  extra leading positional arguments and the given names added as keywords, and raises ValueError
  exactly when sig could not be passed those arguments at all.  The result does not depend on the
  order in which the names are listed; mask(sig, 0) is sig and mask(mask(sig, n), m) equals
  mask(sig, n + m).  The hide_* flags only ever remove parameters, and every call the result
  accepts is accepted by sig for some choice of the hidden arguments.
-/
import Sigverif.Lemmas.C03Hide
import Sigverif.Lemmas.C03Src
import Sigverif.Lemmas.Eval
namespace SV

/-- exactness, flags all off -/
theorem mask_exact (sig R : USig) (n m : Nat) (nms K : List Nat)
    (hwf : WF sig.params) (hn : nms.Nodup) (hK : K.Nodup)
    (hpo : ∀ p ∈ sig.params, p.kind = .po → p.name ∉ nms)
    (hdisj : ∀ k ∈ K, k ∉ nms)
    (hR : mask sig n nms {} = .ok R)
    (hnc : nonColl R.params [sig.params] K) :
    accepts R.params m K = accepts sig.params (n + m) (nms ++ K) := by
  have _ := hpo
  exact mask_accepts_iff hwf hn hK hdisj hR hnc

/-- every error of mask (any flags, any input) is ValueError -/
theorem mask_err (sig : USig) (n : Nat) (nms : List Nat) (h : HideFlags) (e : Err)
    (he : mask sig n nms h = .error e) : e = .valueError := by
  rw [mask_eq] at he
  rcases bind_eq_error he with hp | ⟨⟨c, pos, pok⟩, -, he⟩
  · exact (prelude_err hp).1
  · rcases bind_eq_error he with hm | ⟨st, -, he⟩
    · exact maskNames_err _ _ _ _ hm
    · exact applyParams_err _ _ _ he

/-- mask raises exactly when sig could not be passed those arguments at all -/
theorem mask_raises_iff (sig : USig) (n : Nat) (nms : List Nat)
    (hwf : WF sig.params) (hn : nms.Nodup)
    (hpo : ∀ p ∈ sig.params, p.kind = .po → p.name ∉ nms) :
    (∃ e, mask sig n nms {} = .error e) ↔
      ¬ ∃ m K, K.Nodup ∧ (∀ k ∈ K, k ∉ nms) ∧ accepts sig.params (n + m) (nms ++ K) = true := by
  constructor
  · rintro ⟨e, he⟩ ⟨m, K, hK, hdisj, hacc⟩
    obtain ⟨R, hR, -⟩ := mask_complete hwf (nodup_append_of_disj hn hK hdisj) hpo hacc
    rw [hR] at he
    cases he
  · intro hno
    cases hR : mask sig n nms {} with
    | error e => exact ⟨e, rfl⟩
    | ok R =>
      exfalso
      apply hno
      -- the witness: every parameter left is passed, the positional ones positionally and the
      -- keyword-only ones by name
      obtain ⟨c, pos, pok, st, hp, hm, hs1, hs2, rfl⟩ := mask_ok hwf hR
      simp only [Bool.false_eq_true, if_false] at hm
      have cl := maskNames_closed (init_inv (sortParams_swf hwf) hp rfl) hm
      have hKnd : (names st.kwo).Nodup := hs2.parts.2.2.1
      have hKd : ∀ k ∈ names st.kwo, k ∉ nms := fun k hk => by
        obtain ⟨p, hp, rfl⟩ := mem_names.1 hk
        exact notin_iff.1 (List.mem_filter.1 (cl.1.kwo.mem_iff.1 hp)).2
      have hacc : accepts (sOf pos (finalVk (sortParams sig) {}) st).all
          (pos ++ st.pok).length (names st.kwo) = true :=
        (accepts_iff hs2.bk _ hKnd).2 (accP_full hs2)
      obtain ⟨tot, H, ht, hH, h⟩ := mask_sound hwf hn hKnd hKd hR
        (fun k hk => Or.inl (by rw [kwNames_all hs2.bk]; exact List.mem_append_right _ hk)) hacc
      rw [ht rfl, hH rfl, List.append_nil] at h
      exact ⟨_, _, hKnd, hKd, h⟩

/-- the result is well-formed again -/
theorem mask_wf (sig R : USig) (n : Nat) (nms : List Nat) (h : HideFlags)
    (hwf : WF sig.params) (hR : mask sig n nms h = .ok R) : WF R.params := by
  obtain ⟨c, pos, pok, st, -, -, -, hs, rfl⟩ := mask_ok hwf hR
  exact hs.wf

/-- independence of the order of the names (up to the order of keyword-only parameters, which
    `inspect.Signature.__eq__` ignores); provenance and depths are equal outright -/
theorem mask_perm (sig : USig) (n : Nat) (nms nms' : List Nat) (h : HideFlags)
    (hwf : WF sig.params) (hn : nms.Nodup) (hp : nms.Perm nms') :
    match mask sig n nms h, mask sig n nms' h with
    | .ok R, .ok R' => SigEquiv R R' ∧ R.src = R'.src ∧ R.depths = R'.depths
    | .error _, .error _ => True
    | _, _ => False := by
  cases hR : mask sig n nms h with
  | ok R =>
    obtain ⟨R', hR', e⟩ := mask_set hwf (hp.nodup_iff.1 hn) (fun _ => hp.mem_iff) hR
    rw [hR']
    exact e
  | error e =>
    cases hR' : mask sig n nms' h with
    | error e' => trivial
    | ok R' =>
      obtain ⟨R, h', -⟩ := mask_set hwf hn (fun _ => hp.mem_iff.symm) hR'
      rw [hR] at h'
      cases h'

theorem mask_zero (sig : USig) (hwf : WF sig.params) : mask sig 0 [] {} = .ok sig := by
  rw [mask_nil hwf, maskNil, if_neg fun h => Nat.not_lt_zero _ h.1, popped_zero, sortParams_all hwf]
  rfl

theorem mask_add (sig : USig) (n m : Nat) (hwf : WF sig.params) :
    (mask sig n [] {} >>= fun r => mask r m [] {}) = mask sig (n + m) [] {} := by
  rw [mask_nil hwf, mask_nil hwf]
  have hs := sortParams_swf hwf
  generalize sortParams sig = s at *
  unfold maskNil
  by_cases h1 : s.pos.length + s.pok.length < n ∧ s.va = none
  · rw [if_pos h1, if_pos ⟨Nat.lt_add_right m h1.1, h1.2⟩]
    rfl
  · rw [if_neg h1]
    have hs' := popped_swf hs n
    show mask _ m [] {} = _
    rw [mask_nil hs'.wf, sortParams_of_all hs']
    unfold maskNil
    -- the second call runs out of positionals exactly when the combined call does
    have hc : ((popped s n).pos.length + (popped s n).pok.length < m ∧ (popped s n).va = none) ↔
        (s.pos.length + s.pok.length < n + m ∧ s.va = none) := by
      rw [popped_length]
      refine and_congr_left fun hva => Nat.sub_lt_iff_lt_add' (Nat.le_of_not_lt fun h => h1 ⟨h, hva⟩)
    simp only [hc, popped_with_src, popped_popped, removeFromSrc_append, names_take_popped]

/-- hide flags only ever remove parameters: every parameter of the result is a parameter of sig
    (possibly converted from positional-or-keyword to keyword-only), and each flag removes what it
    says -/
theorem mask_hide_removes (sig R : USig) (n : Nat) (nms : List Nat) (h : HideFlags)
    (hwf : WF sig.params) (hR : mask sig n nms h = .ok R) :
    (∀ p ∈ R.params, ∃ q ∈ sig.params, q.name = p.name ∧ q.dflt = p.dflt ∧ q.ann = p.ann ∧
        (q.kind = p.kind ∨ (q.kind = .pk ∧ p.kind = .ko))) ∧
    (h.args = true → ∀ p ∈ R.params, p.kind ≠ .po ∧ p.kind ≠ .pk ∧ p.kind ≠ .vp) ∧
    (h.kwargs = true → ∀ p ∈ R.params, p.kind ≠ .pk ∧ p.kind ≠ .ko ∧ p.kind ≠ .vk) ∧
    (h.varargs = true → ∀ p ∈ R.params, p.kind ≠ .vp) ∧
    (h.varkwargs = true → ∀ p ∈ R.params, p.kind ≠ .vk) := by
  obtain ⟨c, pos, pok, st, hp, hm, -, hs2, rfl⟩ := mask_ok hwf hR
  have hs := sortParams_swf hwf
  have hall := sortParams_all hwf
  generalize sortParams sig = s at *
  obtain ⟨o1, o2, o3, o4, o5⟩ := mask_buckets_from hs hp hm
  have mem_s : ∀ q, (q ∈ s.pos ∨ q ∈ s.pok ∨ s.va = some q ∨ q ∈ s.kwo ∨ s.vk = some q) →
      q ∈ sig.params := by
    intro q hq
    rw [← hall]
    simpa only [Sorted.all, List.mem_append, Option.mem_toList, or_assoc] using hq
  -- a parameter of a given kind is left only if the flags that hide that kind are off
  have flags : ∀ p ∈ (sOf pos (finalVk s h) st).all,
      (p.kind = .po → h.args = false) ∧ (p.kind = .pk → h.args = false ∧ h.kwargs = false) ∧
      (p.kind = .vp → h.args = false ∧ h.varargs = false) ∧ (p.kind = .ko → h.kwargs = false) ∧
      (p.kind = .vk → h.kwargs = false ∧ h.varkwargs = false) := by
    intro p hp'
    obtain ⟨m1, m2, m3, m4, m5⟩ := mem_all_of_kind hs2.bk hp'
    exact ⟨fun k => (o1 p (m1 k)).2, fun k => (o2 p (m2 k)).2, fun k => (o3 p (m3 k)).2,
      fun k => (o4 p (m4 k)).2, fun k => (o5 p (m5 k)).2⟩
  have off : ∀ {b : Bool}, b = true → b = false → False := fun h1 h2 => Bool.false_ne_true (h2 ▸ h1)
  refine ⟨fun p hp' => ?_, fun ha p hp' => ?_, fun hk p hp' => ?_, fun hv p hp' k => ?_,
    fun hv p hp' k => ?_⟩
  · rcases mem_sOf_all.1 hp' with h1 | h1 | h1 | h1 | h1
    · exact ⟨p, mem_s p (Or.inl (o1 p h1).1), rfl, rfl, rfl, Or.inl rfl⟩
    · exact ⟨p, mem_s p (Or.inr (Or.inl (o2 p h1).1)), rfl, rfl, rfl, Or.inl rfl⟩
    · exact ⟨p, mem_s p (Or.inr (Or.inr (Or.inl (o3 p h1).1))), rfl, rfl, rfl, Or.inl rfl⟩
    · rcases (o4 p h1).1 with h2 | ⟨r, hr, rfl⟩
      · exact ⟨p, mem_s p (Or.inr (Or.inr (Or.inr (Or.inl h2)))), rfl, rfl, rfl, Or.inl rfl⟩
      · exact ⟨r, mem_s r (Or.inr (Or.inl hr)), rfl, rfl, rfl, Or.inr ⟨hs.bk.pok r hr, rfl⟩⟩
    · exact ⟨p, mem_s p (Or.inr (Or.inr (Or.inr (Or.inr (o5 p h1).1)))), rfl, rfl, rfl, Or.inl rfl⟩
  · obtain ⟨f1, f2, f3, -, -⟩ := flags p hp'
    exact ⟨fun k => off ha (f1 k), fun k => off ha (f2 k).1, fun k => off ha (f3 k).1⟩
  · obtain ⟨-, f2, -, f4, f5⟩ := flags p hp'
    exact ⟨fun k => off hk (f2 k).2, fun k => off hk (f4 k), fun k => off hk (f5 k).1⟩
  · exact off hv ((flags p hp').2.2.1 k).2
  · exact off hv ((flags p hp').2.2.2.2 k).2

/-- soundness with hide flags: a call accepted by the result is accepted by sig for some choice of
    the hidden arguments.  hide_args hides all positional arguments of the forwarding call (n
    included), hide_kwargs all its keyword arguments (the given names included). -/
theorem mask_hide_sound (sig R : USig) (n m : Nat) (nms K : List Nat) (h : HideFlags)
    (hwf : WF sig.params) (hn : nms.Nodup) (hK : K.Nodup)
    (hpo : ∀ p ∈ sig.params, p.kind = .po → p.name ∉ nms)
    (hdisj : ∀ k ∈ K, k ∉ nms)
    (hR : mask sig n nms h = .ok R)
    (hnc : nonColl R.params [sig.params] K)
    (hacc : accepts R.params m K = true) :
    ∃ (tot : Nat) (H : List Nat),
      (h.args = false → tot = n + m) ∧ (h.kwargs = false → H = []) ∧
      accepts sig.params tot ((if h.kwargs then [] else nms) ++ K ++ H) = true := by
  have _ := hpo
  exact mask_sound hwf hn hK hdisj hR hnc hacc

def exSig : USig :=
  { params := [⟨1, .pk, none, none, .empty⟩, ⟨2, .pk, some 1, none, .empty⟩, ⟨11, .vp, none, none, .empty⟩,
               ⟨3, .ko, none, none, .empty⟩, ⟨12, .vk, none, none, .empty⟩],
    src := [(1, [7]), (2, [7]), (11, [7]), (3, [7]), (12, [7])], depths := [(7, 0)] }

theorem exSig_wf : WF exSig.params := by decide +kernel
example : WF exSig.params := exSig_wf
example : ∃ R, mask exSig 1 [3] {} = .ok R ∧ accepts R.params 1 [9] = true ∧
    accepts exSig.params 2 [3, 9] = true := by
  exact exists_ok_and (by decide +kernel)

/-- the result of `mask exSig 1 [3]`: `(b=1, *args, **kwargs)` -/
def exR : USig :=
  { params := [⟨2, .pk, some 1, none, .empty⟩, ⟨11, .vp, none, none, .empty⟩, ⟨12, .vk, none, none, .empty⟩],
    src := [(2, [7]), (11, [7]), (12, [7])], depths := [(7, 0)] }

theorem exSig_mask : mask exSig 1 [3] {} = .ok exR := eq_ok_of (by decide +kernel)
example : mask exSig 1 [3] {} = .ok exR := exSig_mask

/-- all hypotheses of `mask_exact` hold on a non-trivial instance (keyword 2 is a parameter of
    the result, keyword 9 is foreign and goes to `**kwargs`) -/
example : accepts exR.params 1 [9] = accepts exSig.params (1 + 1) ([3] ++ [9]) :=
  mask_exact exSig exR 1 1 [3] [9] exSig_wf (by decide +kernel) (by decide +kernel) (by decide +kernel) (by decide +kernel)
    exSig_mask (by decide +kernel)
example : accepts exR.params 0 [2, 9] = accepts exSig.params (1 + 0) ([3] ++ [2, 9]) :=
  mask_exact exSig exR 1 0 [3] [2, 9] exSig_wf (by decide +kernel) (by decide +kernel) (by decide +kernel) (by decide +kernel)
    exSig_mask (by decide +kernel)
-- the non-collision hypothesis is needed: keyword 1 names the consumed parameter
example : accepts exR.params 0 [1] = true ∧ accepts exSig.params 1 [3, 1] = false := by decide +kernel

/-- a signature with a positional-only parameter and no star parameters: `(a, /, b, *, c=None)` -/
def exSig2 : USig :=
  { params := [⟨1, .po, none, none, .empty⟩, ⟨2, .pk, none, none, .empty⟩, ⟨3, .ko, some 0, none, .empty⟩] }

theorem exSig2_wf : WF exSig2.params := by decide +kernel
example : WF exSig2.params := exSig2_wf
-- `mask_raises_iff`, both sides true: too many positionals / a consumed name / an unknown name
example : ∃ e, mask exSig2 3 [] {} = .error e := ⟨.valueError, eq_error_of (by decide +kernel)⟩
example : ∃ e, mask exSig2 2 [2] {} = .error e := ⟨.valueError, eq_error_of (by decide +kernel)⟩
example : ∃ e, mask exSig2 1 [5] {} = .error e := ⟨.valueError, eq_error_of (by decide +kernel)⟩
example : ¬ ∃ m K, K.Nodup ∧ (∀ k ∈ K, k ∉ [2]) ∧ accepts exSig2.params (2 + m) ([2] ++ K) = true :=
  (mask_raises_iff exSig2 2 [2] exSig2_wf (by decide +kernel) (by decide +kernel)).1 ⟨.valueError, eq_error_of (by decide +kernel)⟩
-- `mask_raises_iff`, both sides false
example : ∃ m K, K.Nodup ∧ (∀ k ∈ K, k ∉ [2]) ∧ accepts exSig2.params (1 + m) ([2] ++ K) = true :=
  ⟨0, [], by decide +kernel, by decide +kernel, by decide +kernel⟩
example : ∃ R, mask exSig2 1 [2] {} = .ok R := exists_ok (by decide +kernel)
-- the hypothesis on positional-only names in `mask_raises_iff` is needed: `(a, /, **kw)` accepts
-- one positional and the keyword `a`, yet mask(sig, 1, 'a') raises
def exSig4 : USig := { params := [⟨1, .po, none, none, .empty⟩, ⟨12, .vk, none, none, .empty⟩] }
example : (∃ e, mask exSig4 1 [1] {} = .error e) ∧ accepts exSig4.params 1 [1] = true :=
  ⟨⟨.valueError, eq_error_of (by decide +kernel)⟩, by decide +kernel⟩

/-- `(a, b, c, d, e)`: naming `d` and `b` in the two orders gives the keyword-only parameters in
    different orders (`e, c` vs `c, e`), which is why `mask_perm` is stated up to `SigEquiv` -/
def exSig3 : USig :=
  { params := [⟨1, .pk, none, none, .empty⟩, ⟨2, .pk, none, none, .empty⟩, ⟨3, .pk, none, none, .empty⟩,
               ⟨4, .pk, none, none, .empty⟩, ⟨5, .pk, none, none, .empty⟩] }

example : WF exSig3.params := by decide +kernel
example : ∃ R R', mask exSig3 0 [4, 2] {} = .ok R ∧ mask exSig3 0 [2, 4] {} = .ok R' ∧
    R.params ≠ R'.params ∧ names R.params = [1, 5, 3] ∧ names R'.params = [1, 3, 5] :=
  ⟨_, _, rfl, rfl, by decide +kernel, by decide +kernel, by decide +kernel⟩
example : [4, 2].Nodup ∧ [4, 2].Perm [2, 4] := by decide +kernel

-- `mask_zero`, `mask_add`, `mask_wf` on exSig
example : mask exSig 0 [] {} = .ok exSig := mask_zero exSig exSig_wf
example : (mask exSig 1 [] {} >>= fun r => mask r 2 [] {}) = mask exSig 3 [] {} :=
  mask_add exSig 1 2 exSig_wf
example : ∃ R, mask exSig 3 [] {} = .ok R ∧ names R.params = [11, 3, 12] := exists_ok_and (by decide +kernel)
example : WF exR.params := mask_wf exSig exR 1 [3] {} exSig_wf exSig_mask

-- hide flags: `mask_hide_removes` / `mask_hide_sound` on non-trivial instances
example : ∃ R, mask exSig 1 [3] { args := true } = .ok R ∧ names R.params = [12] := exists_ok_and (by decide +kernel)
example : ∃ R, mask exSig 1 [3] { kwargs := true } = .ok R ∧ names R.params = [11] := exists_ok_and (by decide +kernel)
example : ∃ R, mask exSig2 1 [] { kwargs := true } = .ok R ∧ R.params = [] ∧
    accepts R.params 0 [] = true ∧ accepts exSig2.params 1 [] = false ∧
    accepts exSig2.params 1 ([] ++ [] ++ [2]) = true :=
  exists_ok_and (by decide +kernel)
example : ∃ (tot : Nat) (H : List Nat), (false = false → tot = 1 + 0) ∧ (true = false → H = []) ∧
    accepts exSig2.params tot ((if true then [] else []) ++ [] ++ H) = true :=
  mask_hide_sound exSig2 { params := [] } 1 0 [] [] { kwargs := true } exSig2_wf (by decide +kernel)
    (by decide +kernel) (by decide +kernel) (by decide +kernel) (eq_ok_of (by decide +kernel))
    (by decide +kernel) (by decide +kernel)

end SV
