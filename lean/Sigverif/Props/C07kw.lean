/-
  Props/C07kw.lean — C07, narrowing for calls with keywords.

  `discovered_narrows` : when no forwarding call goes through `functools.partial`, the forwarded
  signatures use parameter names in consistent roles (what `merge` requires; finding D23 is the
  counterexample on the real code when they do not) and the call is non-colliding at every level,
  a call accepted by the discovered signature is accepted by the function's own `def`.
-/
import Sigverif.Props.C07
import Sigverif.Lemmas.C04
namespace SV

/-- what a non-`partial` forwarding call record declares narrows the own signature, for every
    non-colliding call -/
theorem declared_narrows (own : USig) (resolve : RM → RVal) (c : CallRec) (s w : USig) (m : Nat) (K : List Nat)
    (ho : WF own.params) (hw : resolve c.wrapped = .fn w) (hwf : WF w.params) (hK : K.Nodup)
    (hd : declared own resolve c = .ok s)
    (hnc : nonColl s.params [own.params, w.params] K)
    (hacc : accepts s.params m K = true) : accepts own.params m K = true :=
  forwards_narrows own w s _ m _ K _ _ _ _ ho hwf hK (declared_fn hw hd) hnc hacc

/-- **discovery only narrows**, calls with keywords -/
theorem discovered_narrows (own R : USig) (resolve : RM → RVal) (cs : List CallRec) (ss : List USig) (m : Nat) (K : List Nat)
    (ho : WF own.params) (hres : ∀ r w, resolve r = .fn w → WF w.params) (hK : K.Nodup)
    (hall : declaredAll own resolve (forwarding cs) = .ok ss)
    (hnp : ∀ c ∈ forwarding cs, ∃ w, resolve c.wrapped = .fn w)
    (hrc : roleCons (ss.map (·.params)))
    (hnc1 : nonColl R.params (ss.map (·.params)) K)
    (hnc2 : ∀ c ∈ forwarding cs, ∀ s w, declared own resolve c = .ok s → resolve c.wrapped = .fn w →
              nonColl s.params [own.params, w.params] K)
    (hd : discovered own resolve (some cs) = .ok R) (hacc : accepts R.params m K = true) :
    accepts own.params m K = true := by
  refine discovered_narrows_of hd hacc (fun ss' hall' hm => ?_) (fun c hc s hdc hs => ?_)
  · obtain rfl : ss = ss' := Except.ok.inj (hall.symm.trans hall')
    exact merge_sound_roles ss R m K (declaredAll_wf hres hall) hK hrc hm hnc1 hacc
  · obtain ⟨w, hw⟩ := hnp c hc
    exact declared_narrows own resolve c s w m K ho hw (hres _ _ hw) hK hdc (hnc2 c hc s w hdc hw) hs

/-! ### `def w(a, *args, **kwargs): return g(*args, **kwargs)` with `def g(x, y=1)`: what `declaredAll` computes -/

def ownK : USig := { params := [⟨1, .pk, none, none, .empty⟩, ⟨11, .vp, none, none, .empty⟩, ⟨12, .vk, none, none, .empty⟩],
                             src := [(1, [1]), (11, [1]), (12, [1])], depths := [(1, 0)] }
def calleeK : USig := { params := [⟨2, .pk, none, none, .empty⟩, ⟨3, .pk, some 1, none, .empty⟩],
                                src := [(2, [2]), (3, [2])], depths := [(2, 0)] }
def resolveK : RM → RVal
  | .nm 21 => .fn calleeK
  | _ => .unresolvable
def recK : CallRec := { wrapped := .nm 21, args := [], kwargs := [], varargs := some (.arg 11 (some .va)),
                                varkwargs := some (.arg 12 (some .vk)), useVa := true, useVk := true,
                                hideA := false, hideK := false }

/-- the forwarding call is declared, and declares `(a, x, y=1)` -/
example : (match declaredAll ownK resolveK (forwarding [recK]) with
           | .ok l => l.map (fun s => s.params.map (fun p => (p.name, p.kind)))
           | .error _ => []) = [[(1, .pk), (2, .pk), (3, .pk)]] := by
  obtain ⟨s, hf, hp⟩ := forwards_false_ok_of (o := ownK) (i := calleeK) (n := 0) (nms := []) (ha := false)
    (hk := false) (uva := true) (uvk := true) (M := calleeK) rfl
    (ps := [⟨1, .pk, none, none, .empty⟩, ⟨2, .pk, none, none, .empty⟩, ⟨3, .pk, some 1, none, .empty⟩]) rfl
  have hall : declaredAll ownK resolveK (forwarding [recK]) = .ok [s] :=
    declaredAll_cons_ok.2 ⟨s, [], declared_of_forwards rfl rfl hf, rfl, rfl⟩
  rw [hall]
  simp only [List.map_cons, List.map_nil, hp]

end SV
