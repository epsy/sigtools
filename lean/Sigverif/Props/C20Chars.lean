/-
  Props/C20Chars.lean — C20, the string layer at the level of characters: `sig_str.split(',')` and
  `re_paramname.match(part).groups()` (Model/ReadSigText.lean — the regular expression as the backtracking search Python's
  `re` performs; tied to `re` itself by stream `resplit` on every text up to length 5/6 over a 7-letter alphabet).
-/
import Sigverif.Lemmas.C20Chars
import Sigverif.Lemmas.C20Bridge
namespace SV

/-- **On every well-formed text** — any number of parts; each part: any white space, an argument token, optionally `:` and an
    annotation token, optionally `=` and a default token; tokens non-empty and free of `,` `:` `=` and white space —
    splitting at the commas and matching the regular expression gives back, part by part, exactly the three tokens.  (This
    is where finding D41 lives: a default whose text contains `, ` is not such a token.) -/
theorem read_sig_text_parts (parts : List Part) (hne : parts ≠ []) (h : ∀ p ∈ parts, p.Simple) :
    splitParams (joinComma (parts.map Part.text)) = parts.map (fun p => some (p.arg, p.ann, p.dflt)) :=
  splitParams_simple parts hne h

/-- one part: the three groups of `re_paramname` -/
theorem re_paramname_groups (ws arg : List Char) (a d : Option (List Char)) (hws : ∀ c ∈ ws, isWs c = true)
    (harg : SimpleTok arg) (ha : ∀ t ∈ a, SimpleTok t) (hd : ∀ t ∈ d, SimpleTok t) :
    matchParam (ws ++ arg ++ annText a ++ dfltText d) = some (arg, a, d) :=
  matchParam_simple ws arg a d hws harg ha hd

/-- `split(',')` undoes `','.join` on comma-free parts -/
theorem split_join (parts : List (List Char)) (hne : parts ≠ []) (h : ∀ p ∈ parts, ∀ c ∈ p, c ≠ ',') :
    splitComma (joinComma parts) = parts :=
  splitComma_join parts hne h

/-- **`read_sig` from the text is `read_sig` on the pieces**: for every well-formed text whose parts denote pieces (`f`), any
    option combination, any injective-or-not encoding of the tokens -/
theorem read_sig_text (enc : List Char → Nat) (ua upo ukw : Bool) (parts : List Part) (f : Part → Piece)
    (hne : parts ≠ []) (hs : ∀ p ∈ parts, p.Simple)
    (hp : ∀ p ∈ parts, toPiece enc (p.arg, p.ann, p.dflt) = some (f p)) :
    readSigText enc ua upo ukw (joinComma (parts.map Part.text)) = some (readSig ua upo ukw (parts.map f)) := by
  unfold readSigText
  rw [piecesOfText_parts enc parts hne hs, mapM_of_forall _ f parts hp]
  rfl

/-- what an argument token denotes: a name, `*name`, `**name`, `*`, `/` -/
theorem arg_token_denotes (enc : List Char → Nat) (name : List Char) (a d : Option (List Char))
    (h0 : name ≠ []) (h1 : name.head? ≠ some '*') (h2 : name.head? ≠ some '<') (h3 : name ≠ ['/']) :
    toPiece enc (name, a, d) = some (.plain (enc name) (a.map enc) (d.map enc)) ∧
    toPiece enc ('*' :: name, a, d) = some (.star false (enc name) (a.map enc) (d.map enc)) ∧
    toPiece enc ('*' :: '*' :: name, a, d) = some (.star true (enc name) (a.map enc) (d.map enc)) ∧
    toPiece enc (['*'], none, none) = some .bare ∧ toPiece enc (['/'], none, none) = some .slash :=
  ⟨toPiece_plain enc name a d h1 h2 h3, (toPiece_star enc name a d h0 h1).1, (toPiece_star enc name a d h0 h1).2,
   (toPiece_marks enc).1, (toPiece_marks enc).2⟩

/-! non-vacuity: `a, *args:int=3` -/
example : splitParams "a, *args:int=3".toList =
    [some ("a".toList, none, none), some ("*args".toList, some "int".toList, some "3".toList)] := by decide
example : (⟨" ".toList, "*args".toList, some "int".toList, some "3".toList⟩ : Part).Simple := by
  refine ⟨by decide, ⟨by decide, by decide⟩, ?_, ?_⟩
  · intro t ht; cases ht; exact ⟨by decide, by decide⟩
  · intro t ht; cases ht; exact ⟨by decide, by decide⟩
/-- outside the hypothesis (finding D41): a default containing a comma is split in two, and the second half does not match -/
example : splitParams "a=(1,2)".toList = [some ("a".toList, none, some "(1".toList), some ("2)".toList, none, none)] := by decide
example : matchParam "a=".toList = none := by decide
example : (readSigText encText false false true "a, *, b=3".toList).map (·.kwo) = some [encText "b".toList] := by decide

end SV
