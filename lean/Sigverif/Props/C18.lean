/-
  Props/C18.lean — property C18, the order-independence part that is logic:

  * stacking keyword/positional modifiers = one translator with the unions of the name sets:
    `prepare_set_ext` (Props/C12.lean)
  * `annotate` commutes with the keyword/positional modifiers: applying `annotate` after a
    modifier (which re-prepares the translator on the re-annotated function) advertises exactly
    what applying the modifier after `annotate` advertises, and an inadmissible selection stays
    inadmissible: `annotate_prepare_commute`
  * the descriptor cache: `no_retention`, `no_premature_reclaim` (Props/SM.lean)
-/
import Sigverif.Props.C12
import Sigverif.Lemmas.ParamGraph
namespace SV

/-- what `annotate(**anns)` does to one parameter -/
def annMap (anns : List (Nat × Nat)) (p : Param) : Param :=
  match dget anns p.name with
  | some a => { p with ann := some a, uann := .pre a }
  | none => p

@[simp] theorem annMap_name (anns : List (Nat × Nat)) (p : Param) : (annMap anns p).name = p.name := by
  unfold annMap; split <;> rfl
@[simp] theorem annMap_kind (anns : List (Nat × Nat)) (p : Param) : (annMap anns p).kind = p.kind := by
  unfold annMap; split <;> rfl
@[simp] theorem annMap_dflt (anns : List (Nat × Nat)) (p : Param) : (annMap anns p).dflt = p.dflt := by
  unfold annMap; split <;> rfl
theorem annMap_withKind (anns : List (Nat × Nat)) (p : Param) (k : Kind) :
    annMap anns (p.withKind k) = (annMap anns p).withKind k := by
  unfold annMap Param.withKind; simp only; split <;> rfl
theorem annMap_withDflt (anns : List (Nat × Nat)) (p : Param) (d : Option Nat) :
    annMap anns (p.withDflt d) = (annMap anns p).withDflt d := by
  unfold annMap Param.withDflt; simp only; split <;> rfl

theorem annMap_metaMap (anns : List (Nat × Nat)) : MetaMap (annMap anns) :=
  ⟨annMap_name anns, annMap_kind anns, annMap_dflt anns, annMap_withKind anns, annMap_withDflt anns⟩

theorem annotate_eq_map (F F' : List Param) (anns : List (Nat × Nat)) (h : annotate F anns = .ok F') :
    F' = F.map (annMap anns) := by
  unfold annotate at h
  split at h
  · cases h
  · simp only [Except.ok.injEq] at h
    subst h
    rfl

theorem pokSpec_map (anns : List (Nat × Nat)) (F : List Param) (P W : List Nat) :
    pokSpec (F.map (annMap anns)) P W = (pokSpec F P W).map (annMap anns) := by
  simp only [pokSpec, List.filter_map, List.map_append, List.map_map, Function.comp_def, annMap_name,
    annMap_kind, annMap_withKind, apply_ite (annMap anns)]

theorem exists_mem_map_iff {α β : Type} {g : α → β} {l : List α} {Q : β → Prop} :
    (∃ p ∈ l.map g, Q p) ↔ ∃ a ∈ l, Q (g a) :=
  ⟨fun ⟨_, hp, hq⟩ => let ⟨_, ha, e⟩ := List.mem_map.1 hp; ⟨_, ha, e ▸ hq⟩,
   fun ⟨_, ha, hq⟩ => ⟨_, List.mem_map_of_mem ha, hq⟩⟩

theorem admissible_map (anns : List (Nat × Nat)) (F : List Param) (P W : List Nat) :
    admissible (F.map (annMap anns)) P W ↔ admissible F P W := by
  simp only [admissible_iff_pairwise, List.pairwise_map, exists_mem_map_iff, isKept, isPpk, annMap_name,
    annMap_kind]

/-- **annotate commutes with the keyword/positional modifiers**: the signature advertised by a
    modifier applied to the re-annotated function is the re-annotated advertised signature, and the
    one raises ValueError exactly when the other does -/
theorem annotate_prepare_commute (F F' : List Param) (anns : List (Nat × Nat)) (P W : List Nat)
    (hwf : WF F) (hF' : annotate F anns = .ok F') :
    (prepare F' P W).map (·.1) = (prepare F P W).map (fun r => r.1.map (annMap anns)) := by
  have e := annotate_eq_map F F' anns hF'
  subst e
  have hadm := admissible_map anns F P W
  rcases prepare_cases F P W hwf with ⟨h, he⟩ | ⟨h, he⟩ <;>
    rcases prepare_cases _ P W (x11_WF_map (annMap_metaMap anns) hwf) with ⟨h', he'⟩ | ⟨h', he'⟩ <;>
    rw [he, he']
  · exact congrArg Except.ok (pokSpec_map anns F P W)
  · exact absurd (hadm.2 h) h'
  · exact absurd (hadm.1 h') h
  · rfl

end SV
