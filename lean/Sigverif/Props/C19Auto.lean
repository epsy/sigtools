/-
  Props/C19Auto.lean — C19 (discovery branch) and C07: `functools.partial` objects and bound
  methods whose function forwards its star parameters.

  * `discoveredPartial_cases`  the result is the discovered signature with the bound arguments taken
                               out in partial mode, or else exactly the plain signature of the
                               partial object (never anything else, never another exception)
  * `discoveredPartial_total`  it returns whenever plain retrieval (inspect's rule) returns
  * `partial_looked_through`   when the bound arguments fit: the partial accepts (m, K) exactly when
                               the discovered signature of the function accepts the bound
                               positionals followed by m more and K over the bound keywords
  * the same three for bound methods (`discoveredMethod_*`, `method_looked_through`)
-/
import Sigverif.Props.C19
import Sigverif.Props.C07
import Sigverif.Props.C07Chain
import Sigverif.Props.C04
namespace SV

/-- discovery can only give up with UnknownForwards -/
theorem autoFn_err (own : USig) (resolve : RM → RVal) (cs : Option (List CallRec)) (e : Err)
    (h : autoFn own resolve cs = .error e) : e = .unknownForwards :=
  autoFn_error own resolve cs e h

/-- what discovery returns is a merge of declarations: a well-formed signature -/
theorem autoFn_wf (own s : USig) (resolve : RM → RVal) (cs : Option (List CallRec))
    (h : autoFn own resolve cs = .ok s) : WF s.params := by
  cases cs with
  | none => cases h
  | some cs =>
    simp only [autoFn, autoforwardsAst, bind, Except.bind] at h
    cases hf : forwardSigs own resolve cs with
    | error e => rw [hf] at h; cases h
    | ok l =>
      rw [hf] at h
      simp only at h
      split at h
      · cases h
      · split at h
        · rename_i R hm
          simp only [Except.ok.injEq] at h
          subst h
          exact merge_result_wf _ _ hm
        · cases h

/-- The shape `discoveredPartial` and `discoveredMethod` share: the bound arguments are taken out
    of the discovered signature by `f`, and `f own` is the fallback. -/
theorem fallback_cases {f : USig → Except Err USig} {own : USig} {a r : Except Err USig}
    (hr : r = match a with
      | .ok s => (match f s with | .ok R => .ok R | .error _ => f own)
      | .error .unknownForwards => f own
      | .error e => .error e)
    (ha : ∀ e, a = .error e → e = .unknownForwards) :
    (∃ s R, a = .ok s ∧ f s = .ok R ∧ r = .ok R) ∨ r = f own := by
  subst hr
  cases a with
  | error e => cases ha e rfl; exact .inr rfl
  | ok s =>
    simp only
    cases hm : f s with
    | error e => exact .inr rfl
    | ok R => exact .inl ⟨s, R, rfl, hm, rfl⟩

theorem fallback_total {f : USig → Except Err USig} {own : USig} {a r : Except Err USig} {e : Err}
    (h : (∃ s R, a = .ok s ∧ f s = .ok R ∧ r = .ok R) ∨ r = f own) (he : r = .error e) :
    f own = .error e := by
  rcases h with ⟨s, R, _, _, hR⟩ | hp
  · rw [hR] at he; cases he
  · rw [← hp]; exact he

/-- the outcome of retrieval for a partial object is one of exactly two things -/
theorem discoveredPartial_cases (own : USig) (resolve : RM → RVal) (cs : Option (List CallRec))
    (n : Nat) (kw : List (Nat × Nat)) (pobj : Nat) :
    (∃ s R, autoFn own resolve cs = .ok s ∧ maskPartial s n kw pobj = .ok R ∧
            discoveredPartial own resolve cs n kw pobj = .ok R) ∨
    discoveredPartial own resolve cs n kw pobj = maskPartial own n kw pobj :=
  fallback_cases (f := fun s => maskPartial s n kw pobj) rfl (autoFn_err own resolve cs)

/-- retrieval returns whenever the plain rule (inspect's) returns; it raises only what the plain
    rule raises -/
theorem discoveredPartial_total (own : USig) (resolve : RM → RVal) (cs : Option (List CallRec))
    (n : Nat) (kw : List (Nat × Nat)) (pobj : Nat) (e : Err)
    (h : discoveredPartial own resolve cs n kw pobj = .error e) : maskPartial own n kw pobj = .error e :=
  fallback_total (discoveredPartial_cases own resolve cs n kw pobj) h

/-- **looked through, exactly**: when the bound arguments fit the discovered signature `s` of the
    function, `partial(f, <n positionals>, **kw)` accepts a non-colliding call (m, K) exactly when
    `s` accepts the n bound positionals followed by m more, and K over the bound keywords -/
theorem partial_looked_through (own s R : USig) (resolve : RM → RVal) (cs : Option (List CallRec))
    (n m : Nat) (kw : List (Nat × Nat)) (pobj : Nat) (K : List Nat)
    (hkw : (kw.map (·.1)).Nodup) (hK : K.Nodup)
    (ha : autoFn own resolve cs = .ok s)
    (hpo : ∀ p ∈ s.params, p.kind = .po → p.name ∉ kw.map (·.1))
    (hm : maskPartial s n kw pobj = .ok R)
    (hnc : nonColl R.params [s.params] K) :
    discoveredPartial own resolve cs n kw pobj = .ok R ∧
    accepts R.params m K = accepts s.params (n + m) (K ++ (kw.map (·.1)).filter (fun k => !K.contains k)) := by
  refine ⟨?_, partial_exact s R n m kw pobj K (autoFn_wf own s resolve cs ha) hkw hK hpo hm hnc⟩
  unfold discoveredPartial
  rw [ha]
  simp only [hm]

theorem discoveredMethod_cases (own : USig) (resolve : RM → RVal) (cs : Option (List CallRec)) :
    (∃ s R, autoFn own resolve cs = .ok s ∧ mask s 1 [] {} = .ok R ∧ discoveredMethod own resolve cs = .ok R) ∨
    discoveredMethod own resolve cs = mask own 1 [] {} :=
  fallback_cases (f := fun s => mask s 1 [] {}) rfl (autoFn_err own resolve cs)

theorem discoveredMethod_total (own : USig) (resolve : RM → RVal) (cs : Option (List CallRec)) (e : Err)
    (h : discoveredMethod own resolve cs = .error e) : mask own 1 [] {} = .error e :=
  fallback_total (discoveredMethod_cases own resolve cs) h

/-- binding removes exactly the first positional of what was discovered for the function -/
theorem method_looked_through (own s R : USig) (resolve : RM → RVal) (cs : Option (List CallRec))
    (m : Nat) (K : List Nat) (hK : K.Nodup)
    (ha : autoFn own resolve cs = .ok s) (hm : mask s 1 [] {} = .ok R)
    (hnc : nonColl R.params [s.params] K) :
    discoveredMethod own resolve cs = .ok R ∧ accepts R.params m K = accepts s.params (1 + m) K := by
  refine ⟨?_, bound_is_mask1 s R m K (autoFn_wf own s resolve cs ha) hK hm hnc⟩
  unfold discoveredMethod
  rw [ha]
  simp only [hm]

end SV
