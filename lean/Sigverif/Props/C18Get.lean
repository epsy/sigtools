/-
  Props/C18Get.lean — property C18, the clause "each bound to the right instance":
  the property theorems and non-vacuity examples (lemmas in Lemmas/C18GInv.lean, Lemmas/C18GGet.lean).

  C18: Retrieving a signature repeatedly, binding the same method repeatedly or on different
  instances and owners, and interleaving retrievals with calls all give equal results, each bound to
  the right instance.

  Model: Model/CacheId.lean — `OverrideableDataDesc.__get__` with its `WeakValueDictionary` keyed by
  the bound method, over histories of caller operations (`IOp`): instances have an identity `id`
  and a value `eqClass` (two instances may be EQUAL without being the same object), wrappers have an
  identity `wid` and the id of the instance they are bound to.  `KeyMode.identity` is the real code
  (bound methods compare by `__self__ is`), `KeyMode.equality` a cache keyed by the instance value.
  Props/SM.lean (`no_retention`, `no_premature_reclaim`) treats the same dictionary with
  `wrapperFor = id` ASSUMED; here it is proved.
-/
import Sigverif.Lemmas.C18GGet
namespace SV

/-- the clause, for a key-comparison mode: in every history, every wrapper answered by a lookup
    `get i` / `call i` is bound to instance i -/
def right_instance (m : KeyMode) : Prop :=
  ∀ ops : List IOp, ∀ p ∈ itrace m ops, ∀ i, (p.1 = .get i ∨ p.1 = .call i) →
    ∀ w b, p.2 = .wrapper w b → b = i

/-- identity keys (the real code): for every history, of any length, every `get i` / `call i`
    answers with a wrapper bound to instance i -/
theorem get_right_instance : right_instance .identity := by
  refine fun ops => irunFrom_answers .identity (IInv .identity)
    (fun _ p => ∀ i, (p.1 = .get i ∨ p.1 = .call i) → ∀ w b, p.2 = .wrapper w b → b = i)
    (IInv_step _) (fun _ _ _ h => h) ?_ {} (IInv_init _) ops
  rintro s _ _ hs ha i (rfl | rfl) w b rfl
  · exact step_right_instance s hs i w b ha
  · exact step_right_instance s hs i w b (call_answer_eq_get .identity s i ▸ ha)

/-- ... and it does answer with a wrapper whenever the caller holds instance i (so the statement
    above is not about an empty set of answers); `get` and `call` see the same wrapper -/
theorem get_right_instance_held (ops : List IOp) (i : Nat) (hi : i ∈ (irun .identity ops).heldInst) :
    ∃ w, (istep .identity (irun .identity ops) (.get i)).2 = some (.wrapper w i) ∧
         (istep .identity (irun .identity ops) (.call i)).2 = some (.wrapper w i) := by
  obtain ⟨w, b, h⟩ := get_answers_wrapper .identity _ (IKnown_run .identity ops) i hi
  cases step_right_instance _ (IInv_run .identity ops) i w b h
  exact ⟨w, h, by rw [call_answer_eq_get]; exact h⟩

/-- a lookup on an id the caller holds no instance of answers `noInst` (protocol token `X`) -/
theorem get_no_instance (m : KeyMode) (ops : List IOp) (i : Nat) (hi : i ∉ (irun m ops).heldInst) :
    (istep m (irun m ops) (.get i)).2 = some .noInst :=
  get_noInst m _ i hi

/-- a recorded lookup and its answer are one step of the machine from the state reached before it -/
theorem trace_snoc (m : KeyMode) (ops : List IOp) (op : IOp) :
    itrace m (ops ++ [op]) = itrace m ops ++
      (match (istep m (irun m ops) op).2 with | some a => [(op, a)] | none => []) := by
  rw [itrace_append, irunFrom_cons, irunFrom_nil]
  cases (istep m (irun m ops) op).2 <;> simp

/-- two `get i` with the wrapper held in between (no `dropWrapper i` in `mid`; anything else may
    happen: other lookups, collections, other instances coming and going) return the SAME wrapper —
    same identity `wid`, same binding; a `call i` at that point uses it too.  Both key modes. -/
theorem get_stable (m : KeyMode) (pre mid : List IOp) (i : Nat) (a : IAns)
    (h1 : (istep m (irun m pre) (.get i)).2 = some a) (ha : a ≠ .noInst)
    (hmid : IOp.dropWrapper i ∉ mid)
    (hheld : i ∈ (irun m (pre ++ .get i :: mid)).heldInst) :
    (istep m (irun m (pre ++ .get i :: mid)) (.get i)).2 = some a ∧
    (istep m (irun m (pre ++ .get i :: mid)) (.call i)).2 = some a := by
  have e : irun m (pre ++ .get i :: mid) = (irunFrom m (istep m (irun m pre) (.get i)).1 mid).1 := by
    rw [irun_append, irunFrom_cons]
  rw [e] at hheld ⊢
  have := get_stable' m (irun m pre) mid i a h1 ha hmid hheld
  exact ⟨this, by rw [call_answer_eq_get]; exact this⟩

/-- after the wrapper was dropped and collected, `get i` creates a NEW wrapper (its identity differs
    from that of every wrapper answered before), again bound to i -/
theorem get_fresh_after_collect (pre : List IOp) (i : Nat)
    (hi : i ∈ (irun .identity pre).heldInst) :
    (istep .identity (irun .identity (pre ++ [.dropWrapper i, .gc])) (.get i)).2 =
      some (.wrapper (irun .identity (pre ++ [.dropWrapper i, .gc])).nextWid i) ∧
    ∀ p ∈ itrace .identity (pre ++ [.dropWrapper i, .gc]), ∀ w b, p.2 = .wrapper w b →
      w < (irun .identity (pre ++ [.dropWrapper i, .gc])).nextWid := by
  refine ⟨?_, trace_wid_lt .identity {} (IInv_init _) _⟩
  rw [irun_append]
  exact fresh_after_drop_gc _ (IInv_run .identity pre) (IKnown_run .identity pre) i hi

/-- two equal instances 1 and 2 (same eqClass 7): the wrapper cached for 1 is answered for 2 -/
theorem get_right_instance_equality_refuted :
    ∃ (ops : List IOp) (i w b : Nat), (IOp.get i, IAns.wrapper w b) ∈ itrace .equality ops ∧ b ≠ i :=
  ⟨[.newInst 1 7, .newInst 2 7, .get 1, .get 2], 2, 0, 1, by decide, by decide⟩

theorem right_instance_equality_refuted : ¬ right_instance .equality := by
  intro h
  exact absurd (h [.newInst 1 7, .newInst 2 7, .get 1, .get 2] (.get 2, .wrapper 0 1) (by decide) 2
    (Or.inl rfl) 0 1 rfl) (by decide)

/-- the same with a CALL: `inst2.method(...)` runs on instance 1 -/
theorem call_right_instance_equality_refuted :
    (IOp.call 2, IAns.wrapper 0 1) ∈
      itrace .equality [.newInst 1 7, .newInst 2 7, .get 1, .call 2] := by decide

/-- identity keys, any history: once the caller dropped instance i and the wrappers it obtained
    through it, and the collector ran, instance i is unreachable (entries hold only their key's
    instance) -/
theorem no_retention_id (ops : List IOp) (i : Nat)
    (h1 : i ∉ (irun .identity ops).heldInst) (h2 : ∀ w, (i, w) ∉ (irun .identity ops).heldWrap) :
    i ∉ (irun .identity ops).collect.alive :=
  not_alive_after_collect _ (IInv_run .identity ops) i h1 h2

/-- equality keys: instance 1 is retained by a wrapper the caller obtained through instance 2 -/
theorem retention_equality_refuted :
    ∃ (ops : List IOp) (i : Nat),
      i ∉ (irun .equality ops).heldInst ∧ (∀ w, (i, w) ∉ (irun .equality ops).heldWrap) ∧
      i ∈ (irun .equality ops).collect.alive := by
  refine ⟨[.newInst 1 7, .newInst 2 7, .get 1, .get 2, .dropWrapper 1, .dropInst 1, .gc], 1,
    by decide, ?_, by decide⟩
  intro w hw
  have : (irun .equality [.newInst 1 7, .newInst 2 7, .get 1, .get 2, .dropWrapper 1, .dropInst 1,
    .gc]).heldWrap = [(2, 0)] := by decide
  rw [this] at hw
  simp at hw

/-- no premature reclaim: what the caller holds (the instance; with identity keys also a wrapper
    obtained through it) keeps the instance reachable through a collection -/
theorem no_premature_reclaim_id (m : KeyMode) (ops : List IOp) (i : Nat)
    (h : i ∈ (irun m ops).heldInst ∨ (m = .identity ∧ ∃ w, (i, w) ∈ (irun m ops).heldWrap)) :
    i ∈ (irun m ops).collect.alive :=
  alive_of_held m _ (IInv_run m ops) i h

/-- a wrapper the caller holds is never collected: its entry exists (weak VALUE dictionary) -/
theorem held_wrapper_has_entry (m : KeyMode) (ops : List IOp) (h : Nat × Nat)
    (hh : h ∈ (irun m ops).heldWrap) : ∃ e ∈ (irun m ops).collect.entries, e.wid = h.2 :=
  (IInv_collect (IInv_run m ops)).hasE h hh

/-- access through the class answers the descriptor itself, creates no per-instance entry, and
    changes no later answer -/
theorem cls_access (m : KeyMode) (pre post : List IOp) :
    (istep m (irun m pre) .cls).2 = some .desc ∧
    (istep m (irun m pre) .cls).1.entries = (irun m pre).entries ∧
    itrace m (pre ++ .cls :: post) =
      itrace m pre ++ (.cls, .desc) :: (irunFrom m (irun m pre) post).2 := by
  refine ⟨rfl, rfl, ?_⟩
  rw [itrace_append, irunFrom_cons]
  -- the access only sets `selfEntry`, which no later step reads
  exact congrArg _ (congrArg _ (congrArg Prod.snd (irunFrom_setSelf m (irun m pre) post)))

/-- the owner (the class or any subclass of it) does not matter -/
theorem owner_irrelevant (m : KeyMode) (s : IState) (inst : Option Inst) (o o' : Nat)
    (keep : Option Nat) : descGet m s inst o keep = descGet m s inst o' keep := by
  cases inst <;> rfl

-- get_right_instance: a history with two EQUAL instances, repeated lookups, calls, a class access,
-- a lookup on a dropped instance; every wrapper is bound to the instance asked
example : itrace .identity [.newInst 1 7, .newInst 2 7, .get 1, .get 2, .call 1, .cls, .get 1,
      .dropInst 2, .get 2] =
    [(.get 1, .wrapper 0 1), (.get 2, .wrapper 1 2), (.call 1, .wrapper 0 1), (.cls, .desc),
     (.get 1, .wrapper 0 1), (.get 2, .noInst)] := rfl
-- the same history with equality keys: instance 2 gets the wrapper of instance 1
example : itrace .equality [.newInst 1 7, .newInst 2 7, .get 1, .get 2, .call 1, .cls, .get 1,
      .dropInst 2, .get 2] =
    [(.get 1, .wrapper 0 1), (.get 2, .wrapper 0 1), (.call 1, .wrapper 0 1), (.cls, .desc),
     (.get 1, .wrapper 0 1), (.get 2, .noInst)] := rfl
-- get_right_instance_held: hypothesis met
example : (2 : Nat) ∈ (irun .identity [.newInst 1 7, .newInst 2 7, .get 1]).heldInst := by decide
-- get_stable: all hypotheses met by a history with other lookups, a collection and the instance
-- dropped and re-acquired in between; the answer is a wrapper
example :
    let pre : List IOp := [.newInst 1 7, .newInst 2 7]
    let mid : List IOp := [.get 2, .gc, .dropInst 1, .call 2, .dropWrapper 2, .gc, .newInst 1 7]
    (istep .identity (irun .identity pre) (.get 1)).2 = some (.wrapper 0 1) ∧
    IAns.wrapper 0 1 ≠ .noInst ∧ IOp.dropWrapper 1 ∉ mid ∧
    1 ∈ (irun .identity (pre ++ .get 1 :: mid)).heldInst ∧
    (istep .identity (irun .identity (pre ++ .get 1 :: mid)) (.get 1)).2 = some (.wrapper 0 1) := by
  decide
-- without the hypothesis `hmid` the conclusion fails: dropped and collected, the wrapper is another one
example : (istep .identity (irun .identity [.newInst 1 7, .get 1, .dropWrapper 1, .gc]) (.get 1)).2 =
    some (.wrapper 1 1) := by decide
-- get_fresh_after_collect: hypothesis met, and a wrapper had been answered before (identity 0)
example : (1 : Nat) ∈ (irun .identity [.newInst 1 7, .get 1]).heldInst ∧
    itrace .identity ([.newInst 1 7, .get 1] ++ [.dropWrapper 1, .gc]) = [(.get 1, .wrapper 0 1)] ∧
    (irun .identity ([.newInst 1 7, .get 1] ++ [.dropWrapper 1, .gc])).nextWid = 1 := by decide
-- no_retention_id: the instance had an entry before the collection
example : (1 : Nat) ∉ (irun .identity [.newInst 1 7, .get 1, .dropWrapper 1, .dropInst 1]).heldInst ∧
    (irun .identity [.newInst 1 7, .get 1, .dropWrapper 1, .dropInst 1]).heldWrap = [] ∧
    1 ∈ (irun .identity [.newInst 1 7, .get 1, .dropWrapper 1, .dropInst 1]).alive := by decide
-- no_premature_reclaim_id: the wrapper is held although the instance was dropped and gc ran
example : (1, 0) ∈ (irun .identity [.newInst 1 7, .get 1, .dropInst 1, .gc]).heldWrap ∧
    1 ∉ (irun .identity [.newInst 1 7, .get 1, .dropInst 1, .gc]).heldInst := by decide

end SV
