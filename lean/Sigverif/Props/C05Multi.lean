/-
  Props/C05Multi.lean — property C05, SEVERAL forwarding calls together with KEYWORDS in the call.

  Property text (C05): "For any function whose body forwards its *args/**kwargs — … or several calls
  on different branches — every non-colliding call accepted by sigtools.signature(f) runs without an
  argument-binding TypeError raised by f or by a callee it forwards to, or else the reported
  signature is exactly what plain retrieval reports for f."

  What is here (Props/C05Sound.lean has: any number of calls + all-positional calls, and one
  forwarding call + every non-colliding call):

  * `discovery_sound_roles_needs_roleCons` — finding D23: without role-consistency of the per-call
    signatures the statement is false (`g0(*args, **kwargs); g0(1, *args, **kwargs)`).
  * `discovery_sound_roles_refuted` — FINDING (reproduced on the Python code): even WITH
    role-consistent per-call signatures the statement is false when "non-colliding" is read on the
    reported signature R, the wrapper and the callees: a keyword-passable parameter of R that stems
    from ONE callee can carry the name of a parameter of ANOTHER callee which that call site
    already fills by position — the per-call signature of that call no longer has the name (so
    role-consistency says nothing about it), its `**kwargs` swallows the keyword, and the callee
    then gets the argument twice.
  * `discovery_sound_roles_partial` — the statement with exactly one ADDED HYPOTHESIS (`hkeep`).
  * `discovery_sound_roles_percall` — the statement with the two non-collision hypotheses of
    `merge_sound_roles` / `forwards_sound` taken as they are (implies the previous one).
  * `program_sound_roles` — composed with `visitor_eq_truth`: for every program of the forwarding
    grammar, about the calls that really happen (the generator's ground truth).
-/
import Sigverif.Props.C05Sound
import Sigverif.Lemmas.C05MNames
import Sigverif.Lemmas.C02Embed
namespace SV

/-- `w` is the callee of the call record `c`: what the callee expression resolves to, or — for a
    call `functools.partial(g, …)` — what its first argument resolves to.  (These are exactly the
    signatures `forward_signatures` hands to `forwards` as `inner`.) -/
def IsCallee (resolve : RM → RVal) (c : CallRec) (w : USig) : Prop :=
  resolve c.wrapped = .fn w ∨
    (resolve c.wrapped = .partialCtor ∧ ∃ a0 t, c.args = a0 :: t ∧ resolve a0 = .fn w)

/-- "non-colliding" for a discovered signature, in terms a user can check: every keyword of the
    call is a keyword-passable parameter of the reported signature R, or is not a parameter name of
    the wrapper nor of any callee it forwards to.  (`nonColl R.params (own :: callees) K` of
    Props/Defs.lean, with the callees given by the call records.) -/
def nonCollFwd (own R : USig) (resolve : RM → RVal) (cs : List CallRec) (K : List Nat) : Prop :=
  ∀ k ∈ K, k ∈ kwNames R.params ∨
    (k ∉ allNames own.params ∧ ∀ c ∈ forwarding cs, ∀ w, IsCallee resolve c w → k ∉ allNames w.params)

theorem IsCallee.fn {resolve : RM → RVal} {c : CallRec} {w : USig} (h : IsCallee resolve c w) :
    ∃ r, resolve r = .fn w := by
  rcases h with h | ⟨-, a0, -, -, h⟩
  · exact ⟨_, h⟩
  · exact ⟨a0, h⟩

/-- **discovery is sound: any number of forwarding calls, every non-colliding call,
    role-consistent per-call signatures** — with the non-collision hypotheses of
    `merge_sound_roles` (w.r.t. the per-call signatures) and of `forwards_sound` (for each plain
    call, w.r.t. its per-call signature, the wrapper and the callee) as they are;
    `discovery_sound_roles_partial` derives them from `nonCollFwd` and `hkeep` -/
theorem discovery_sound_roles_percall (own R : USig) (resolve : RM → RVal) (cs : List CallRec) (ss : List USig)
    (m : Nat) (K : List Nat)
    (ho : WF own.params) (hres : ∀ r w, resolve r = .fn w → WF w.params) (hK : K.Nodup)
    (hall : declaredAll own resolve (forwarding cs) = .ok ss)
    (hrc : roleCons (ss.map (·.params)))
    (hd : discovered own resolve (some cs) = .ok R)
    (hnc1 : nonColl R.params (ss.map (·.params)) K)
    (hnc2 : ∀ c ∈ forwarding cs, ∀ w s, PlainFwd resolve c w → declared own resolve c = .ok s →
              nonColl s.params [own.params, w.params] K)
    (hacc : accepts R.params m K = true) :
    R = own ∨ ∀ c ∈ forwarding cs, ∀ w, PlainFwd resolve c w → (∀ k ∈ K, k ∉ c.kwargs.map (·.1)) →
      wrapperRuns own.params w.params c.args.length (c.kwargs.map (·.1)) c.useVa c.useVk m K = true := by
  refine discovery_sound_of ho hres hK hd (fun ss' hall' hm => ?_) hnc2
  obtain rfl : ss = ss' := Except.ok.inj (hall.symm.trans hall')
  exact merge_sound_roles ss R m K (declaredAll_wf hres hall) hK hrc hm hnc1 hacc

/-- the same with non-collision stated on the reported signature R, the wrapper and the callees
    (`nonCollFwd`) — with one added hypothesis.

    ORIGINAL STATEMENT (FALSE, see `discovery_sound_roles_refuted` below): `discovery_sound_roles_full`.

    ADDED HYPOTHESIS `hkeep`: a keyword of the call that is a keyword-passable parameter of R and
    names a parameter of the wrapper or of a callee `w` still names a parameter of the per-call
    signature `s = forwards(own, w, …)` of every plain call to `w`.  It fails exactly in the
    situation of the refutation: the name was consumed at the call site (one of the first
    `c.args.length` positionals of `w`), or is the name of a forwarded star parameter, or was dropped
    because the wrapper cannot forward it — then the per-call signature takes the keyword in its
    `**kwargs` although the callee (or wrapper) has a parameter of that name.  `s` is what the public
    `sigtools.signatures.forwards` returns, so the hypothesis can be checked by a user.
    The two disjuncts of `hkeep` and `hnc` are what `forwards_sound` needs of each call
    (`nonColl s.params [own.params, w.params] K`); role-consistency turns "names a parameter of `s`"
    into "keyword-passable in `s`" (`merge_kw_roles`). -/
theorem discovery_sound_roles_partial (own R : USig) (resolve : RM → RVal) (cs : List CallRec) (ss : List USig)
    (m : Nat) (K : List Nat)
    (ho : WF own.params) (hres : ∀ r w, resolve r = .fn w → WF w.params) (hK : K.Nodup)
    (hall : declaredAll own resolve (forwarding cs) = .ok ss)
    (hrc : roleCons (ss.map (·.params)))
    (hd : discovered own resolve (some cs) = .ok R)
    (hnc : nonCollFwd own R resolve cs K)
    (hkeep : ∀ c ∈ forwarding cs, ∀ w s, PlainFwd resolve c w → declared own resolve c = .ok s →
      ∀ k ∈ K, k ∈ kwNames R.params →
        k ∈ allNames s.params ∨ (k ∉ allNames own.params ∧ k ∉ allNames w.params))
    (hacc : accepts R.params m K = true) :
    R = own ∨ ∀ c ∈ forwarding cs, ∀ w, PlainFwd resolve c w → (∀ k ∈ K, k ∉ c.kwargs.map (·.1)) →
      wrapperRuns own.params w.params c.args.length (c.kwargs.map (·.1)) c.useVa c.useVk m K = true := by
  by_cases hRo : R = own
  · exact .inl hRo
  obtain ⟨s0, ss0, hall0, hm⟩ := (discovered_some_ok hd).resolve_left hRo
  rw [← Except.ok.inj (hall.symm.trans hall0)] at hm
  have hmem := declaredAll_mem own resolve _ _ hall
  refine discovery_sound_roles_percall own R resolve cs ss m K ho hres hK hall hrc hd ?_ ?_ hacc
  · intro k hk
    rcases hnc k hk with h | ⟨h1, h2⟩
    · exact .inl h
    · right
      intro ps hps hx
      obtain ⟨s, hs, rfl⟩ := List.mem_map.1 hps
      obtain ⟨c, hc, hdc⟩ := hmem s hs
      obtain ⟨w, hw, hsub⟩ := declared_names_subset own resolve c s hdc
      rcases hsub k hx with h | h
      · exact h1 h
      · exact h2 c hc w hw h
  · intro c hc w s hp hdc k hk
    have hsm : s ∈ ss := by
      obtain ⟨s', hs', hds'⟩ := declaredAll_all own resolve _ _ hall c hc
      rw [hdc] at hds'
      cases hds'
      exact hs'
    have hfor : (∀ t ∈ [own.params, w.params], k ∉ allNames t) ↔
        (k ∉ allNames own.params ∧ k ∉ allNames w.params) := by simp
    rw [hfor]
    rcases hnc k hk with h | ⟨h1, h2⟩
    · rcases hkeep c hc w s hp hdc k hk h with h' | h'
      · exact .inl (merge_kw_roles ss R (fun t ht => WF.validate (declaredAll_wf hres hall t ht)) hrc hm k h s hsm h')
      · exact .inr h'
    · exact .inr ⟨h1, h2 c hc w (.inl hp.res)⟩

/-- for every program of the whole forwarding grammar (nested functions, lambdas, `nonlocal`): what
    retrieval makes of the walker's records is sound — for every non-colliding call, with keywords —
    for the calls that really happen when the program runs (the generator's ground truth), when the
    per-call signatures are role-consistent.  ADDED HYPOTHESIS `hkeep` as in
    `discovery_sound_roles_partial` (without it the statement is false: the program of
    `discovery_sound_roles_refuted` is a program of the grammar). -/
theorem program_sound_roles (p : Prog) (hp : GrammarProg p) (own R : USig) (resolve : RM → RVal)
    (ss : List USig) (m : Nat) (K : List Nat)
    (ho : WF own.params) (hres : ∀ r w, resolve r = .fn w → WF w.params) (hK : K.Nodup)
    (cs : List CallRec) (hv : runVisitor (render p) = .ok cs)
    (hall : declaredAll own resolve (forwarding cs) = .ok ss)
    (hrc : roleCons (ss.map (·.params)))
    (hd : discovered own resolve (some cs) = .ok R)
    (hnc : nonCollFwd own R resolve cs K)
    (hkeep : ∀ c ∈ forwarding cs, ∀ w s, PlainFwd resolve c w → declared own resolve c = .ok s →
      ∀ k ∈ K, k ∈ kwNames R.params →
        k ∈ allNames s.params ∨ (k ∉ allNames own.params ∧ k ∉ allNames w.params))
    (hacc : accepts R.params m K = true) :
    R = own ∨ ∀ f ∈ truth p, ∀ w, PlainFwd resolve (f.toRec p) w →
      (∀ k ∈ K, k ∉ (f.toRec p).kwargs.map (·.1)) →
      wrapperRuns own.params w.params (f.toRec p).args.length ((f.toRec p).kwargs.map (·.1)) f.useVa f.useVk m K = true :=
  (discovery_sound_roles_partial own R resolve cs ss m K ho hres hK hall hrc hd hnc hkeep hacc).imp_right
    fun h f hf w hpw hdisj => h _ (truth_mem_forwarding (visitor_eq_truth p hp) hv f hf) w hpw hdisj

/-! ## the refutation of the original statement (FINDING, reproduced on the Python code)

```
def g1(x, *a, **kw): ...
def g2(*, x): ...
def w(*args, **kwargs):
    g1(1, *args, **kwargs)      # per-call signature (*a, **kw): `x` is filled at the call site
    g2(*args, **kwargs)         # per-call signature (*, x)
```
`sigtools.specifiers.signature(w)` is `(*, x)`; `w(x=5)` raises
`TypeError: g1() got multiple values for argument 'x'`.  The per-call signatures share no name,
so they are role-consistent; `x` is a keyword-passable parameter of R, so the call is non-colliding. -/

/-- `(*args, **kwargs)` -/
def mOwn : USig := { params := [⟨11, .vp, none, none, .empty⟩, ⟨12, .vk, none, none, .empty⟩],
                     src := [(11, [1]), (12, [1])], depths := [(1, 0)] }
/-- `g1(x, *a, **kw)` -/
def mG1 : USig := { params := [⟨2, .pk, none, none, .empty⟩, ⟨13, .vp, none, none, .empty⟩, ⟨14, .vk, none, none, .empty⟩],
                    src := [(2, [2]), (13, [2]), (14, [2])], depths := [(2, 0)] }
/-- `g2(*, x)` -/
def mG2 : USig := { params := [⟨2, .ko, none, none, .empty⟩], src := [(2, [3])], depths := [(3, 0)] }
def mRes : RM → RVal
  | .nm 21 => .fn mG1
  | .nm 22 => .fn mG2
  | _ => .unresolvable
/-- `g1(1, *args, **kwargs)` -/
def mRec1 : CallRec := { wrapped := .nm 21, args := [.unknown], kwargs := [], varargs := some (.arg 11 (some .va)),
                         varkwargs := some (.arg 12 (some .vk)), useVa := true, useVk := true, hideA := false, hideK := false }
/-- `g2(*args, **kwargs)` -/
def mRec2 : CallRec := { mRec1 with wrapped := .nm 22, args := [] }
/-- per-call signature of the first call: `(*a, **kw)` -/
def mS1 : USig := { params := [⟨13, .vp, none, none, .empty⟩, ⟨14, .vk, none, none, .empty⟩],
                    src := [(13, [2]), (14, [2])], depths := [(1, 0), (2, 1)] }
/-- `g1` with its first positional taken: `(*a, **kw)` -/
def mM1 : USig := { mS1 with depths := [(2, 0)] }
/-- per-call signature of the second call: `(*, x)` -/
def mS2 : USig := { params := [⟨2, .ko, none, none, .empty⟩], src := [(2, [3])], depths := [(1, 0), (3, 1)] }
/-- the discovered signature: `(*, x)` -/
def mR : USig := { params := [⟨2, .ko, none, none, .empty⟩], src := [(2, [3])], depths := [(1, 0), (2, 1), (3, 1)] }

theorem mRes_wf : ∀ r w, mRes r = .fn w → WF w.params := by
  intro r w h
  unfold mRes at h
  split at h
  · cases h; decide
  · cases h; decide
  · cases h
theorem mD1 : declared mOwn mRes mRec1 = .ok mS1 :=
  declared_of_forwards rfl rfl (forwards_false_of (M := mM1) rfl
    (show embed true true [mOwn, mM1] = .ok mS1 by
      simp only [embed, embedFold, embedStep_evalEq]; exact eq_ok_of (by decide +kernel)))
theorem mD2 : declared mOwn mRes mRec2 = .ok mS2 :=
  declared_of_forwards rfl rfl (forwards_false_of (M := mG2) rfl
    (show embed true true [mOwn, mG2] = .ok mS2 by
      simp only [embed, embedFold, embedStep_evalEq]; exact eq_ok_of (by decide +kernel)))
theorem mAll : declaredAll mOwn mRes (forwarding [mRec1, mRec2]) = .ok [mS1, mS2] := by
  have : forwarding [mRec1, mRec2] = [mRec1, mRec2] := by decide
  rw [this]
  simp only [declaredAll, mD1, mD2, bind, Except.bind, pure, Except.pure]
theorem mMerge : merge [mS1, mS2] = .ok mR := by
  simp only [merge, mergeFold, mergeStep_eq]; exact eq_ok_of (by decide +kernel)
theorem mDisc : discovered mOwn mRes (some [mRec1, mRec2]) = .ok mR := by
  rw [discovered_eq_declared, mAll]
  simp only [mMerge]
theorem mRoles : roleCons ([mS1, mS2].map (·.params)) := by decide +kernel
theorem mPlain1 : PlainFwd mRes mRec1 mG1 :=
  ⟨rfl, rfl, rfl, by simp [mRec1], by intro p _ _; simp [mRec1]⟩

/-- every hypothesis of the original statement holds — the wrapper and the callees are valid, the
    per-call signatures are role-consistent, discovery returns `(*, x)` (not the plain signature),
    the call `w(x=…)` is non-colliding (`x` is keyword-passable in R) and accepted by R — and the
    plain forwarding call `g1(1, *args, **kwargs)` fails to bind it -/
theorem discovery_sound_roles_refuted :
    ∃ (own R : USig) (resolve : RM → RVal) (cs : List CallRec) (ss : List USig) (m : Nat) (K : List Nat),
      WF own.params ∧ (∀ r w, resolve r = .fn w → WF w.params) ∧ K.Nodup ∧
      declaredAll own resolve (forwarding cs) = .ok ss ∧
      roleCons (ss.map (·.params)) ∧
      discovered own resolve (some cs) = .ok R ∧
      nonCollFwd own R resolve cs K ∧
      accepts R.params m K = true ∧
      R ≠ own ∧
      ∃ c ∈ forwarding cs, ∃ w, PlainFwd resolve c w ∧ (∀ k ∈ K, k ∉ c.kwargs.map (·.1)) ∧
        wrapperRuns own.params w.params c.args.length (c.kwargs.map (·.1)) c.useVa c.useVk m K = false := by
  refine ⟨mOwn, mR, mRes, [mRec1, mRec2], [mS1, mS2], 0, [2], by decide, mRes_wf, by decide, mAll, mRoles,
    mDisc, ?_, by decide, by decide, mRec1, by decide, mG1, mPlain1, by decide, by decide⟩
  intro k hk
  simp only [List.mem_singleton] at hk
  subst hk
  exact .inl (by decide)

/-- the original statement, at full strength -/
def discovery_sound_roles_full : Prop :=
  ∀ (own R : USig) (resolve : RM → RVal) (cs : List CallRec) (ss : List USig) (m : Nat) (K : List Nat),
    WF own.params → (∀ r w, resolve r = .fn w → WF w.params) → K.Nodup →
    declaredAll own resolve (forwarding cs) = .ok ss →
    roleCons (ss.map (·.params)) →
    discovered own resolve (some cs) = .ok R →
    nonCollFwd own R resolve cs K →
    accepts R.params m K = true →
    R = own ∨ ∀ c ∈ forwarding cs, ∀ w, PlainFwd resolve c w → (∀ k ∈ K, k ∉ c.kwargs.map (·.1)) →
      wrapperRuns own.params w.params c.args.length (c.kwargs.map (·.1)) c.useVa c.useVk m K = true

theorem discovery_sound_roles_full_refuted : ¬ discovery_sound_roles_full := by
  intro h
  obtain ⟨own, R, resolve, cs, ss, m, K, ho, hres, hK, hall, hrc, hd, hnc, hacc, hne, c, hc, w, hp, hdisj, hrun⟩ :=
    discovery_sound_roles_refuted
  rcases h own R resolve cs ss m K ho hres hK hall hrc hd hnc hacc with h | h
  · exact hne h
  · rw [h c hc w hp hdisj] at hrun
    cases hrun

/-- the added hypothesis `hkeep` fails on the witness (as it must): `x` is keyword-passable in R,
    names a parameter of `g1`, and the per-call signature `(*a, **kw)` has no parameter `x` -/
example : 2 ∈ kwNames mR.params ∧ 2 ∉ allNames mS1.params ∧ 2 ∈ allNames mG1.params := by decide

/-! ## role-consistency is needed (finding D23)

```
def g(a, b, **kw): ...
def w(*args, **kwargs):
    g(*args, **kwargs)          # per-call signature (a, b, **kw)
    g(1, *args, **kwargs)       # per-call signature (b, **kw): `b` is the FIRST positional here
```
retrieval returns `(a, /, *, b, **kw)`; the call `w(1, b=…)` is accepted, non-colliding, keeps its
names in both per-call signatures — and the second call is `g(1, 1, b=…)`. -/

def nG : USig := { params := [⟨1, .pk, none, none, .empty⟩, ⟨2, .pk, none, none, .empty⟩, ⟨14, .vk, none, none, .empty⟩],
                   src := [(1, [2]), (2, [2]), (14, [2])], depths := [(2, 0)] }
def nRes : RM → RVal
  | .nm 21 => .fn nG
  | _ => .unresolvable
/-- `g(*args, **kwargs)` -/
def nRec0 : CallRec := { mRec1 with args := [] }
/-- `(a, b, **kw)` -/
def nS0 : USig := { params := [⟨1, .pk, none, none, .empty⟩, ⟨2, .pk, none, none, .empty⟩, ⟨14, .vk, none, none, .empty⟩],
                    src := [(1, [2]), (2, [2]), (14, [2])], depths := [(1, 0), (2, 1)] }
/-- `(b, **kw)` -/
def nS1 : USig := { params := [⟨2, .pk, none, none, .empty⟩, ⟨14, .vk, none, none, .empty⟩],
                    src := [(2, [2]), (14, [2])], depths := [(1, 0), (2, 1)] }
/-- `g` with its first positional taken: `(b, **kw)` -/
def nM1 : USig := { nS1 with depths := [(2, 0)] }
/-- `(a, /, *, b, **kw)` -/
def nR : USig := { params := [⟨1, .po, none, none, .empty⟩, ⟨2, .ko, none, none, .empty⟩, ⟨14, .vk, none, none, .empty⟩],
                   src := [(1, [2]), (2, [2]), (14, [2, 2])], depths := [(1, 0), (2, 1)] }

theorem nRes_fn {r : RM} {w : USig} (h : nRes r = .fn w) : w = nG := by
  unfold nRes at h
  split at h
  · cases h; rfl
  · cases h
theorem nRes_wf : ∀ r w, nRes r = .fn w → WF w.params := by
  intro r w h
  cases nRes_fn h
  decide
theorem nD0 : declared mOwn nRes nRec0 = .ok nS0 :=
  declared_of_forwards rfl rfl (forwards_false_of (M := nG) rfl
    (show embed true true [mOwn, nG] = .ok nS0 by
      simp only [embed, embedFold, embedStep_evalEq]; exact eq_ok_of (by decide +kernel)))
theorem nD1 : declared mOwn nRes mRec1 = .ok nS1 :=
  declared_of_forwards rfl rfl (forwards_false_of (M := nM1) rfl
    (show embed true true [mOwn, nM1] = .ok nS1 by
      simp only [embed, embedFold, embedStep_evalEq]; exact eq_ok_of (by decide +kernel)))
theorem nAll : declaredAll mOwn nRes (forwarding [nRec0, mRec1]) = .ok [nS0, nS1] := by
  have : forwarding [nRec0, mRec1] = [nRec0, mRec1] := by decide
  rw [this]
  simp only [declaredAll, nD0, nD1, bind, Except.bind, pure, Except.pure]
theorem nMerge : merge [nS0, nS1] = .ok nR := by
  simp only [merge, mergeFold, mergeStep_eq]; exact eq_ok_of (by decide +kernel)
theorem nDisc : discovered mOwn nRes (some [nRec0, mRec1]) = .ok nR := by
  rw [discovered_eq_declared, nAll]
  simp only [nMerge]
set_option linter.unusedVariables false in
theorem nPlain (c : CallRec) (hc : c ∈ [nRec0, mRec1]) (w : USig) (hp : PlainFwd nRes c w) : w = nG :=
  nRes_fn hp.res

/-- every hypothesis of `discovery_sound_roles_partial` except role-consistency holds (the added
    one included), and the conclusion fails -/
theorem discovery_sound_roles_needs_roleCons :
    ∃ (own R : USig) (resolve : RM → RVal) (cs : List CallRec) (ss : List USig) (m : Nat) (K : List Nat),
      WF own.params ∧ (∀ r w, resolve r = .fn w → WF w.params) ∧ K.Nodup ∧
      declaredAll own resolve (forwarding cs) = .ok ss ∧
      ¬ roleCons (ss.map (·.params)) ∧
      discovered own resolve (some cs) = .ok R ∧
      nonCollFwd own R resolve cs K ∧
      (∀ c ∈ forwarding cs, ∀ w s, PlainFwd resolve c w → declared own resolve c = .ok s →
        ∀ k ∈ K, k ∈ kwNames R.params →
          k ∈ allNames s.params ∨ (k ∉ allNames own.params ∧ k ∉ allNames w.params)) ∧
      accepts R.params m K = true ∧
      R ≠ own ∧
      ∃ c ∈ forwarding cs, ∃ w, PlainFwd resolve c w ∧ (∀ k ∈ K, k ∉ c.kwargs.map (·.1)) ∧
        wrapperRuns own.params w.params c.args.length (c.kwargs.map (·.1)) c.useVa c.useVk m K = false := by
  have hfw : forwarding [nRec0, mRec1] = [nRec0, mRec1] := by decide
  refine ⟨mOwn, nR, nRes, [nRec0, mRec1], [nS0, nS1], 1, [2], by decide, nRes_wf, by decide, nAll, ?_,
    nDisc, ?_, ?_, by decide, by decide, mRec1, by decide, nG,
    ⟨rfl, rfl, rfl, by simp [mRec1], by intro p _ _; simp [mRec1]⟩, by decide, by decide⟩
  · intro h
    have := (h nS0.params (by simp) nS1.params (by simp) 2 (by decide) (by decide)).2
    revert this
    decide
  · intro k hk
    simp only [List.mem_singleton] at hk
    subst hk
    exact .inl (by decide)
  · intro c hc w s _ hdc k hk _
    simp only [List.mem_singleton] at hk
    subst hk
    rw [hfw] at hc
    simp only [List.mem_cons, List.not_mem_nil, or_false] at hc
    rcases hc with rfl | rfl
    · rw [nD0] at hdc; cases hdc; exact .inl (by decide)
    · rw [nD1] at hdc; cases hdc; exact .inl (by decide)

/-! ## non-vacuity: two forwarding calls to two different callees, consistent roles

```
def g1(x, y=1, **kw): ...
def g2(x, *, z=2, **kw2): ...
def w(*args, **kwargs):
    if c:
        g1(*args, **kwargs)     # per-call signature (x, y=1, **kw)
    r = g2(*args, **kwargs)     # per-call signature (x, *, z=2, **kw2)
```
retrieval returns `(x, *, y=1, z=2, **kw2)`; the mixed call `w(_, z=…, q=…)` (one positional, the
keyword `z` of `g2` only, and a keyword `q` no signature knows) is accepted, meets all hypotheses,
and both callees bind it. -/

def vG1 : USig := { params := [⟨2, .pk, none, none, .empty⟩, ⟨3, .pk, some 1, none, .empty⟩, ⟨14, .vk, none, none, .empty⟩],
                    src := [(2, [2]), (3, [2]), (14, [2])], depths := [(2, 0)] }
def vG2 : USig := { params := [⟨2, .pk, none, none, .empty⟩, ⟨4, .ko, some 2, none, .empty⟩, ⟨15, .vk, none, none, .empty⟩],
                    src := [(2, [3]), (4, [3]), (15, [3])], depths := [(3, 0)] }
def vRes : RM → RVal
  | .nm 21 => .fn vG1
  | .nm 22 => .fn vG2
  | _ => .unresolvable
def vRec1 : CallRec := { mRec1 with args := [] }
def vRec2 : CallRec := { vRec1 with wrapped := .nm 22 }
def vS1 : USig := { params := [⟨2, .pk, none, none, .empty⟩, ⟨3, .pk, some 1, none, .empty⟩, ⟨14, .vk, none, none, .empty⟩],
                    src := [(2, [2]), (3, [2]), (14, [2])], depths := [(1, 0), (2, 1)] }
def vS2 : USig := { params := [⟨2, .pk, none, none, .empty⟩, ⟨4, .ko, some 2, none, .empty⟩, ⟨15, .vk, none, none, .empty⟩],
                    src := [(2, [3]), (4, [3]), (15, [3])], depths := [(1, 0), (3, 1)] }
def vR : USig := { params := [⟨2, .pk, none, none, .empty⟩, ⟨3, .ko, some 1, none, .empty⟩, ⟨4, .ko, some 2, none, .empty⟩,
                              ⟨15, .vk, none, none, .empty⟩],
                   src := [(2, [2, 3]), (3, [2]), (4, [3]), (15, [3])], depths := [(1, 0), (2, 1), (3, 1)] }
/-- the program above -/
def vProg : Prog :=
  { params := [], va := 11, vk := 12,
    body := .cons (.block (.cons (.fwd (.name 21 .load) 0 [] true true none) .nil))
           (.cons (.fwd (.name 22 .load) 0 [] true true (some 31)) .nil) }

theorem vRes_fn {r : RM} {w : USig} (h : vRes r = .fn w) : w = vG1 ∨ w = vG2 := by
  unfold vRes at h
  split at h
  · cases h; exact .inl rfl
  · cases h; exact .inr rfl
  · cases h
theorem vRes_wf : ∀ r w, vRes r = .fn w → WF w.params := by
  intro r w h
  rcases vRes_fn h with rfl | rfl <;> decide
theorem vD1 : declared mOwn vRes vRec1 = .ok vS1 :=
  declared_of_forwards rfl rfl (forwards_false_of (M := vG1) rfl
    (show embed true true [mOwn, vG1] = .ok vS1 by
      simp only [embed, embedFold, embedStep_evalEq]; exact eq_ok_of (by decide +kernel)))
theorem vD2 : declared mOwn vRes vRec2 = .ok vS2 :=
  declared_of_forwards rfl rfl (forwards_false_of (M := vG2) rfl
    (show embed true true [mOwn, vG2] = .ok vS2 by
      simp only [embed, embedFold, embedStep_evalEq]; exact eq_ok_of (by decide +kernel)))
theorem vFwd : forwarding [vRec1, vRec2] = [vRec1, vRec2] := by decide
theorem vAll : declaredAll mOwn vRes [vRec1, vRec2] = .ok [vS1, vS2] := by
  simp only [declaredAll, vD1, vD2, bind, Except.bind, pure, Except.pure]
theorem vMerge : merge [vS1, vS2] = .ok vR := by
  simp only [merge, mergeFold, mergeStep_eq]; exact eq_ok_of (by decide +kernel)
theorem vRoles : roleCons ([vS1, vS2].map (·.params)) := by decide +kernel
theorem vPlain1 : PlainFwd vRes vRec1 vG1 :=
  ⟨rfl, rfl, rfl, by simp [vRec1, mRec1], by intro p _ _; simp [vRec1, mRec1]⟩
theorem vPlain2 : PlainFwd vRes vRec2 vG2 :=
  ⟨rfl, rfl, rfl, by simp [vRec2, vRec1, mRec1], by intro p _ _; simp [vRec2, vRec1, mRec1]⟩

/-- all hypotheses of `discovery_sound_roles_partial` (and of `_percall`) hold together for any
    record list whose forwarding calls are the two above; the result is not the plain signature;
    the call `(1, [z, q])` is mixed, accepted, and bound by the wrapper and by both callees -/
theorem vHyps (cs : List CallRec) (hcs : forwarding cs = [vRec1, vRec2]) :
    WF mOwn.params ∧ (∀ r w, vRes r = .fn w → WF w.params) ∧ [4, 9].Nodup ∧
    declaredAll mOwn vRes (forwarding cs) = .ok [vS1, vS2] ∧
    roleCons ([vS1, vS2].map (·.params)) ∧
    discovered mOwn vRes (some cs) = .ok vR ∧
    nonCollFwd mOwn vR vRes cs [4, 9] ∧
    (∀ c ∈ forwarding cs, ∀ w s, PlainFwd vRes c w → declared mOwn vRes c = .ok s →
      ∀ k ∈ [4, 9], k ∈ kwNames vR.params →
        k ∈ allNames s.params ∨ (k ∉ allNames mOwn.params ∧ k ∉ allNames w.params)) ∧
    accepts vR.params 1 [4, 9] = true ∧ vR ≠ mOwn := by
  refine ⟨by decide, vRes_wf, by decide, by rw [hcs]; exact vAll, vRoles, ?_, ?_, ?_, by decide, by decide⟩
  · rw [discovered_eq_declared, hcs, vAll]
    simp only [vMerge]
  · intro k hk
    simp only [List.mem_cons, List.not_mem_nil, or_false] at hk
    rcases hk with rfl | rfl
    · exact .inl (by decide)
    · refine .inr ⟨by decide, fun c _ w hw => ?_⟩
      obtain ⟨r, hr⟩ := hw.fn
      rcases vRes_fn hr with rfl | rfl <;> decide
  · intro c hc w s hp hdc k hk _
    rw [hcs] at hc
    simp only [List.mem_cons, List.not_mem_nil, or_false] at hk hc
    rcases hk with rfl | rfl
    · -- `z`: foreign to the wrapper and `g1`, a parameter of the per-call signature of `g2`
      rcases hc with rfl | rfl
      · have h := hp.res
        simp only [vRec1, mRec1, vRes] at h; cases h
        exact .inr (by decide)
      · rw [vD2] at hdc; cases hdc
        exact .inl (by decide)
    · right
      rcases vRes_fn hp.res with rfl | rfl <;> decide

/-- `discovery_sound_roles_partial` applied: both forwarding calls are plain, their keyword lists
    are disjoint from the call's, and the theorem yields `wrapperRuns` for both -/
example : wrapperRuns mOwn.params vG1.params 0 [] true true 1 [4, 9] = true ∧
    wrapperRuns mOwn.params vG2.params 0 [] true true 1 [4, 9] = true := by
  obtain ⟨ho, hres, hK, hall, hrc, hd, hnc, hkeep, hacc, hne⟩ := vHyps [vRec1, vRec2] vFwd
  rcases discovery_sound_roles_partial mOwn vR vRes [vRec1, vRec2] _ 1 [4, 9] ho hres hK hall hrc hd hnc hkeep hacc with h | h
  · exact absurd h hne
  · exact ⟨h vRec1 (by decide) vG1 vPlain1 (by decide), h vRec2 (by decide) vG2 vPlain2 (by decide)⟩

/-- the conclusion is not trivially true: the same shapes with the keyword `x` added are rejected by
    R, by `g1` and by `g2` -/
example : accepts vR.params 1 [4, 2] = false ∧
    wrapperRuns mOwn.params vG1.params 0 [] true true 1 [4, 2] = false ∧
    wrapperRuns mOwn.params vG2.params 0 [] true true 1 [4, 2] = false := by decide

/-- the program is in the grammar, its ground truth is the two calls -/
example : GrammarProg vProg :=
  ⟨by decide, ⟨by decide, by decide, by decide, by decide, by decide, by decide⟩⟩
theorem vTruth : (truth vProg).map (FwdCall.toRec vProg) = [vRec1, vRec2] := by decide

/-- `program_sound_roles` applied to the program: the walker succeeds, all hypotheses hold, and
    every ground-truth call binds `(1, [z, q])` -/
example : ∃ cs, runVisitor (render vProg) = .ok cs ∧ discovered mOwn vRes (some cs) = .ok vR ∧
    ∀ f ∈ truth vProg, ∀ w, PlainFwd vRes (f.toRec vProg) w →
      wrapperRuns mOwn.params w.params (f.toRec vProg).args.length ((f.toRec vProg).kwargs.map (·.1))
        f.useVa f.useVk 1 [4, 9] = true := by
  have hg : GrammarProg vProg :=
    ⟨by decide, ⟨by decide, by decide, by decide, by decide, by decide, by decide⟩⟩
  have ht := visitor_eq_truth vProg hg
  cases hv : runVisitor (render vProg) with
  | error e => rw [hv] at ht; cases ht
  | ok cs =>
    rw [hv] at ht
    simp only [Except.map, Except.ok.injEq] at ht
    rw [vTruth] at ht
    obtain ⟨ho, hres, hK, hall, hrc, hd, hnc, hkeep, hacc, hne⟩ := vHyps cs ht
    refine ⟨cs, rfl, hd, ?_⟩
    rcases program_sound_roles vProg hg mOwn vR vRes _ 1 [4, 9] ho hres hK cs hv hall hrc hd hnc hkeep hacc with h | h
    · exact absurd h hne
    · intro f hf w hp
      refine h f hf w hp ?_
      have hm : f.toRec vProg ∈ [vRec1, vRec2] := by rw [← vTruth]; exact List.mem_map.2 ⟨f, hf, rfl⟩
      simp only [List.mem_cons, List.not_mem_nil, or_false] at hm
      rcases hm with e | e <;> rw [e] <;> decide

end SV
