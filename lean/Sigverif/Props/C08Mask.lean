/-
  Props/C08Mask.lean — property C08 for `mask` and `forwards`: exactly one sources entry per
  parameter, every entry the input's, depths as stated.

  * `mask_wfsrc`        the result of `mask` (any flags) has exactly one entry per remaining
                        parameter — the entry the input had —, no entry for anything else, the same
                        `+depths`
  * `mask_truthful`     hence it lists only callables that declare the parameter
  * `forwards_wfsrc` / `forwards_truthful` / `forwards_depths`  (without `partial=True`):
                        `forwards` = `embed [outer, mask inner]`, so its map is well-formed, credits
                        the outer callable or one of the inner's, the outer callables stay at their
                        depth and the inner ones are one level deeper
-/
import Sigverif.Props.C08
import Sigverif.Lemmas.C08Mask
namespace SV

theorem mask_wfsrc (sig R : USig) (n : Nat) (nms : List Nat) (h : HideFlags)
    (hwf : WF sig.params) (hp : ProvWF1 sig) (hR : mask sig n nms h = .ok R) :
    ProvWF1 R ∧ (∀ k, k ∈ names R.params → sget R.src k = sget sig.src k) ∧ R.depths = sig.depths := by
  refine ⟨(mask_prov hwf hp hR).1, fun k hk => ?_, mask_depths hwf hR⟩
  unfold sget
  rw [mask_srcFor hwf (fun k hk => (hp.keys k).1 hk) hR k, if_pos hk]

theorem mask_truthful (decl : Nat → List Nat) (sig R : USig) (n : Nat) (nms : List Nat) (h : HideFlags)
    (hwf : WF sig.params) (hp : ProvWF1 sig) (ht : Truthful decl sig.src)
    (hR : mask sig n nms h = .ok R) : Truthful decl R.src :=
  (mask_prov hwf hp hR).2 _ ht

-- The `forwards` statements share one list of hypotheses: provenance does not use `hid`; the depths
-- use `hi` and `hid` only.
section
set_option linter.unusedVariables false

theorem forwards_wfsrc (o i R : USig) (n : Nat) (nms : List Nat) (ha hk uva uvk : Bool)
    (ho : WF o.params) (hi : WF i.params) (po : ProvWF1 o) (pi : ProvWF1 i) (hid : KeysND i.depths)
    (hR : forwards o i n nms ha hk uva uvk false = .ok R) :
    ProvWF1 R ∧ (∀ k f, f ∈ sget R.src k → f ∈ sget o.src k ∨ f ∈ sget i.src k) :=
  forwards_prov (P := fun k f => f ∈ sget o.src k ∨ f ∈ sget i.src k) false ho hi po pi
    (fun _ _ => .inl) (fun _ _ => .inr) hR

theorem forwards_truthful (decl : Nat → List Nat) (o i R : USig) (n : Nat) (nms : List Nat) (ha hk uva uvk : Bool)
    (ho : WF o.params) (hi : WF i.params) (po : ProvWF1 o) (pi : ProvWF1 i) (hid : KeysND i.depths)
    (to : Truthful decl o.src) (ti : Truthful decl i.src)
    (hR : forwards o i n nms ha hk uva uvk false = .ok R) : Truthful decl R.src :=
  (forwards_prov false ho hi po pi to ti hR).2

/-- depth rule of `forwards`: the outer callables keep their depth, the inner ones are one deeper,
    a callable on both sides keeps the smaller -/
theorem forwards_depths (o i R : USig) (n : Nat) (nms : List Nat) (ha hk uva uvk : Bool)
    (ho : WF o.params) (hi : WF i.params) (po : ProvWF1 o) (pi : ProvWF1 i) (hid : KeysND i.depths)
    (hR : forwards o i n nms ha hk uva uvk false = .ok R) (f : Nat) :
    dget R.depths f = minDepth (dget o.depths f) ((dget i.depths f).map (· + 1)) :=
  forwards_depths_of false hi hid hR f

end

/-! ### concrete signatures on which the hypotheses hold -/

private def qA : Param := { name := 1, kind := .pk }
private def qB : Param := { name := 2, kind := .pk }
private def qC : Param := { name := 3, kind := .pk, dflt := some 1 }
private def qVA : Param := { name := 11, kind := .vp }
private def qVK : Param := { name := 12, kind := .vk }
private def sO : USig :=
  { params := [qA, qVA, qVK], src := (defaultSources [qA, qVA, qVK] 100).1, depths := [(100, 0)] }
private def sI : USig :=
  { params := [qB, qC, qVA, qVK], src := (defaultSources [qB, qC, qVA, qVK] 101).1, depths := [(101, 0)] }

example : WF sO.params ∧ WF sI.params := by decide +kernel
example : ProvWF1 sI := ⟨(default_provWF [qB, qC, qVA, qVK] 101).1.toProvWF, (default_provWF [qB, qC, qVA, qVK] 101).1.nd⟩
/-- `mask(inner, 1, 'c')`: `b` consumed, `c` named (so `*args` goes too): `(**kwargs)` with one entry -/
example : okAnd (mask sI 1 [3] {}) (fun R => R.params = [qVK] ∧ R.src = [(12, [101])]) = true := by
  decide +kernel
/-- `forwards(outer, inner, 1)` -/
example : okAnd (forwards sO sI 1 [] false false true true false)
    (fun R => R.params.map (·.name) = [1, 3, 11, 12] ∧ sget R.src 3 = [101] ∧ sget R.src 1 = [100] ∧
      R.depths = [(100, 0), (101, 1)]) = true := by
  simp only [forwards, embed, embedFold, embedStep_evalEq]; decide +kernel

end SV
