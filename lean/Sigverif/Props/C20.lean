/-
  Props/C20.lean — property C20 (support helpers): bind_callsig agrees with CPython's binding,
  sort_callsigs partitions accordingly, make_up_callsigs is complete up to its bounds.
-/
import Sigverif.Props.Defs
import Sigverif.Model.Support
import Sigverif.Lemmas.C20
import Sigverif.Lemmas.BindCall
import Sigverif.Lemmas.Core.Accepts
namespace SV

/-- a keyword names a positional-only parameter next to **kwargs (excluded: version-dependent) -/
def vdep (s : List Param) (kwargs : List (Nat × Nat)) : Prop :=
  hasVk s = true ∧ ∃ kv ∈ kwargs, ∃ p ∈ s, p.kind = .po ∧ p.name = kv.1

instance (s : List Param) (kwargs : List (Nat × Nat)) : Decidable (vdep s kwargs) := by
  unfold vdep; exact inferInstance

/-- bind_callsig and the model of CPython's binding agree on every call that is not version-dependent, duplicated
    keywords included: the two keyword loops treat them alike -/
theorem bindCallsig_eq_bindCall (s : List Param) (args : List Nat) (kwargs : List (Nat × Nat))
    (hwf : WF s) (hvd : ¬ vdep s kwargs) :
    bindCallsig s args kwargs = bindCall s args kwargs := by
  have hn := hwf.nodup
  have hvd' : hasVk s = true → ∀ kv ∈ kwargs, ∀ p ∈ s, p.kind = .po → p.name ≠ kv.1 := by
    intro h kv hkv p hp hpk hpn
    exact hvd ⟨h, kv, hkv, p, hp, hpk, hpn⟩
  obtain ⟨S, hS, rfl⟩ := hwf.exists_swf
  rw [bindCall_eq]
  unfold bindCallsig
  simp only [bcsPos_all hS.bk, positionals_all hS.bk, hasVk_eq_find, List.nil_append]
  by_cases hsur : args.drop (S.pos ++ S.pok).length = []
  · simp only [hsur, if_true, List.isEmpty_nil, Bool.not_true, Bool.false_and, Bool.false_eq_true, if_false]
    rw [bcsKw_eq _ hn none (by simp) kwargs hvd']
    rfl
  · simp only [hsur, if_false]
    cases hva : S.va with
    | none => rw [if_pos (by simpa [hasVa_all hS.bk, hva] using hsur)]; rfl
    | some v =>
      rw [if_neg (by simp [hasVa_all hS.bk, hva])]
      simp only [Option.map_some]
      rw [bcsKw_eq _ hn _ (by rintro x ⟨rfl⟩; exact ⟨v, mem_all_va hva, hS.bk.va v hva, rfl⟩) kwargs hvd']
      rfl

set_option linter.unusedVariables false in
/-- bind_callsig accepts a call exactly when CPython accepts it and returns the same mapping
    (`hk` is not needed: see `bindCallsig_eq_bindCall`) -/
theorem bind_callsig_eq (s : List Param) (args : List Nat) (kwargs : List (Nat × Nat))
    (hwf : WF s) (hk : (kwargs.map (·.1)).Nodup) (hvd : ¬ vdep s kwargs) :
    bindCallsig s args kwargs = bindCall s args kwargs :=
  bindCallsig_eq_bindCall s args kwargs hwf hvd

/-- sort_callsigs partitions the call signatures according to bind_callsig -/
theorem sort_callsigs_partition (s : List Param) (cs : List (List Nat × List (Nat × Nat))) :
    (∀ c ∈ cs, (∃ b, (c.1, c.2, b) ∈ (sortCallsigs s cs).1 ∧ bindCallsig s c.1 c.2 = some b) ∨
               (c ∈ (sortCallsigs s cs).2 ∧ bindCallsig s c.1 c.2 = none)) ∧
    ((sortCallsigs s cs).1.length + (sortCallsigs s cs).2.length = cs.length) := by
  rw [sortCallsigs_eq]
  refine ⟨?_, ?_⟩
  rotate_left
  · have := filterMap_filter_length
      (fun c : List Nat × List (Nat × Nat) => (bindCallsig s c.1 c.2).map (fun b => (c.1, c.2, b))) cs
    simpa using this
  intro c hc
  cases h : bindCallsig s c.1 c.2 with
  | none =>
    right
    exact ⟨List.mem_filter.2 ⟨hc, by simp [h]⟩, rfl⟩
  | some b =>
    left
    exact ⟨b, List.mem_filterMap.2 ⟨c, hc, by simp [h]⟩, rfl⟩

/-- the names make_up_callsigs draws positional prefixes from -/
def muNames (s : List Param) (extras : List Nat) : List Nat :=
  (s.filter (fun p => p.kind = .po)).map (·.name) ++ (s.filter (fun p => p.kind = .pk)).map (·.name)
    ++ (s.filter (fun p => p.kind = .ko)).map (·.name) ++ extras

/-- make_up_callsigs contains every positional prefix combined with every keyword subset -/
theorem make_up_complete (s : List Param) (extras : List Nat) (i : Nat) (K : List Nat)
    (hi : i ≤ (muNames s extras).length)
    (hK : K.Sublist (muNames s extras ++ (s.filter (fun p => p.kind = .vp)).map (·.name)
                       ++ (s.filter (fun p => p.kind = .vk)).map (·.name))) :
    ((muNames s extras).take i, K) ∈ makeUpCallsigs s extras := by
  unfold makeUpCallsigs
  simp only [filter_isNamed_po]
  unfold muNames at hi hK ⊢
  simp only [List.mem_flatMap, List.mem_map, List.mem_range]
  exact ⟨_, ⟨i, by omega, rfl⟩, K, mem_sublists.2 hK, rfl⟩

/-! non-vacuity -/
def exS : List Param := [⟨1, .po, none, none, .empty⟩, ⟨2, .pk, some 4, none, .empty⟩, ⟨11, .vp, none, none, .empty⟩,
                         ⟨3, .ko, none, none, .empty⟩, ⟨12, .vk, none, none, .empty⟩]
example : WF exS := by decide
example : bindCallsig exS [5, 6, 7] [(3, 8), (9, 10)] = bindCall exS [5, 6, 7] [(3, 8), (9, 10)] ∧
    (bindCall exS [5, 6, 7] [(3, 8), (9, 10)]).isSome := by decide
/-- all hypotheses of `bind_callsig_eq` hold on that call -/
example : WF exS ∧ (([(3, 8), (9, 10)] : List (Nat × Nat)).map (·.1)).Nodup ∧ ¬ vdep exS [(3, 8), (9, 10)] := by
  decide
/-- the concrete common result -/
example : bindCallsig exS [5, 6, 7] [(3, 8), (9, 10)]
    = some { named := [(1, 5), (2, 6), (3, 8)], va := some [7], vk := some [(9, 10)] } := by decide
/-- a rejected call: both sides reject (keyword-only 3 is missing) -/
example : bindCallsig exS [5] [(2, 6)] = none ∧ bindCall exS [5] [(2, 6)] = none ∧ ¬ vdep exS [(2, 6)] := by
  decide
/-- the excluded case is a real difference: a keyword naming a (defaulted) positional-only parameter
    next to **kwargs is accepted by CPython ≥ 3.8 (it lands in **kwargs) and rejected by bind_callsig -/
example :
    let s : List Param := [⟨1, .po, some 4, none, .empty⟩, ⟨12, .vk, none, none, .empty⟩]
    WF s ∧ vdep s [(1, 5)] ∧ bindCallsig s [] [(1, 5)] = none ∧
    bindCall s [] [(1, 5)] = some { named := [(1, 4)], va := none, vk := some [(1, 5)] } := by decide
/-- `WF` matters: on an ill-ordered parameter list the two positional loops differ -/
example :
    let s : List Param := [⟨11, .vp, none, none, .empty⟩, ⟨1, .pk, none, none, .empty⟩]
    ¬ WF s ∧ bindCallsig s [5] [] = none ∧ (bindCall s [5] []).isSome = true := by decide

/-- sort_callsigs on a valid and an invalid call -/
example : sortCallsigs exS [([5], [(3, 8)]), ([], [])]
    = ([([5], [(3, 8)], { named := [(1, 5), (3, 8), (2, 4)], va := some [], vk := some [] })], [([], [])]) := by
  decide
/-- make_up_callsigs: the hypotheses of `make_up_complete` are satisfiable with a proper prefix and a
    keyword subset that uses a star name and an extra -/
example : muNames exS [7] = [1, 2, 3, 7] := by decide
example : (2 : Nat) ≤ (muNames exS [7]).length ∧
    ([2, 7, 12] : List Nat).Sublist (muNames exS [7] ++ (exS.filter (fun p => p.kind = .vp)).map (·.name)
                       ++ (exS.filter (fun p => p.kind = .vk)).map (·.name)) := by decide
example : ([1, 2], [2, 7, 12]) ∈ makeUpCallsigs exS [7] :=
  make_up_complete exS [7] 2 [2, 7, 12] (by decide) (by decide)

end SV
