/-
  Props/C08Nary.lean — property C08 (provenance complete, truthful, depth-ordered) for
    (a) `embed` of ANY number of signatures, and
    (b) `forwards(…, partial=True)`.

  (`Props/C08.lean` has `merge` n-ary and `embed` of two signatures; `Props/C08Mask.lean` has `mask` and
  `forwards` without `partial`.)

  (a) `embed uva uvk (s₀ :: ss)` folds `_embed` from the left: the accumulator is the OUTER operand,
      the `j`-th signature is laid in at `depth = j`.  Hypotheses:
        * every input is a valid signature (`WF`) with well-formed provenance (`ProvWF`);
        * the first input's map has no key twice (`ProvWF1`, as `embed_wfsrc` asks of the outer one);
        * the `+depths` of the later inputs have no key twice (`KeysND`, as `embed_wfsrc` asks of the inner
          one — they are Python dicts); this is what the depth formula rests on, and all it rests on.
      NO name-disjointness hypothesis between the inputs is needed: `_embed` itself rejects a clash between
      collected names (`_check_no_dupes`, incl. the star parameters of each intermediate result since the
      repair of D29 — `embed3_homonym_rejected`), and the theorems are about successful runs.  The invariant
      of the fold accumulator is `EmbAcc` (Lemmas/C08EmbedFold.lean): exactly one entry per parameter, none
      empty, no key twice, every listed callable has a depth, and the star parameters are named apart from
      the named ones (`StarsApart`, what the last two `_check_no_dupes` of a step establish for the next).
      The depth of a callable in the result is `embedDepth 0 (s₀ :: ss)`: over the inputs that list it, the least
      of its depth there plus the input's position (`embedDepth_spec` in Lemmas/C08EmbedFold.lean).
  (b) `forwards(…, partial=True)` replaces the default of every named inner parameter by `None`, re-validates,
      then proceeds as without `partial`; names, map and `+depths` of the inner signature are not touched, so
      the statements of `forwards_wfsrc` / `forwards_truthful` / `forwards_depths` hold verbatim for
      `partial = true` — stated here for an arbitrary flag `p`.
  The clause "exactly the input callables declaring it" is not part of these theorems (nor of the two-signature
  ones); what fails of it is shown at the end: `embed_nary_shadowed_named`.
-/
import Sigverif.Props.C08
import Sigverif.Lemmas.C08Mask
namespace SV

-- The statements of each family share one list of hypotheses: provenance does not use `KeysND` of
-- the later inputs' `+depths`; the depths use nothing else (and `hi`, for `forwards`).
section
set_option linter.unusedVariables false

/-! ### (a) embed, any number of signatures -/

/-- **n-ary embed keeps provenance well-formed** (exactly one entry per parameter, none empty, no key
    twice, every listed callable has a depth) and lists for a name only callables that one of the inputs
    lists for that name -/
theorem embed_nary_wfsrc (uva uvk : Bool) (o : USig) (ss : List USig) (R : USig)
    (ho : WF o.params) (po : ProvWF1 o)
    (hss : ∀ s ∈ ss, WF s.params ∧ ProvWF s ∧ KeysND s.depths)
    (h : embed uva uvk (o :: ss) = .ok R) :
    ProvWF1 R ∧ ∀ k f, f ∈ sget R.src k → ∃ s ∈ o :: ss, f ∈ sget s.src k :=
  embed_prov (P := fun k f => ∃ s ∈ o :: ss, f ∈ sget s.src k) ho po (fun _ _ hf => ⟨o, List.mem_cons_self, hf⟩)
    (fun s hs => ⟨(hss s hs).1, (hss s hs).2.1, fun _ _ hf => ⟨s, List.mem_cons_of_mem _ hs, hf⟩⟩) h

theorem embed_nary_truthful (decl : Nat → List Nat) (uva uvk : Bool) (o : USig) (ss : List USig) (R : USig)
    (ho : WF o.params) (po : ProvWF1 o)
    (hss : ∀ s ∈ ss, WF s.params ∧ ProvWF s ∧ KeysND s.depths)
    (ht : ∀ s ∈ o :: ss, Truthful decl s.src)
    (h : embed uva uvk (o :: ss) = .ok R) : Truthful decl R.src :=
  (embed_prov (P := fun k f => k ∈ decl f) ho po (ht o List.mem_cons_self)
    (fun s hs => ⟨(hss s hs).1, (hss s hs).2.1, ht s (List.mem_cons_of_mem _ hs)⟩) h).2

/-- **depths strictly increase along forwarding**: in `embed(s₀, s₁, …, sₙ)` a callable of `sⱼ` sits `j`
    levels below where it sits in `sⱼ` (`embedDepth 0 [s₀, …] f = min_j (depth_j f + j)`, the minimum over
    the inputs that know `f`) — the smallest depth is kept when a callable is reached twice -/
theorem embed_nary_depths (uva uvk : Bool) (o : USig) (ss : List USig) (R : USig)
    (ho : WF o.params) (po : ProvWF1 o)
    (hss : ∀ s ∈ ss, WF s.params ∧ ProvWF s ∧ KeysND s.depths)
    (h : embed uva uvk (o :: ss) = .ok R) (f : Nat) :
    dget R.depths f = embedDepth 0 (o :: ss) f :=
  (embed_depths_of (fun s hs => (hss s hs).2.2) h).1 f

/-- the depth formula unfolded: first input as is, the rest one level deeper each -/
theorem embedDepth_cons (i : Nat) (s : USig) (ss : List USig) (f : Nat) :
    embedDepth i (s :: ss) f = minDepth ((dget s.depths f).map (· + i)) (embedDepth (i + 1) ss f) := rfl

theorem embedDepth_nil (i f : Nat) : embedDepth i [] f = none := rfl

/-- the outermost callable stays at depth 0 -/
theorem embed_nary_outer_depth0 (uva uvk : Bool) (o : USig) (ss : List USig) (R : USig)
    (ho : WF o.params) (po : ProvWF1 o)
    (hss : ∀ s ∈ ss, WF s.params ∧ ProvWF s ∧ KeysND s.depths)
    (h : embed uva uvk (o :: ss) = .ok R) (f : Nat) (h0 : dget o.depths f = some 0) :
    dget R.depths f = some 0 := by
  rw [embed_nary_depths uva uvk o ss R ho po hss h f, embedDepth_cons, h0]
  cases embedDepth (0 + 1) ss f <;> simp [minDepth]

/-- the result's `+depths` has no key twice if the first input's has none -/
theorem embed_nary_depths_nd (uva uvk : Bool) (o : USig) (ss : List USig) (R : USig)
    (ho : WF o.params) (po : ProvWF1 o)
    (hss : ∀ s ∈ ss, WF s.params ∧ ProvWF s ∧ KeysND s.depths)
    (hod : KeysND o.depths)
    (h : embed uva uvk (o :: ss) = .ok R) : KeysND R.depths :=
  (embed_depths_of (fun s hs => (hss s hs).2.2) h).2 hod

/-! ### (b) forwards, with or without `partial=True` -/

/-- `forwards(…, partial=p)`, either `p`: the map is well-formed and credits the outer callable or one of
    the inner's -/
theorem forwards_any_wfsrc (p : Bool) (o i R : USig) (n : Nat) (nms : List Nat) (ha hk uva uvk : Bool)
    (ho : WF o.params) (hi : WF i.params) (po : ProvWF1 o) (pi : ProvWF1 i) (hid : KeysND i.depths)
    (hR : forwards o i n nms ha hk uva uvk p = .ok R) :
    ProvWF1 R ∧ (∀ k f, f ∈ sget R.src k → f ∈ sget o.src k ∨ f ∈ sget i.src k) :=
  forwards_prov (P := fun k f => f ∈ sget o.src k ∨ f ∈ sget i.src k) p ho hi po pi
    (fun _ _ => .inl) (fun _ _ => .inr) hR

/-- `partial = true` -/
theorem forwards_partial_wfsrc (o i R : USig) (n : Nat) (nms : List Nat) (ha hk uva uvk : Bool)
    (ho : WF o.params) (hi : WF i.params) (po : ProvWF1 o) (pi : ProvWF1 i) (hid : KeysND i.depths)
    (hR : forwards o i n nms ha hk uva uvk true = .ok R) :
    ProvWF1 R ∧ (∀ k f, f ∈ sget R.src k → f ∈ sget o.src k ∨ f ∈ sget i.src k) :=
  forwards_any_wfsrc true o i R n nms ha hk uva uvk ho hi po pi hid hR

theorem forwards_partial_truthful (decl : Nat → List Nat) (o i R : USig) (n : Nat) (nms : List Nat)
    (ha hk uva uvk : Bool)
    (ho : WF o.params) (hi : WF i.params) (po : ProvWF1 o) (pi : ProvWF1 i) (hid : KeysND i.depths)
    (to : Truthful decl o.src) (ti : Truthful decl i.src)
    (hR : forwards o i n nms ha hk uva uvk true = .ok R) : Truthful decl R.src :=
  (forwards_prov true ho hi po pi to ti hR).2

/-- depth rule of `forwards(…, partial=True)`: as without `partial` — the outer callables keep their depth,
    the inner ones are one deeper, a callable on both sides keeps the smaller (no `partial` object enters
    `+depths` here: that is `signature(functools.partial(…))`, `partial_absorbed_sources` in Props/C19) -/
theorem forwards_partial_depths (o i R : USig) (n : Nat) (nms : List Nat) (ha hk uva uvk : Bool)
    (ho : WF o.params) (hi : WF i.params) (po : ProvWF1 o) (pi : ProvWF1 i) (hid : KeysND i.depths)
    (hR : forwards o i n nms ha hk uva uvk true = .ok R) (f : Nat) :
    dget R.depths f = minDepth (dget o.depths f) ((dget i.depths f).map (· + 1)) :=
  forwards_depths_of true hi hid hR f

end

/-! ### concrete signatures on which the hypotheses hold -/

private def nA : Param := { name := 1, kind := .pk }
private def nB : Param := { name := 2, kind := .pk }
private def nC : Param := { name := 3, kind := .pk, dflt := some 7 }
private def nVA : Param := { name := 11, kind := .vp }
private def nVK : Param := { name := 12, kind := .vk }
/-- `def f(a, *args, **kwargs)`, `def g(b, *args, **kwargs)`, `def h(c=7, *args, **kwargs)` with their
    default provenance; `h` also knows about `g` (as if it forwarded to it), one level down -/
private def s0 : USig :=
  { params := [nA, nVA, nVK], src := (defaultSources [nA, nVA, nVK] 100).1, depths := [(100, 0)] }
private def s1 : USig :=
  { params := [nB, nVA, nVK], src := (defaultSources [nB, nVA, nVK] 101).1, depths := [(101, 0)] }
private def s2 : USig :=
  { params := [nC, nVA, nVK], src := (defaultSources [nC, nVA, nVK] 102).1, depths := [(102, 0), (101, 1)] }
/-- `embed(f, g, h)`: `(a, b, c=7, *args, **kwargs)`; the stars are `h`'s; `g` is reached at depth 1 through
    `f` and at depth 1 + 2 through `h`: 1 is kept -/
private def r3 : USig :=
  { params := [nA, nB, nC, nVA, nVK],
    src := [(3, [102]), (11, [102]), (12, [102]), (2, [101]), (1, [100])],
    depths := [(100, 0), (101, 1), (102, 2)] }

private theorem s0_wf : WF s0.params := by decide +kernel
private theorem s1_wf : WF s1.params := by decide +kernel
private theorem s2_wf : WF s2.params := by decide +kernel
private theorem s0_prov : ProvWF1 s0 := (default_provWF [nA, nVA, nVK] 100).1
private theorem s1_prov : ProvWF s1 := (default_provWF [nB, nVA, nVK] 101).1.toProvWF
private theorem s2_prov : ProvWF s2 := by
  have h := (default_provWF [nC, nVA, nVK] 102).1.toProvWF
  refine ⟨h.keys, h.ne, ?_⟩
  intro k f hf
  have := h.dep k f hf
  simp only [dhas, defaultSources, dget] at this
  split at this
  · rename_i e; subst e; decide
  · cases this
private theorem s12_hyp : ∀ s ∈ [s1, s2], WF s.params ∧ ProvWF s ∧ KeysND s.depths := by
  intro s hs
  simp only [List.mem_cons, List.not_mem_nil, or_false] at hs
  rcases hs with rfl | rfl
  · exact ⟨s1_wf, s1_prov, by unfold KeysND; decide⟩
  · exact ⟨s2_wf, s2_prov, by unfold KeysND; decide⟩

/-- the run: three signatures, three callables -/
private theorem embed3_run : embed true true [s0, s1, s2] = .ok r3 := by
  simp only [embed, embedFold, embedStep_evalEq]; exact eq_ok_of (by decide +kernel)

/-- all hypotheses of the n-ary theorems are met by the run, and the conclusions say something -/
example : ProvWF1 r3 := (embed_nary_wfsrc true true s0 [s1, s2] r3 s0_wf s0_prov s12_hyp embed3_run).1
example : sget r3.src 2 = [101] ∧ sget r3.src 11 = [102] := by decide +kernel
example : dget r3.depths 101 = embedDepth 0 [s0, s1, s2] 101 :=
  embed_nary_depths true true s0 [s1, s2] r3 s0_wf s0_prov s12_hyp embed3_run 101
example : embedDepth 0 [s0, s1, s2] 101 = some 1 ∧ embedDepth 0 [s0, s1, s2] 102 = some 2 ∧
    embedDepth 0 [s0, s1, s2] 100 = some 0 ∧ embedDepth 0 [s0, s1, s2] 5 = none := by decide +kernel
example : dget r3.depths 100 = some 0 :=
  embed_nary_outer_depth0 true true s0 [s1, s2] r3 s0_wf s0_prov s12_hyp embed3_run 100 (by decide)
example : KeysND r3.depths :=
  embed_nary_depths_nd true true s0 [s1, s2] r3 s0_wf s0_prov s12_hyp (by unfold KeysND; decide) embed3_run

/-- `forwards(outer, inner, 1, partial=True)` with `inner = (b, c=1, *args, **kwargs)`: `b` is consumed, `c`
    gets the default `None` (token 0) -/
private def fO : USig :=
  { params := [nA, nVA, nVK], src := (defaultSources [nA, nVA, nVK] 100).1, depths := [(100, 0)] }
private def fI : USig :=
  { params := [nB, nC, nVA, nVK], src := (defaultSources [nB, nC, nVA, nVK] 101).1, depths := [(101, 0)] }
private def fR : USig :=
  { params := [nA, { nC with dflt := some 0 }, nVA, nVK],
    src := [(3, [101]), (11, [101]), (12, [101]), (1, [100])],
    depths := [(100, 0), (101, 1)] }
private theorem fwd_run : forwards fO fI 1 [] false false true true true = .ok fR := by
  simp only [forwards, embed, embedFold, embedStep_evalEq]; exact eq_ok_of (by decide +kernel)
private theorem fO_wf : WF fO.params := by decide +kernel
private theorem fI_wf : WF fI.params := by decide +kernel
private theorem fO_prov : ProvWF1 fO := (default_provWF [nA, nVA, nVK] 100).1
private theorem fI_prov : ProvWF1 fI := (default_provWF [nB, nC, nVA, nVK] 101).1

example : ProvWF1 fR :=
  (forwards_partial_wfsrc fO fI fR 1 [] false false true true fO_wf fI_wf fO_prov fI_prov (by unfold KeysND; decide) fwd_run).1
example : dget fR.depths 101 = minDepth (dget fO.depths 101) ((dget fI.depths 101).map (· + 1)) :=
  forwards_partial_depths fO fI fR 1 [] false false true true fO_wf fI_wf fO_prov fI_prov (by unfold KeysND; decide) fwd_run 101
example : dget fR.depths 101 = some 1 ∧ sget fR.src 3 = [101] ∧ sget fR.src 1 = [100] := by decide +kernel
/-- without `partial` the same call keeps `c`'s own default -/
example : okAnd (forwards fO fI 1 [] false false true true false)
    (fun R => R.params = [nA, nC, nVA, nVK] ∧ R.src = fR.src ∧ R.depths = fR.depths) = true := by
  simp only [forwards, embed, embedFold, embedStep_evalEq]; decide +kernel

/-! ### a remark on "exactly the input callables declaring it"

  The theorems above (like the two-signature ones) give one inclusion: what the result lists for a name is
  listed for it by an input.  The converse needs "consistently named inputs" in earnest once there are three
  signatures: a named parameter that an earlier step DROPPED (an optional one the outer side cannot reach)
  does not block its name, so a later input may bring a parameter of the same name, and the result then
  credits the later callable only.  This is what the code does and what a call does (the dropped parameter
  cannot be passed); it is recorded here so that nobody states the converse without a hypothesis that rules
  it out (e.g. `roleCons`: here the name 5 is positional-only in `g` and keyword-only in `h`). -/

private def tF : USig :=   -- def f(a, **kw)
  { params := [nA, nVK], src := [(1, [100]), (12, [100])], depths := [(100, 0)] }
private def tG : USig :=   -- def g(k=1, /, **kw)
  { params := [{ name := 5, kind := .po, dflt := some 1 }, nVK], src := [(5, [101]), (12, [101])],
    depths := [(101, 0)] }
private def tH : USig :=   -- def h(*, k, **kw)
  { params := [{ name := 5, kind := .ko }, nVK], src := [(5, [102]), (12, [102])], depths := [(102, 0)] }

/-- `embed(f, g, h)` = `(a, *, k, **kw)`: `k` is `h`'s; `g`, which declares a `k` too, is not credited -/
theorem embed_nary_shadowed_named :
    ∃ R, embed true true [tF, tG, tH] = .ok R ∧ names R.params = [1, 5, 12] ∧ sget R.src 5 = [102] ∧
      sget tG.src 5 = [101] := by
  simp only [embed, embedFold, embedStep_evalEq]; exact exists_ok_and (by decide +kernel)

end SV
