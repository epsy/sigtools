/-
  Props/C10Embed.lean — property C10 for `embed` (and hence `forwards` = `embed [outer, mask inner]`):
  where the parameters of the two signatures end up, which kinds change, and when defaults go.

  `I` = the inner signature as it is after forwarding the outer stars into it
  (`mergeStep inner {stars}` — what is left of the inner signature to show).
  (keyword-only parameters: outer ones first as well — `pupdate (pupdate [] O.kwo) I.kwo` in
   `embedRes`; not restated as a theorem of its own.)
-/
import Sigverif.Props.C08
import Sigverif.Lemmas.ResultWF
import Sigverif.Lemmas.Core.Accepts
import Sigverif.Lemmas.C04
namespace SV

/-- the positional parameters of a two-signature `embed`: the outer ones — positional-only as soon
    as the inner signature contributes a positional-only parameter, without defaults when the first
    inner positional is required — then the inner ones -/
theorem embed_positionals (o i R : USig) (uva uvk : Bool) (h : embed uva uvk [o, i] = .ok R) :
    ∃ I, mergeStep (sortParams i) { va := if uva then (sortParams o).va else none,
                                    vk := if uvk then (sortParams o).vk else none } = .ok I ∧
      positionals R.params =
        cdIf (innerFirstRequired I)
          (if I.pos.isEmpty then (sortParams o).pos ++ (sortParams o).pok
           else (sortParams o).pos ++ (sortParams o).pok.map (·.withKind .po)) ++ (I.pos ++ I.pok) := by
  obtain ⟨I, c, hI, -, -, rfl⟩ := embed_two_inv h
  refine ⟨I, hI, ?_⟩
  have bk := embedRes_kinds (sortParams_bk o)
    (mergeStep_bk _ _ _ (sortParams_bk i) ((sortParams_bk o).stars uva uvk) hI) uva uvk 1
  rw [positionals_all bk]
  exact ePosC_append_ePokC _ I

theorem names_clearDefaults_C10 (l : List Param) : names (clearDefaults l) = names l :=
  names_clearDefaults l

theorem names_cdIf_C10 (b : Bool) (l : List Param) : names (cdIf b l) = names l :=
  names_cdIf b l

theorem names_mapKind_C10 (k : Kind) (l : List Param) : names (l.map (·.withKind k)) = names l :=
  names_map_withKind l k

/-- **outer first**: the names of the positional parameters of the result are those of the outer
    signature, in order, followed by those the inner one still shows -/
theorem embed_outer_first (o i R : USig) (uva uvk : Bool) (ho : WF o.params) (h : embed uva uvk [o, i] = .ok R) :
    ∃ I, mergeStep (sortParams i) { va := if uva then (sortParams o).va else none,
                                    vk := if uvk then (sortParams o).vk else none } = .ok I ∧
      names (positionals R.params) = names (positionals o.params) ++ names (I.pos ++ I.pok) := by
  obtain ⟨I, hI, hl⟩ := embed_positionals o i R uva uvk h
  refine ⟨I, hI, ?_⟩
  rw [hl, positionals_sort _ ho.validate, names_append, names_cdIf]
  split
  · rfl
  · simp only [names_append, names_map_withKind]

/-- **defaults**: the outer positionals keep their defaults verbatim unless the first positional the
    inner signature contributes is required — then all of them lose theirs -/
theorem embed_defaults_dropped_iff (o i R : USig) (uva uvk : Bool) (h : embed uva uvk [o, i] = .ok R) :
    ∃ I, mergeStep (sortParams i) { va := if uva then (sortParams o).va else none,
                                    vk := if uvk then (sortParams o).vk else none } = .ok I ∧
      ((innerFirstRequired I = false ∧
          positionals R.params = (if I.pos.isEmpty then (sortParams o).pos ++ (sortParams o).pok
                                  else (sortParams o).pos ++ (sortParams o).pok.map (·.withKind .po)) ++ (I.pos ++ I.pok)) ∨
       (innerFirstRequired I = true ∧
          positionals R.params = clearDefaults (if I.pos.isEmpty then (sortParams o).pos ++ (sortParams o).pok
                                  else (sortParams o).pos ++ (sortParams o).pok.map (·.withKind .po)) ++ (I.pos ++ I.pok))) := by
  obtain ⟨I, hI, hl⟩ := embed_positionals o i R uva uvk h
  refine ⟨I, hI, ?_⟩
  cases hb : innerFirstRequired I
  · rw [hb] at hl
    exact .inl ⟨rfl, hl⟩
  · rw [hb] at hl
    exact .inr ⟨rfl, hl⟩

theorem kinds_cdIf (c : Bool) (l : List Param) : (cdIf c l).map (·.kind) = l.map (·.kind) := by
  cases c
  · rfl
  · exact List.map_map

/-- **kinds**: the only kind change `embed` makes to an outer parameter is positional-or-keyword to
    positional-only, and it makes it exactly when the inner signature contributes a positional-only
    parameter (which must come after every outer positional) -/
theorem embed_outer_kinds (o i R : USig) (uva uvk : Bool) (h : embed uva uvk [o, i] = .ok R) :
    ∃ I, mergeStep (sortParams i) { va := if uva then (sortParams o).va else none,
                                    vk := if uvk then (sortParams o).vk else none } = .ok I ∧
      (positionals R.params).map (·.kind) =
        ((sortParams o).pos.map (·.kind)) ++
        ((sortParams o).pok.map (fun p => if I.pos.isEmpty then p.kind else .po)) ++ (I.pos ++ I.pok).map (·.kind) := by
  obtain ⟨I, hI, hl⟩ := embed_positionals o i R uva uvk h
  refine ⟨I, hI, ?_⟩
  rw [hl, List.map_append, kinds_cdIf]
  by_cases he : I.pos.isEmpty = true
  · simp only [he, if_true, List.map_append]
  · simp only [he, Bool.false_eq_true, if_false, List.map_append, List.map_map, Function.comp_def,
      Param.withKind]

/-- `forwards`: the wrapper's own positionals come first, then what the masked callee still shows -/
theorem forwards_outer_first (o i R : USig) (n : Nat) (nms : List Nat) (ha hk uva uvk : Bool) (ho : WF o.params)
    (h : forwards o i n nms ha hk uva uvk false = .ok R) :
    ∃ M I, mask i n nms { args := ha, kwargs := hk } = .ok M ∧
      mergeStep (sortParams M) { va := if uva then (sortParams o).va else none,
                                 vk := if uvk then (sortParams o).vk else none } = .ok I ∧
      names (positionals R.params) = names (positionals o.params) ++ names (I.pos ++ I.pok) := by
  obtain ⟨M, hM, hE⟩ := forwards_false_ok h
  obtain ⟨I, hI, hn⟩ := embed_outer_first o M R uva uvk ho hE
  exact ⟨M, I, hM, hI, hn⟩

end SV
