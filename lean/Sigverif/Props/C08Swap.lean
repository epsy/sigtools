/-
  Props/C08Swap.lean — property C08, last clause: "Wrapper objects created by modifiers replace the
  function they wrap consistently in both maps".

  `_PokTranslator._prepare` ends with
      sig.replace(parameters=params, sources=copy_sources(sig.sources, {self.func: self}))
  (`Model/Sort.lean`: `swapSrcs`, `swapDepths`; `Model/Modifiers.lean`: `prepareSig`).
-/
import Sigverif.Model.Modifiers
import Sigverif.Lemmas.SrcDict
namespace SV

/-- the lists: same keys, same order of entries, each list = the old one with the function replaced -/
theorem swap_lists (f self : Nat) (src : Srcs) :
    dkeys (swapSrcs f self src) = dkeys src ∧
    ∀ k, sget (swapSrcs f self src) k = (sget src k).map (swapFn f self) := by
  constructor
  · simp [swapSrcs, dkeys, List.map_map, Function.comp_def]
  · intro k
    unfold sget swapSrcs
    rw [dget_mapVals]
    cases dget src k <;> rfl

/-- apart from the wrapper object itself, which is new, the replacement renames nothing twice -/
private theorem swapFn_inj {f self x y : Nat} (hx : x ≠ self) (hy : y ≠ self)
    (e : swapFn f self x = swapFn f self y) : x = y := by
  unfold swapFn at e
  by_cases h1 : x = f
  · by_cases h2 : y = f
    · rw [h1, h2]
    · rw [if_pos h1, if_neg h2] at e
      exact absurd e.symm hy
  · by_cases h2 : y = f
    · rw [if_neg h1, if_pos h2] at e
      exact absurd e hx
    · rwa [if_neg h1, if_neg h2] at e

private theorem ne_of_mem_dkeys {d : Depths} {self x : Nat} (hfresh : dhas d self = false)
    (hx : x ∈ dkeys d) : x ≠ self := by
  rintro rfl
  rw [(mem_dkeys_iff d x).1 hx] at hfresh
  cases hfresh

/-- `swapDepths` fills an empty dictionary with the renamed entries; no key comes twice, so a lookup
    there is a lookup in the list of renamed entries -/
private theorem dget_swapDepths (f self : Nat) (d : Depths) (hnd : KeysND d) (hfresh : dhas d self = false)
    (c : Nat) :
    dget (swapDepths f self d) c = dget (d.map (fun e => (swapFn f self e.1, e.2))) c := by
  have : swapDepths f self d = dupdate [] (d.map (fun e => (swapFn f self e.1, e.2))) := by
    unfold swapDepths dupdate
    rw [List.foldl_map]
  rw [this, dget_dupdate_nil]
  exact hnd.mapKeys _ fun x hx y hy => swapFn_inj (ne_of_mem_dkeys hfresh hx) (ne_of_mem_dkeys hfresh hy)

/-- `+depths`: the wrapper object takes the function's depth, every other callable keeps its own -/
theorem swap_depths (f self : Nat) (d : Depths) (hnd : KeysND d) (hfresh : dhas d self = false) (hne : self ≠ f) :
    dget (swapDepths f self d) self = dget d f ∧
    ∀ c, c ≠ f → c ≠ self → dget (swapDepths f self d) c = dget d c := by
  have key : ∀ c, c ≠ self → dget (swapDepths f self d) (swapFn f self c) = dget d c := by
    intro c hc
    rw [dget_swapDepths f self d hnd hfresh, dget_mapKeys]
    exact fun x hx => swapFn_inj (ne_of_mem_dkeys hfresh hx) hc
  constructor
  · have := key f (Ne.symm hne)
    rwa [swapFn, if_pos rfl] at this
  · intro c hcf hcs
    have := key c hcs
    rwa [swapFn, if_neg hcf] at this

/-- the function the wrapper object stands for is gone from both maps -/
theorem swap_function_gone (f self : Nat) (src : Srcs) (d : Depths) (hnd : KeysND d)
    (hfresh : dhas d self = false) (hne : self ≠ f) :
    (∀ k, f ∉ sget (swapSrcs f self src) k) ∧ dhas (swapDepths f self d) f = false := by
  have himg : ∀ g, swapFn f self g ≠ f := by
    intro g hg
    unfold swapFn at hg
    split at hg
    · exact hne hg
    · contradiction
  constructor
  · intro k hm
    rw [(swap_lists f self src).2 k, List.mem_map] at hm
    obtain ⟨g, -, hg⟩ := hm
    exact himg g hg
  · unfold dhas
    rw [dget_swapDepths f self d hnd hfresh, (dget_eq_none_iff _ _).2]
    · rfl
    · rw [dkeys_mapKeys, List.mem_map]
      rintro ⟨g, -, hg⟩
      exact himg g hg

set_option linter.unusedVariables false in
/-- consistency of the two maps: a callable listed for a parameter still has a depth -/
theorem swap_listed_have_depth (f self : Nat) (src : Srcs) (d : Depths) (hnd : KeysND d)
    (hfresh : dhas d self = false) (hne : self ≠ f)
    (hdep : ∀ k c, c ∈ sget src k → dhas d c = true) :
    ∀ k c, c ∈ sget (swapSrcs f self src) k → dhas (swapDepths f self d) c = true := by
  intro k c hc
  rw [(swap_lists f self src).2 k, List.mem_map] at hc
  obtain ⟨g, hg, rfl⟩ := hc
  have hgd := hdep k g hg
  have hs : g ≠ self := ne_of_mem_dkeys hfresh ((mem_dkeys_iff d g).2 hgd)
  unfold dhas at hgd ⊢
  rw [dget_swapDepths f self d hnd hfresh, dget_mapKeys]
  · exact hgd
  · exact fun x hx => swapFn_inj (ne_of_mem_dkeys hfresh hx) hs

/-- what `_prepare` hands out carries exactly these maps -/
theorem prepareSig_maps (sig R : USig) (f self : Nat) (P W : List Nat)
    (h : prepareSig sig f self P W = .ok R) :
    R.src = swapSrcs f self sig.src ∧ R.depths = swapDepths f self sig.depths := by
  unfold prepareSig at h
  simp only [bind, Except.bind] at h
  split at h
  · cases h
  · simp only [pure, Except.pure, Except.ok.injEq] at h
    subst h
    exact ⟨rfl, rfl⟩

/-! non-vacuity: `@kwoargs('b') def f(a, b=1)` — function 1, wrapper object 7 -/
private def exF : USig :=
  { params := [⟨1, .pk, none, none, .empty⟩, ⟨2, .pk, some 1, none, .empty⟩],
    src := [(1, [1]), (2, [1])], depths := [(1, 0)] }
example : ∃ R, prepareSig exF 1 7 [] [2] = .ok R ∧ R.src = [(1, [7]), (2, [7])] ∧ R.depths = [(7, 0)] ∧
    R.params.map (·.kind) = [.pk, .ko] := ⟨_, rfl, rfl, rfl, rfl⟩
example : KeysND exF.depths ∧ dhas exF.depths 7 = false ∧ (7 : Nat) ≠ 1 := by
  refine ⟨by unfold KeysND; decide, rfl, by decide⟩
-- a forwarding wrapper: inner callable 2 at depth 1 keeps its depth, the wrapper object takes depth 0
example : swapDepths 1 7 [(1, 0), (2, 1)] = [(7, 0), (2, 1)] ∧
    swapSrcs 1 7 [(1, [1]), (5, [1, 2]), (6, [2])] = [(1, [7]), (5, [7, 2]), (6, [2])] := ⟨rfl, rfl⟩

end SV
