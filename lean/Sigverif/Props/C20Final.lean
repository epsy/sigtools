/-
  Props/C20Final.lean — C20, first sentence, from the TEXT: "for every valid signature, s(text) reproduces it from its string
  form — with the native spelling always, and with the modifiers-based spellings for signatures without positional-only
  parameters up to the order of keyword-only parameters".

  `textOf dec ws (pieces s)` is the string form `str(sig)[1:-1]` (tokens written by `dec`, `ws` in front of every part, the first included);
  `sParamsText` is the whole pipeline from that text: `split(',')`, `re_paramname`, the classification of the argument
  tokens, the loop of `read_sig`, CPython reading the generated `def` (model `parseDef`), the decorators of `modifiers`.
-/
import Sigverif.Props.C20Text
import Sigverif.Props.C20Chars
import Sigverif.Lemmas.C20TextOf
namespace SV

/-- **native spelling, every well-formed signature** -/
theorem s_text_native (enc : List Char → Nat) (dec : Nat → List Char) (g : GoodNames enc dec) (ws : List Char)
    (hws : ∀ c ∈ ws, isWs c = true) (s : List Param) (hs : s ≠ []) (hwf : WF s) (hstar : starsBare s) :
    sParamsText enc false false false (textOf dec ws (pieces s)) = some (.ok (s.map Param.bare)) := by
  rw [sParamsText_pieces enc dec g ws hws false false false s hs, s_native s hwf hstar]

/-- **the four spellings without `use_modifiers_kwoargs`, every well-formed signature without positional-only parameters** -/
theorem s_text_no_kwoargs (enc : List Char → Nat) (dec : Nat → List Char) (g : GoodNames enc dec) (ws : List Char)
    (hws : ∀ c ∈ ws, isWs c = true) (ua upo : Bool) (s : List Param) (hs : s ≠ []) (hwf : WF s) (hstar : starsBare s)
    (hnpo : ∀ p ∈ s, p.kind ≠ .po) :
    ∃ r, sParamsText enc ua upo false (textOf dec ws (pieces s)) = some (.ok r) ∧ r.map Param.bare = s.map Param.bare := by
  obtain ⟨r, h1, h2⟩ := s_no_kwoargs ua upo s hwf hstar hnpo
  exact ⟨r, by rw [sParamsText_pieces enc dec g ws hws ua upo false s hs, h1], h2⟩

/-- **the four spellings with `use_modifiers_kwoargs`**, for `pk ++ *va ++ ko ++ **vk`: the parameters of the signature, the
    keyword-only ones required-then-defaulted (a permutation of the signature: `s_kwoargs_up_to_kwo_order`) -/
theorem s_text_kwoargs (enc : List Char → Nat) (dec : Nat → List Char) (g : GoodNames enc dec) (ws : List Char)
    (hws : ∀ c ∈ ws, isWs c = true) (ua upo : Bool) (pk ko : List Param) (va vk : Option Param)
    (hne : pk ++ va.toList ++ ko ++ vk.toList ≠ [])
    (hpk : ∀ p ∈ pk, p.kind = .pk) (hko : ∀ p ∈ ko, p.kind = .ko)
    (hva : ∀ p ∈ va, p.kind = .vp) (hvk : ∀ p ∈ vk, p.kind = .vk)
    (hsorted : pk = reqs pk ++ dfls pk) (hvad : ∀ v ∈ va, v.dflt = none) (hvkd : ∀ v ∈ vk, v.dflt = none)
    (hn : ((pk ++ ko ++ va.toList ++ vk.toList).map (·.name)).Pairwise (· ≠ ·)) :
    ∃ r, sParamsText enc ua upo true (textOf dec ws (pieces (pk ++ va.toList ++ ko ++ vk.toList))) = some (.ok r) ∧
      r.map Param.bare = (pk ++ va.toList ++ (reqs ko ++ dfls ko) ++ vk.toList).map Param.bare := by
  rw [sParamsText_pieces enc dec g ws hws ua upo true _ hne]
  cases ua with
  | false =>
    exact ⟨_, congrArg some (s_kwoargs upo pk ko va vk hpk hko hva hvk hsorted hvad hvkd hn), by rw [List.map_map]; rfl⟩
  | true =>
    obtain ⟨r, h1, h2⟩ := s_annotate_kwoargs upo pk ko va vk hpk hko hva hvk hsorted hvad hvkd hn
    exact ⟨r, congrArg some h1, h2⟩

/-! non-vacuity: a way of writing tokens that meets `GoodNames` — token `n` is written as `n + 1` letters `a` — and one text -/
def decA (n : Nat) : List Char := List.replicate (n + 1) 'a'
def encA (t : List Char) : Nat := t.length - 1
theorem goodA : GoodNames encA decA where
  tok n := ⟨by simp [decA], by
    intro c hc
    simp only [decA, List.mem_replicate] at hc
    rw [hc.2]; decide⟩
  nostar n := by simp [decA, List.replicate_succ]
  nochev n := by simp [decA, List.replicate_succ]
  noslash n := by simp [decA, List.replicate_succ]
  back n := by simp [encA, decA]
example : textOf decA [' '] (pieces [⟨0, .pk, none, none, .empty⟩, ⟨1, .vp, none, none, .empty⟩, ⟨2, .ko, some 0, some 1, .empty⟩])
    = " a, *aa, aaa:aa=a".toList := by decide
example : sParamsText encA false false true " a, *aa, aaa:aa=a".toList
    = some (.ok [⟨0, .pk, none, none, .empty⟩, ⟨1, .vp, none, none, .empty⟩, ⟨2, .ko, some 0, some 1, .empty⟩]) := by rfl

end SV
