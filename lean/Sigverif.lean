import Sigverif.Model.Basic
import Sigverif.Model.Bind
import Sigverif.Model.Sort
import Sigverif.Model.Merge
import Sigverif.Model.Embed
import Sigverif.Model.Mask
import Sigverif.Model.Protocol
import Sigverif.Props.Defs
import Sigverif.Props.C10
import Sigverif.Props.C08
import Sigverif.Props.C11
import Sigverif.Props.C06
import Sigverif.Props.C05
import Sigverif.Props.C07
import Sigverif.Props.C18
import Sigverif.Model.Call
import Sigverif.Model.Modifiers
import Sigverif.Model.Support
import Sigverif.Model.Eq
import Sigverif.Model.Cleanup
import Sigverif.Model.Cache
import Sigverif.Props.C20
import Sigverif.Props.Bind
import Sigverif.Props.SM
import Sigverif.Props.C03
import Sigverif.Props.Laws
import Sigverif.Model.Visitor
import Sigverif.Props.C02Defs
import Sigverif.Props.C02
import Sigverif.Props.C12
import Sigverif.Props.C01
import Sigverif.Model.Grammar
import Sigverif.Model.GrammarDef
import Sigverif.Model.Examine
import Sigverif.Model.Discovery
import Sigverif.Props.C19
import Sigverif.Props.C04
import Sigverif.Props.C05Total
import Sigverif.Model.Wrappers
import Sigverif.Props.C13
import Sigverif.Props.C07kw
import Sigverif.Props.C05Sound
import Sigverif.Props.C19Auto
import Sigverif.Props.C08Mask
import Sigverif.Props.C08Swap
import Sigverif.Props.C08Bound
import Sigverif.Props.C05Full
import Sigverif.Props.C05Def
import Sigverif.Props.C07Examine
import Sigverif.Props.C06Hint
import Sigverif.Props.C10Embed
import Sigverif.Props.C13Attr
import Sigverif.Props.C09Exact
import Sigverif.Props.C08Nary
import Sigverif.Props.C10Merge
import Sigverif.Props.C11Twin
import Sigverif.Props.C09Raise
import Sigverif.Props.C05Multi
import Sigverif.Props.C07Chain
import Sigverif.Props.C18Get
import Sigverif.Model.ReadSig
import Sigverif.Lemmas.C20Text
import Sigverif.Props.C20Text
import Sigverif.Lemmas.C20Mod
import Sigverif.Lemmas.C20Pipe
import Sigverif.Lemmas.C20Ann
import Sigverif.Lemmas.C20Plain
import Sigverif.Model.ReadSigText
import Sigverif.Lemmas.C20Chars
import Sigverif.Props.C20Chars
import Sigverif.Lemmas.C20Bridge
import Sigverif.Lemmas.C20TextOf
import Sigverif.Props.C20Final
